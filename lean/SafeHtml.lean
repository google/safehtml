-- Root of the `SafeHtml` library: imports everything that must build.
import SafeHtml.Props.C01
import SafeHtml.Props.C02
import SafeHtml.Props.C03
import SafeHtml.Props.C04
import SafeHtml.Props.C05
import SafeHtml.Props.C06
import SafeHtml.Props.C07
import SafeHtml.Props.C08
import SafeHtml.Props.C09
import SafeHtml.Props.C10
import SafeHtml.Props.C11
import SafeHtml.Props.C12
import SafeHtml.Props.C13
import SafeHtml.Props.C14
import SafeHtml.Props.C15
import SafeHtml.Props.C16
import SafeHtml.Props.C17
import SafeHtml.Props.C18
import SafeHtml.Props.C19
import SafeHtml.Props.C20
import SafeHtml.Proofs.HtmlTokSim
import SafeHtml.Proofs.CharRefEsc
import SafeHtml.Proofs.Analysis
import SafeHtml.Proofs.Frozen
import SafeHtml.Proofs.Layer3
import SafeHtml.Proofs.ConcApi
import SafeHtml.Proofs.Layer3E2E
import SafeHtml.Proofs.ConcReach
import SafeHtml.Proofs.Layer3Calls
import SafeHtml.Proofs.Layer3Repeat
import SafeHtml.Proofs.Layer3Repeat2
import SafeHtml.Proofs.Layer3Repeat3
import SafeHtml.Proofs.Layer3Repeat4
import SafeHtml.Proofs.NoPanic
import SafeHtml.Proofs.C14Sound
import SafeHtml.Proofs.NoPanic2
import SafeHtml.Proofs.Layer3Helpers
import SafeHtml.Proofs.NoPanic3
import SafeHtml.Proofs.C14Sound2
import SafeHtml.Proofs.Layer3Derived
import SafeHtml.Proofs.CspMono
import SafeHtml.Proofs.NoPanic4
import SafeHtml.Proofs.C14Ws
import SafeHtml.Proofs.Layer3Typed
import SafeHtml.Proofs.Independence
import SafeHtml.Proofs.IndependenceCalls
import SafeHtml.Driver
