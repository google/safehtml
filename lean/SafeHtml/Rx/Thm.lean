/-
Generic facts about the matcher: one equation of `m` per constructor; a greedy star over a character class is
"longest run first, then shorter ones" (`star_cls_greedy`); anchored search only tries offset 0 (`find_bot`);
the anchored shape `^C₁C₂+$` on runes; classes all of whose ranges are ASCII.
-/
import SafeHtml.Rx.Match
namespace SafeHtml
namespace Rx

def adv (st : MSt) (n : Nat) : MSt := { st with pos := st.pos + n }

@[simp] theorem adv_zero (st : MSt) : adv st 0 = st := by simp [adv]
@[simp] theorem adv_adv (st : MSt) (a b : Nat) : adv (adv st a) b = adv st (a + b) := by
  simp [adv, Nat.add_assoc]
@[simp] theorem adv_pos (st : MSt) (a : Nat) : (adv st a).pos = st.pos + a := rfl
@[simp] theorem adv_caps (st : MSt) (a : Nat) : (adv st a).caps = st.caps := rfl

def spanCls (rs : List (Nat × Nat)) : List Sym → Nat
  | [] => 0
  | c :: t => if inCls rs c.rune then spanCls rs t + 1 else 0

theorem spanCls_le (rs : List (Nat × Nat)) (s : List Sym) : spanCls rs s ≤ s.length := by
  induction s with
  | nil => simp [spanCls]
  | cons c t ih => simp only [spanCls]; split <;> simp <;> omega

def tryDown (k : MSt → List Sym → Option α) (st : MSt) (s : List Sym) : Nat → Option α
  | 0 => k st s
  | n+1 =>
    match k (adv st (n+1)) (s.drop (n+1)) with
    | some r => some r
    | none => tryDown k st s n

theorem tryDown_cons (k : MSt → List Sym → Option α) (st : MSt) (c : Sym) (t : List Sym) (n : Nat) :
    tryDown k st (c :: t) (n+1) =
      match tryDown k (adv st 1) t n with
      | some r => some r
      | none => k st (c :: t) := by
  induction n with
  | zero =>
    simp only [tryDown, List.drop_succ_cons, List.drop_zero, Nat.zero_add]
  | succ n ih =>
    rw [tryDown, ih]
    simp only [tryDown, List.drop_succ_cons, adv_adv]
    have : 1 + (n + 1) = n + 1 + 1 := by omega
    rw [this]
    cases k (adv st (n + 1 + 1)) (List.drop (n + 1) t) <;> rfl

theorem m_cat (a b : Re) (f) (st : MSt) (s : List Sym) (k : MSt → List Sym → Option α) :
    m (.cat a b) f st s k = m a f st s (fun st' s' => m b f st' s' k) := by simp [m]
theorem m_alt (a b : Re) (f) (st : MSt) (s : List Sym) (k : MSt → List Sym → Option α) :
    m (.alt a b) f st s k = (match m a f st s k with | some r => some r | none => m b f st s k) := by
  simp only [m]; rfl
theorem m_alt_isSome (a b : Re) (f) (st : MSt) (s : List Sym) (k : MSt → List Sym → Option α) :
    (m (.alt a b) f st s k).isSome = ((m a f st s k).isSome || (m b f st s k).isSome) := by
  rw [m_alt]; cases m a f st s k <;> simp
theorem m_eps (f) (st : MSt) (s : List Sym) (k : MSt → List Sym → Option α) :
    m .eps f st s k = k st s := by simp [m]
theorem m_bot (f) (st : MSt) (s : List Sym) (k : MSt → List Sym → Option α) :
    m .bot f st s k = if st.pos == 0 then k st s else none := by simp [m]
theorem m_eot (f) (st : MSt) (s : List Sym) (k : MSt → List Sym → Option α) :
    m .eot f st s k = if s.isEmpty then k st s else none := by simp [m]
theorem m_cap (i) (a : Re) (f) (st : MSt) (s : List Sym) (k : MSt → List Sym → Option α) :
    m (.cap i a) f st s k =
      m a f st s (fun st' s' => k { st' with caps := (i, st.pos, st'.pos) :: st'.caps } s') := by simp [m]

theorem m_cls_cons (rs) (f) (st : MSt) (c : Sym) (t : List Sym) (k : MSt → List Sym → Option α) :
    m (.cls rs) f st (c :: t) k = if inCls rs c.rune then k (adv st 1) t else none := by
  simp [m, adv]

theorem m_cls_nil (rs) (f) (st : MSt) (k : MSt → List Sym → Option α) :
    m (.cls rs) f st [] k = none := by
  simp [m]

theorem m_star (a : Re) (g : Bool) (f) (st : MSt) (s : List Sym) (k : MSt → List Sym → Option α) :
    m (.star a g) f st s k = starLoop (fun st s k => m a f st s k) g f st s k := by simp [m]

theorem starLoop_cls_greedy (rs : List (Nat × Nat)) (f0 : Nat) (k : MSt → List Sym → Option α) :
    ∀ (s : List Sym) (f : Nat) (st : MSt), s.length < f →
      starLoop (fun st s k => m (.cls rs) f0 st s k) true f st s k = tryDown k st s (spanCls rs s) := by
  intro s
  induction s with
  | nil =>
    intro f st hf
    cases f with
    | zero => simp at hf
    | succ f => simp [starLoop, m, spanCls, tryDown]
  | cons c t ih =>
    intro f st hf
    cases f with
    | zero => simp at hf
    | succ f =>
      have hf' : t.length < f := by simp at hf; omega
      simp only [starLoop, m_cls_cons, spanCls]
      by_cases hc : inCls rs c.rune = true
      · simp only [hc, if_true, List.length_cons, Nat.lt_succ_self]
        rw [tryDown_cons, ← ih f (adv st 1) hf']
        rfl
      · simp only [hc]
        rfl

theorem star_cls_greedy (rs : List (Nat × Nat)) (k : MSt → List Sym → Option α)
    (s : List Sym) (f : Nat) (st : MSt) (hf : s.length < f) :
    m (.star (.cls rs) true) f st s k = tryDown k st s (spanCls rs s) := by
  rw [m_star, starLoop_cls_greedy rs f k s f st hf]

theorem tryDown_isSome (k : MSt → List Sym → Option α) (st : MSt) (s : List Sym) (n : Nat) :
    (tryDown k st s n).isSome = true ↔ ∃ j, j ≤ n ∧ (k (adv st j) (s.drop j)).isSome = true := by
  induction n with
  | zero =>
    simp [tryDown]
  | succ n ih =>
    simp only [tryDown]
    cases hk : k (adv st (n+1)) (s.drop (n+1)) with
    | some r =>
      simp only [Option.isSome_some, true_iff]
      exact ⟨n+1, Nat.le_refl _, by simp [hk]⟩
    | none =>
      simp only []
      rw [ih]
      constructor
      · rintro ⟨j, hj, h⟩; exact ⟨j, by omega, h⟩
      · rintro ⟨j, hj, h⟩
        by_cases hjn : j = n + 1
        · subst hjn; simp [hk] at h
        · exact ⟨j, by omega, h⟩

theorem findFrom_bot (r : Re) (f : Nat) : ∀ (s : List Sym) (i : Nat), 0 < i →
    findFrom (.cat .bot r) f i s = none := by
  intro s
  induction s with
  | nil => intro i hi; simp [findFrom, m]; omega
  | cons c t ih =>
    intro i hi
    simp only [findFrom, m]
    have : (i == 0) = false := by simp; omega
    simp only [this]
    exact ih (i+1) (by omega)

def K0 : MSt → List Sym → Option Match := fun st _ => some ⟨0, st.pos, st.caps⟩

theorem find_bot (r : Re) (s : List Sym) :
    find (.cat .bot r) s = m r (s.length + 1) ⟨0, []⟩ s K0 := by
  unfold find K0
  cases s with
  | nil => simp [findFrom, m]
  | cons c t =>
    simp only [findFrom, m]
    rw [findFrom_bot r _ t 1 (by omega)]
    simp only [beq_self_eq_true, if_true]
    generalize m r ((c :: t).length + 1) ⟨0, []⟩ (c :: t) (fun st x => some (Match.mk 0 st.pos st.caps)) = x
    cases x <;> rfl

theorem spanCls_eq_length_iff (rs) (s : List Sym) :
    spanCls rs s = s.length ↔ s.all (fun x => inCls rs x.rune) = true := by
  induction s with
  | nil => simp [spanCls]
  | cons c t ih =>
    simp only [spanCls, List.length_cons, List.all_cons, Bool.and_eq_true]
    by_cases hc : inCls rs c.rune = true
    · simp [hc, ih]
    · simp [hc]

/-- `^C₁C₂+$` -/
theorem match_bot_cls_plus_eot (r1 r2 : List (Nat × Nat)) (s : Bytes) :
    matchString (.cat .bot (.cat (.cls r1) (.cat (Re.plus (.cls r2) true) .eot))) s =
      match Utf8.decodeSyms s with
      | c :: d :: t => inCls r1 c.rune && inCls r2 d.rune && t.all (fun x => inCls r2 x.rune)
      | _ => false := by
  unfold matchString
  rw [find_bot]
  generalize Utf8.decodeSyms s = syms
  match syms with
  | [] => simp [m]
  | [c] => simp [m, Re.plus]
  | c :: d :: t =>
    simp only [m_cat, m_eot, m_cls_cons, Re.plus]
    by_cases h1 : inCls r1 c.rune = true
    · by_cases h2 : inCls r2 d.rune = true
      · simp only [h1, h2, if_true, Bool.true_and]
        rw [star_cls_greedy r2 _ t _ _ (by simp; omega)]
        rw [Bool.eq_iff_iff, tryDown_isSome, ← spanCls_eq_length_iff]
        have hle := spanCls_le r2 t
        constructor
        · rintro ⟨j, hj, h⟩
          by_cases he : (t.drop j).isEmpty = true
          · simp at he; omega
          · simp [he] at h
        · intro h
          exact ⟨t.length, by omega, by simp [K0]⟩
      · simp [h1, h2]
    · simp [h1]

def asciiCls (rs : List (Nat × Nat)) : Bool := rs.all fun r => r.2 < 128

theorem inCls_ascii (rs) (h : asciiCls rs = true) (c : Nat) (hc : inCls rs c = true) : c < 128 := by
  simp only [asciiCls, List.all_eq_true, decide_eq_true_eq] at h
  simp only [inCls, List.any_eq_true, Bool.and_eq_true, decide_eq_true_eq] at hc
  obtain ⟨r, hr, _, h2⟩ := hc
  have := h r hr
  omega

theorem cls_lit (c b : Nat) : inCls [(c, c)] b = (b == c) := by
  rw [Bool.eq_iff_iff]; simp [inCls]; omega

end Rx
end SafeHtml
