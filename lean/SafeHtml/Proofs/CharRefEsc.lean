/-
On escaper output (`Spec.Esc`) the full WHATWG character-reference decoder (`Spec.CharRef.decodeAttr` /
`decodeText`, over the whole named-entity table) and the five-reference decoder `Spec.unescape5` agree.
Corollary: the URL-start theorem of C02 restated with the full decoder.
-/
import SafeHtml.Spec.Esc
import SafeHtml.Proofs.DecodeWalk
import SafeHtml.Proofs.EntityFacts
import SafeHtml.Props.C02
import SafeHtml.Props.C10
namespace SafeHtml.Proofs.CharRefEsc
open SafeHtml SafeHtml.Spec SafeHtml.Spec.CharRef SafeHtml.Proofs.DecodeWalk SafeHtml.Proofs.EntityFacts

/-! ### `consume` on the five reference bodies, for EVERY continuation -/

/-- the named-reference branch with a `;`-terminated table entry; table lookup kept abstract -/
theorem consume_named (attr : Bool) (c : Nat) (t : Bytes) (k : Nat) (e : Nat × Nat) (u : Bytes)
    (hc : c ≠ 35) (hk : alnumRun (c :: t) = k + 1)
    (hd : (c :: t).drop (k + 1) = 59 :: u)
    (hl : EntityTable.lookup ((c :: t).take (k + 1) ++ [59]) = some e) :
    consume attr (c :: t) = (encodeEntity e, k + 2) := by
  unfold consume
  split
  · next heq => cases heq
  · next heq => cases heq; exact absurd rfl hc
  · simp only [hk, hd, hl]
    simp

theorem digits_34 (rest : Bytes) : digits decVal 10 (51 :: 52 :: 59 :: rest) 0 0 = (34, 2) := rfl
theorem digits_39 (rest : Bytes) : digits decVal 10 (51 :: 57 :: 59 :: rest) 0 0 = (39, 2) := rfl

theorem consume_fiveRefs (attr : Bool) :
    ∀ r ∈ fiveRefs, ∀ rest, consume attr (r.1 ++ rest) = ([r.2], r.1.length) := by
  simp only [fiveRefs, List.mem_cons, List.not_mem_nil, or_false, forall_eq_or_imp, forall_eq]
  refine ⟨fun rest => ?_, fun rest => ?_, fun rest => ?_, fun rest => ?_, fun rest => ?_⟩
  · exact consume_named attr 97 _ 2 (38, 0) rest (by decide) rfl rfl lookup_escaped.1
  · exact consume_named attr 108 _ 1 (60, 0) rest (by decide) rfl rfl lookup_escaped.2.1
  · exact consume_named attr 103 _ 1 (62, 0) rest (by decide) rfl rfl lookup_escaped.2.2
  · unfold consume
    simp [digits_34, show Utf8.encodeRune (numericCodePoint 34) = [34] by decide]
  · unfold consume
    simp [digits_39, show Utf8.encodeRune (numericCodePoint 39) = [39] by decide]

theorem consume_of_refAt (attr : Bool) (t : Bytes) (b n : Nat) (h : refAt t = some (b, n)) :
    consume attr t = ([b], n) := by
  unfold refAt at h
  split at h
  · next r hr =>
    cases h
    have hp : r.1.isPrefixOf t = true := List.find?_some (p := fun r : Bytes × Nat => r.1.isPrefixOf t) hr
    obtain ⟨rest, rfl⟩ := List.isPrefixOf_iff_prefix.1 hp
    exact consume_fiveRefs attr r (List.mem_of_find?_eq_some hr) rest
  · cases h

/-! ### skip counter vs. `drop`; `Esc` is suffix-closed -/

theorem unescape5Go_skip : ∀ (n : Nat) (t : Bytes), unescape5Go n t = unescape5Go 0 (t.drop n)
  | 0, t => by simp
  | n+1, [] => by simp [unescape5Go]
  | n+1, _ :: t => by
    simp only [unescape5Go, List.drop_succ_cons]
    exact unescape5Go_skip n t

theorem Esc_tail (c : Nat) (t : Bytes) (h : Esc (c :: t) = true) : Esc t = true := by
  unfold Esc at h
  simp only [Bool.and_eq_true] at h
  exact h.2

theorem Esc_drop : ∀ (n : Nat) (t : Bytes), Esc t = true → Esc (t.drop n) = true
  | 0, t, h => by simpa using h
  | n+1, [], h => by simpa using h
  | n+1, c :: t, h => by
    simp only [List.drop_succ_cons]
    exact Esc_drop n t (Esc_tail c t h)

/-! ### the two decoders agree on `Esc` -/

theorem walk_consume_esc (attr : Bool) : ∀ s : Bytes, Esc s = true → walk (consume attr) s = unescape5 s := by
  refine amp_induct (fun t => (consume attr t).2) (fun _ => rfl) (fun t ih he => ?_) (fun c t hc ih he => ?_)
  · cases hr : refAt t with
    | none => simp [Esc, hr] at he
    | some p =>
      obtain ⟨b, n⟩ := p
      simp only [consume_of_refAt attr t b n hr] at ih
      rw [walk_amp, consume_of_refAt attr t b n hr, ih (Esc_drop n t (Esc_tail _ t he))]
      simp only [unescape5, unescape5Go, hr, beq_self_eq_true, if_true, unescape5Go_skip n t]
      rfl
  · rw [walk_other _ c t hc, ih (Esc_tail c t he)]
    simp [unescape5, unescape5Go, hc]

theorem decodeAttr_eq_unescape5 (o : Bytes) (h : Spec.Esc o = true) :
    Spec.CharRef.decodeAttr o = Spec.unescape5 o :=
  decodeAttr_eq_walk o ▸ walk_consume_esc true o h

theorem decodeText_eq_unescape5 (o : Bytes) (h : Spec.Esc o = true) :
    Spec.CharRef.decodeText o = Spec.unescape5 o :=
  decodeText_eq_walk o ▸ walk_consume_esc false o h

theorem decodeAttr_eq_decodeText (o : Bytes) (h : Spec.Esc o = true) :
    Spec.CharRef.decodeAttr o = Spec.CharRef.decodeText o := by
  rw [decodeAttr_eq_unescape5 o h, decodeText_eq_unescape5 o h]

/-! ### C02 URL start with the full decoder -/

open SafeHtml.Model SafeHtml.Model.Tmpl SafeHtml.Spec.UrlScheme in
/-- C02, URL start: the attribute value obtained by the WHATWG character-reference decoder (whole
    named-entity table, numeric references, attribute rule) from the output of the URL-start chain never has the
    `javascript` scheme. -/
theorem C02_url_start_full (s : Bytes) :
    ∃ out, runChain ["_sanitizeURL", fnNormalizeURL, fnHTML] (.str s) = .ok (.str out) ∧
      whatwgScheme (Spec.CharRef.decodeAttr out) ≠ some javascript :=
  -- the chain ends in `htmlEscaped`, whose output is in `Esc`, where the two decoders agree
  ⟨_, SafeHtml.Props.C02.url_chain_eq s, by
    rw [decodeAttr_eq_unescape5 _ (SafeHtml.Props.C10.C10_inert _)]; exact (SafeHtml.Props.C02.url_out s).2⟩

end SafeHtml.Proofs.CharRefEsc
