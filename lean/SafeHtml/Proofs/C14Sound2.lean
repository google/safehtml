/-
C14: conjunct 4 of `C14_prefix_sound_statement` on the BROWSER's reading of the prefix, and with it `prefix_sound`
and `C14_prefix_sound`. Whenever the browser-decoded accepted prefix contains `?` or `#`, the engine's test
`inQueryOrFragment` fires: per reference (`ref_dich`) a numeric reference contains a literal `#`, a `;`-terminated
name is read identically by both decoders, a legacy name without `;` never denotes `?`/`#` (table sweep); and Go's
decoder visits every `&`, because the bytes `unescapeEntity` consumes never contain `&` (`go_region`).
-/
import SafeHtml.Proofs.C14Sound
namespace SafeHtml.Proofs.C14Sound2
open SafeHtml SafeHtml.Rx SafeHtml.Spec SafeHtml.Spec.CharRef SafeHtml.Generated.Regexes
open SafeHtml.Proofs.CharRefAppend SafeHtml.Proofs.CharRefEsc SafeHtml.Proofs.C14Sound
open SafeHtml.Proofs.DecodeWalk SafeHtml.Proofs.EntityFacts
open SafeHtml.Model SafeHtml.Model.TmplUrl SafeHtml.Props.C14 SafeHtml.Spec.UrlComp

/-! ### the bytes Go's `unescapeEntity` consumes contain no `&` -/

/-- the shape of the named branch of `unescapeEntity` (stated with the matchers of the model itself, all table
    lookups abstracted): the number of consumed bytes is at most the end `i` of the looked-up name -/
theorem named_shape_le (i : Nat) (c1 : Bool) (o2 o3 : Option (Nat × Nat)) (E1 E4 : Bytes) (E2 : Nat → Nat → Bytes)
    (E3 : Nat → Bytes) (h3 : ∀ x j, o3 = some (x, j) → j ≤ i) :
    @Prod.snd Bytes Nat
      (@ite (Bytes × Nat) ((i == 0) = true) (instDecidableEqBool (i == 0) true) (@Prod.mk Bytes Nat [38] 0)
        (@ite (Bytes × Nat) (c1 = true) (instDecidableEqBool c1 true) (@Prod.mk Bytes Nat E1 i)
          (GoHtml.entity2.match_1 (fun _ => Bytes × Nat) o2 (fun a b => @Prod.mk Bytes Nat (E2 a b) i) (fun _ =>
            GoHtml.entity2.match_1 (fun _ => Bytes × Nat) o3 (fun x j => @Prod.mk Bytes Nat (E3 x) j)
              (fun _ => @Prod.mk Bytes Nat E4 i))))) ≤ i := by
  split
  · exact Nat.zero_le _
  · split
    · exact Nat.le_refl _
    · rcases o2 with _ | ⟨a, b⟩
      · rcases o3 with _ | ⟨x, j⟩
        · exact Nat.le_refl _
        · exact h3 x j rfl
      · exact Nat.le_refl _

/-- end of the name Go looks up: the alphanumeric run plus a directly following `;` (the model's own expression) -/
def goEnd (rest : Bytes) : Nat :=
  GoHtml.unescapeEntity.match_5 (fun _ => Nat) (rest.drop (GoHtml.alnumRun rest))
    (fun _ => GoHtml.alnumRun rest + 1) (fun _ => GoHtml.alnumRun rest)

theorem goEnd_eq_goI (rest : Bytes) : goEnd rest = goI rest := by
  unfold goEnd goI
  rw [goAlnumRun_eq]
  rfl

attribute [local irreducible] EntityTable.lookup GoHtml.entity1 GoHtml.entity2 GoHtml.prefixLoop in
theorem go_named_snd (c : Nat) (u : Bytes) (hc : c ≠ 35) :
    (GoHtml.unescapeEntity (c :: u)).2 ≤ goEnd (c :: u) := by
  obtain ⟨i, hi⟩ : ∃ i, i = goEnd (c :: u) := ⟨_, rfl⟩
  obtain ⟨x1, hx1⟩ : ∃ x, x = GoHtml.entity1 (List.take i (c :: u)) := ⟨_, rfl⟩
  obtain ⟨o2, ho2⟩ : ∃ o, o = GoHtml.entity2 (List.take i (c :: u)) := ⟨_, rfl⟩
  obtain ⟨o3, ho3⟩ : ∃ o, o = GoHtml.prefixLoop (List.take i (c :: u))
      (min (i - 1) Generated.Entities.longestEntityWithoutSemicolon) := ⟨_, rfl⟩
  have h3 : ∀ x j, o3 = some (x, j) → j ≤ i := by
    intro x j h
    rw [ho3] at h
    have h1 := prefixLoop_le _ _ _ _ h
    have h2 := Nat.min_le_left (i - 1) Generated.Entities.longestEntityWithoutSemicolon
    omega
  rw [← hi]
  unfold goEnd at hi
  unfold GoHtml.unescapeEntity
  split
  · next heq => cases heq
  · next heq => cases heq; exact absurd rfl hc
  · simp only []
    simp only [← hi, ← hx1, ← ho2, ← ho3]
    exact named_shape_le i (x1 != 0) o2 o3 _ _ _ _ h3

theorem go_nil : GoHtml.unescapeEntity [] = ([38], 0) := by
  unfold GoHtml.unescapeEntity; rfl

/-- the numeric branch: nothing, or `#`, an optional `x`/`X`, and what the digit loop read (digits, `;`) -/
theorem go_numeric_region (t : Bytes) :
    (GoHtml.unescapeEntity (35 :: t)).2 ≤ (35 :: t).length ∧
    ∀ b ∈ (35 :: t).take (GoHtml.unescapeEntity (35 :: t)).2, b ≠ 38 := by
  rcases numPre_cases t with rfl | ⟨hex, pre, ds, rfl, hp⟩
  · rw [show GoHtml.unescapeEntity [35] = ([38], 0) from by unfold GoHtml.unescapeEntity; rfl]; simp
  · obtain ⟨_, h2, h3⟩ := numLoop_region hex ds 0 0
    have hpre : (if hex then 2 else 1) = (35 :: pre).length ∧ ∀ b ∈ 35 :: pre, b ≠ 38 := by
      rcases hp with ⟨rfl, rfl | rfl⟩ | ⟨rfl, rfl, _⟩ <;> exact ⟨rfl, by decide⟩
    rw [go_hash hp, hpre.1]
    generalize GoHtml.numLoop hex ds 0 0 = r at h2 h3 ⊢
    obtain ⟨x, n⟩ := r
    simp only [Nat.sub_zero] at h2 h3 ⊢
    split
    · simp
    · split
      · simp
      · refine ⟨by simp only [List.length_cons, List.length_append] at *; omega, fun b hb => ?_⟩
        rw [← List.cons_append, List.take_length_add_append] at hb
        rcases List.mem_append.1 hb with hb | hb
        · exact hpre.2 b hb
        · exact h3 b hb

theorem go_region (rest : Bytes) :
    (GoHtml.unescapeEntity rest).2 ≤ rest.length ∧ ∀ b ∈ rest.take (GoHtml.unescapeEntity rest).2, b ≠ 38 := by
  cases rest with
  | nil => rw [go_nil]; simp
  | cons c u =>
    by_cases hc : c = 35
    · subst hc; exact go_numeric_region u
    · have h1 := go_named_snd c u hc
      rw [goEnd_eq_goI] at h1
      obtain ⟨h2, h3⟩ := goI_region (c :: u)
      refine ⟨by omega, ?_⟩
      intro b hb
      exact h3 b (Rx.mem_take_of_le h1 hb)

/-! ### Go's decoder visits every `&` -/

theorem amp_mem_take (pre t : Bytes) (n : Nat) (h : pre.length < n) : 38 ∈ (pre ++ 38 :: t).take n := by
  induction pre generalizing n with
  | nil =>
    cases n with
    | zero => simp at h
    | succ n => simp
  | cons a pre ih =>
    cases n with
    | zero => simp at h
    | succ n =>
      simp only [List.cons_append, List.take_succ_cons, List.mem_cons]
      right
      exact ih n (by simp only [List.length_cons] at h; omega)

theorem go_visits : ∀ (p pre t : Bytes), p = pre ++ 38 :: t →
    ∀ b ∈ (GoHtml.unescapeEntity t).1, b ∈ GoHtml.unescapeString p := by
  simp only [unescapeString_eq_walk]
  refine amp_induct (fun r => (GoHtml.unescapeEntity r).2) (fun pre t h => by simp at h)
    (fun r ih pre t h b hb => ?_) (fun c r hc ih pre t h b hb => ?_)
  · rw [walk_amp]
    cases pre with
    | nil => cases h; exact List.mem_append.2 (Or.inl hb)
    | cons c pre =>
      cases h
      obtain ⟨_, hreg⟩ := go_region (pre ++ 38 :: t)
      have hn : (GoHtml.unescapeEntity (pre ++ 38 :: t)).2 ≤ pre.length :=
        Nat.le_of_not_lt fun hlt => hreg 38 (amp_mem_take pre t _ hlt) rfl
      exact List.mem_append.2 (Or.inr (ih (pre.drop _) t (List.drop_append_of_le_length hn) b hb))
  · cases pre with
    | nil => cases h; exact absurd rfl hc
    | cons c' pre =>
      cases h
      rw [walk_other _ _ _ hc]
      exact List.mem_cons_of_mem _ (ih pre t rfl b hb)

/-! ### whenever the browser sees a byte of some kind, so does the engine -/

/-- Let `q` be a kind of byte and `S` a suffix-closed condition under which, wherever the browser's substitute for
    a reference contains a `q`, the reference itself does or Go substitutes the same. Then under `S`: if the
    browser's reading of `p` contains a `q`, so does `p` itself or Go's reading of `p`. -/
theorem walk_any (q : Nat → Bool) (S : Bytes → Prop) (hS : ∀ c t, S (c :: t) → S t)
    (href : ∀ t, S (38 :: t) → (consume true t).1.any q = true →
      t.any q = true ∨ GoHtml.unescapeEntity t = consume true t)
    (p : Bytes) (hp : S p) (h : (CharRef.decodeAttr p).any q = true) :
    p.any q = true ∨ (GoHtml.unescapeString p).any q = true := by
  have hdrop : ∀ (n : Nat) (t : Bytes), S t → S (t.drop n) := by
    intro n
    induction n with
    | zero => exact fun _ h => h
    | succ n ih =>
      intro t h
      cases t with
      | nil => exact h
      | cons c t => exact ih t (hS c t h)
  -- along the browser's loop: a `q` in the input, or an `&` where Go's substitute has one
  have key : ∀ s, S s → (walk (consume true) s).any q = true →
      s.any q = true ∨ ∃ pre t, s = pre ++ 38 :: t ∧ (GoHtml.unescapeEntity t).1.any q = true := by
    refine amp_induct (fun t => (consume true t).2) (fun _ h => by simp [walk_nil] at h)
      (fun t ih hs h => ?_) (fun c t hc ih hs h => ?_)
    · rw [walk_amp, List.any_append, Bool.or_eq_true] at h
      rcases h with h | h
      · rcases href t hs h with ht | he
        · exact Or.inl (by rw [List.any_cons, ht, Bool.or_true])
        · exact Or.inr ⟨[], t, rfl, he ▸ h⟩
      · rcases ih (hdrop _ t (hS _ t hs)) h with hl | ⟨pre, t', ht, hq⟩
        · obtain ⟨b, hb, hbq⟩ := List.any_eq_true.1 hl
          exact Or.inl (List.any_eq_true.2 ⟨b, List.mem_cons_of_mem _ (List.mem_of_mem_drop hb), hbq⟩)
        · refine Or.inr ⟨38 :: t.take (consume true t).2 ++ pre, t', ?_, hq⟩
          simp only [List.cons_append, List.append_assoc, ← ht, List.take_append_drop]
    · rw [walk_other _ c t hc, List.any_cons, Bool.or_eq_true] at h
      rcases h with h | h
      · exact Or.inl (by rw [List.any_cons, h, Bool.true_or])
      · rcases ih (hS c t hs) h with hl | ⟨pre, t', ht, hq⟩
        · exact Or.inl (by rw [List.any_cons, hl, Bool.or_true])
        · exact Or.inr ⟨c :: pre, t', by rw [ht]; rfl, hq⟩
  rcases key p hp (decodeAttr_eq_walk p ▸ h) with hl | ⟨pre, t, hpt, ht⟩
  · exact Or.inl hl
  · obtain ⟨b, hb, hbq⟩ := List.any_eq_true.1 ht
    exact Or.inr (List.any_eq_true.2 ⟨b, go_visits p pre t hpt b hb, hbq⟩)

theorem hasQH_eq_any (l : Bytes) : hasQH l = l.any fun b => b == 63 || b == 35 := by
  rw [Bool.eq_iff_iff]
  simp only [hasQH, Bool.or_eq_true, List.contains_iff_mem, List.any_eq_true, beq_iff_eq]
  constructor
  · rintro (h | h)
    · exact ⟨63, h, Or.inl rfl⟩
    · exact ⟨35, h, Or.inr rfl⟩
  · rintro ⟨b, hb, rfl | rfl⟩
    · exact Or.inl hb
    · exact Or.inr hb

theorem untermAt_hash_head (t : Bytes) (h : untermAt t = true) : ∃ u, t = 35 :: u := by
  unfold untermAt at h
  split at h
  · exact ⟨_, rfl⟩
  · cases h

theorem browser_qh_engine (p : Bytes) (h : hasQH (CharRef.decodeAttr p) = true) :
    hasQH p = true ∨ hasQH (GoHtml.unescapeString p) = true := by
  simp only [hasQH_eq_any] at h ⊢
  refine walk_any _ (fun _ => True) (fun _ _ _ => trivial) (fun t _ hq => ?_) p trivial h
  rcases ref_dich t with hu | hb | he
  · obtain ⟨u, rfl⟩ := untermAt_hash_head t hu
    exact Or.inl rfl
  · rw [← hasQH_eq_any] at hq
    simp [benign, hq] at hb
  · exact Or.inr he

theorem browser_qh_inQueryOrFragment (p : Bytes) (h : hasQH (CharRef.decodeAttr p) = true) :
    inQueryOrFragment p = true := by
  have hc : ∀ l : Bytes, containsAny l [35, 63] = hasQH l := fun l => by
    rw [hasQH_eq_any]; unfold containsAny; congr 1; funext b
    simp only [List.contains_cons, List.contains_nil, Bool.or_false]
    exact Bool.or_comm _ _
  simpa only [inQueryOrFragment, hc, Bool.or_eq_true] using browser_qh_engine p h

/-! ### the full statement -/

/-- conjunct 4 of `C14_prefix_sound_statement` on the browser's reading -/
theorem C14_prefix_sound_component (sc : SC) (p w v : Bytes) (ch : Chain) (hsc : sc ≠ .other)
    (hc : chooseChain sc p = some ch) (hr : runChain ch w = some v)
    (hq : ((CharRef.decodeAttr p).contains 63 || (CharRef.decodeAttr p).contains 35) = true) :
    unreservedOrPct v = true :=
  (C14_choice_query sc p w v ch hsc (Or.inl (browser_qh_inQueryOrFragment p hq)) hc hr).1

/-- C14, soundness of an accepted prefix, for the library with commit 213930e: for an accepted prefix `p`
    (empty or not) of a URL-typed attribute and string data `w`, the browser sees the decoded prefix followed by
    exactly the chain output, the scheme is the one the prefix fixed and is not `javascript`, and when the decoded
    prefix is already in the query or fragment part the data is fully percent-encoded. -/
theorem prefix_sound (sc : SC) (p w v : Bytes) (ch : Chain) (hsc : sc ≠ .other)
    (hc : chooseChain sc p = some ch) (hr : runChain ch w = some v) :
    let bp := CharRef.decodeAttr p
    let bd := CharRef.decodeAttr (p ++ htmlEscapeString v)
    bd = bp ++ v ∧ whatwgScheme bd = whatwgScheme bp ∧ whatwgScheme bd ≠ some javascript ∧
    ((bp.contains 63 || bp.contains 35) = true → unreservedOrPct v = true) :=
  have h := C14_prefix_sound_scheme_of sc p w v ch hsc hc hr
  ⟨h.1, h.2.1, h.2.2, C14_prefix_sound_component sc p w v ch hsc hc hr⟩

/-- the statement of Props/C14.lean; its `p ≠ []` is not needed -/
theorem C14_prefix_sound : C14_prefix_sound_statement :=
  fun sc p w v ch hsc _ hc hr => prefix_sound sc p w v ch hsc hc hr

end SafeHtml.Proofs.C14Sound2

namespace SafeHtml.Proofs.C14Sound
open SafeHtml SafeHtml.Spec SafeHtml.Model SafeHtml.Model.TmplUrl SafeHtml.Spec.UrlComp

/-- the statement under the hypothesis that Go's `html.UnescapeString` and the WHATWG attribute-value decoder read
    the static prefix the same way; the hypothesis is not used, see `C14Sound2.prefix_sound` -/
theorem C14_prefix_sound_full (sc : SC) (p w v : Bytes) (ch : Chain) (hsc : sc ≠ .other)
    (hc : chooseChain sc p = some ch) (hr : runChain ch w = some v)
    (hgo : GoHtml.unescapeString p = CharRef.decodeAttr p) :
    let bp := CharRef.decodeAttr p
    let bd := CharRef.decodeAttr (p ++ htmlEscapeString v)
    bd = bp ++ v ∧ whatwgScheme bd = whatwgScheme bp ∧ whatwgScheme bd ≠ some javascript ∧
    ((bp.contains 63 || bp.contains 35) = true → unreservedOrPct v = true) :=
  (fun _ => C14Sound2.prefix_sound sc p w v ch hsc hc hr) hgo

/-- for a static prefix without `&` (no character reference at all); the hypothesis is not used, see
    `C14Sound2.prefix_sound` -/
theorem C14_prefix_sound_plain (sc : SC) (p w v : Bytes) (ch : Chain) (hsc : sc ≠ .other)
    (hc : chooseChain sc p = some ch) (hr : runChain ch w = some v) (hamp : 38 ∉ p) :
    let bp := CharRef.decodeAttr p
    let bd := CharRef.decodeAttr (p ++ htmlEscapeString v)
    bd = bp ++ v ∧ whatwgScheme bd = whatwgScheme bp ∧ whatwgScheme bd ≠ some javascript ∧
    ((bp.contains 63 || bp.contains 35) = true → unreservedOrPct v = true) :=
  (fun _ => C14Sound2.prefix_sound sc p w v ch hsc hc hr) hamp

/-- all four conjuncts of `C14_prefix_sound_statement`, the last one under the agreement of the two decoders on
    the prefix; `C14Sound2.prefix_sound` has it without -/
theorem C14_prefix_sound_final (sc : SC) (p w v : Bytes) (ch : Chain) (hsc : sc ≠ .other)
    (hc : chooseChain sc p = some ch) (hr : runChain ch w = some v) :
    let bp := CharRef.decodeAttr p
    let bd := CharRef.decodeAttr (p ++ htmlEscapeString v)
    bd = bp ++ v ∧ whatwgScheme bd = whatwgScheme bp ∧ whatwgScheme bd ≠ some javascript ∧
    (GoHtml.unescapeString p = CharRef.decodeAttr p →
      (bp.contains 63 || bp.contains 35) = true → unreservedOrPct v = true) :=
  have h := C14Sound2.prefix_sound sc p w v ch hsc hc hr
  ⟨h.1, h.2.1, h.2.2.1, fun _ => h.2.2.2⟩

end SafeHtml.Proofs.C14Sound

#print axioms SafeHtml.Proofs.C14Sound.C14_prefix_sound_full
#print axioms SafeHtml.Proofs.C14Sound.C14_prefix_sound_plain
#print axioms SafeHtml.Proofs.C14Sound.C14_prefix_sound_final

#print axioms SafeHtml.Proofs.C14Sound2.go_region
#print axioms SafeHtml.Proofs.C14Sound2.go_visits
#print axioms SafeHtml.Proofs.C14Sound2.browser_qh_engine
#print axioms SafeHtml.Proofs.C14Sound2.C14_prefix_sound_component
#print axioms SafeHtml.Proofs.C14Sound2.C14_prefix_sound
