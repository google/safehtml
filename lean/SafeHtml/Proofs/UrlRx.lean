/-
Byte-level reading of `safeURLPattern`-shaped regexes (`\A(?:(C+)D|N*(?:E|\z))`, C D E ASCII classes,
N containing every non-ASCII rune) with the capture, and facts about `Model.toLowerForScheme`.
Used by Props/C11 and, through `UrlSetSafe`, by C12.
-/
import SafeHtml.Model.Url
import SafeHtml.Proofs.RxMore
import SafeHtml.Proofs.Utf8More
import SafeHtml.Proofs.Tactics
import SafeHtml.Proofs.Bytes
namespace SafeHtml.UrlRx
open SafeHtml SafeHtml.Rx SafeHtml.Utf8 SafeHtml.Model SafeHtml.Proofs.UrlSet

theorem spanCls_append_all (C : List (Nat × Nat)) (L1 L2 : List Sym)
    (h1 : ∀ x ∈ L1, inCls C x.rune = true)
    (h2 : L2 = [] ∨ ∃ x r, L2 = x :: r ∧ inCls C x.rune = false) :
    spanCls C (L1 ++ L2) = L1.length := by
  induction L1 with
  | nil =>
    rcases h2 with rfl | ⟨x, r, rfl, hx⟩
    · simp [spanCls]
    · simp [spanCls, hx]
  | cons a l ih =>
    have ha := h1 a (by simp)
    simp only [List.cons_append, spanCls, ha, if_true, List.length_cons]
    rw [ih (fun x hx => h1 x (by simp [hx]))]

theorem head_inCls_ascii (C : List (Nat × Nat)) (hC : asciiCls C = true) (d : Nat) (r : Bytes) :
    ∃ x rest, decodeSyms (d :: r) = x :: rest ∧ inCls C x.rune = inCls C d :=
  let ⟨x, rest, h, hq, _⟩ := decodeSyms_head (inCls_ascii C hC) d r
  ⟨x, rest, h, hq⟩

/-- byte predicate for a class that contains every non-ASCII rune -/
def negB (N : List (Nat × Nat)) (b : Nat) : Bool := decide (128 ≤ b) || inCls N b

def genCaps2 (N E : List (Nat × Nat)) (t : Bytes) : Option (Option Bytes) :=
  match t.dropWhile (negB N) with
  | [] => some none
  | c :: _ => if inCls E c then some none else none

/-- byte-level result (capture 1 only) of `\A(?:(C+)D|N*(?:E|\z))` -/
def genCaps (C D N E : List (Nat × Nat)) (t : Bytes) : Option (Option Bytes) :=
  match t.takeWhile (inCls C), t.dropWhile (inCls C) with
  | c :: sch, d :: _ => if inCls D d then some (some (c :: sch)) else genCaps2 N E t
  | _, _ => genCaps2 N E t

theorem find2_bytes (N E : List (Nat × Nat))
    (hN : ∀ c, 128 ≤ c → c ≤ 0x10FFFF → inCls N c = true) (t : Bytes) :
    (schemeAltFind.schemeAltFind2 N E (decodeSyms t)).map (fun mt => mt.caps) =
      (genCaps2 N E t).map (fun _ => []) := by
  obtain ⟨a, q, ht, _, hq, hall, hh⟩ := span_split (negB N) t
  have hp : ∀ x ∈ decodeSyms a, inCls N x.rune = true := by
    intro x hx
    rcases decodeSyms_symOK _ x hx with ⟨hlt, hb⟩ | ⟨_, _, hge, hle, _⟩
    · have hmem : x.rune ∈ a := sym_bytes_subset _ x hx _ (by rw [hb]; simp)
      have := hall _ hmem
      simp only [negB, Bool.or_eq_true, decide_eq_true_eq] at this
      rcases this with h | h
      · omega
      · exact h
    · exact hN _ hge hle
  unfold schemeAltFind.schemeAltFind2 genCaps2
  rw [hq]
  rcases stops_cases hh with rfl | ⟨c, q', rfl, hc⟩
  · rw [List.append_nil] at ht
    subst ht
    have hs := spanCls_append_all N (decodeSyms t) [] hp (Or.inl rfl)
    rw [List.append_nil] at hs
    simp [hs]
  · simp only [negB, Bool.or_eq_false_iff, decide_eq_false_iff_not] at hc
    have hc128 : c < 128 := by omega
    have hd : decodeSyms t = decodeSyms a ++ asciiSym c :: decodeSyms q' := by
      rw [ht, decodeSyms_append_ascii c q' hc128, decodeSyms_cons_ascii c q' hc128]; rfl
    have hs := spanCls_append_all N _ (asciiSym c :: decodeSyms q') hp
      (Or.inr ⟨_, _, rfl, by simpa [asciiSym] using hc.2⟩)
    rw [hd]
    simp only [hs, List.drop_left]
    simp only [asciiSym]
    by_cases hEc : inCls E c = true <;> simp [hEc]

def subOf (syms : List Sym) : Option Match → Option (List (Option Bytes))
  | none => none
  | some mt => some [some (slice syms mt.start mt.stop),
      match capLookup mt.caps 1 with
      | some (a, b) => some (slice syms a b)
      | none => none]

theorem findSubmatch_one (r : Re) (t : Bytes) :
    findSubmatch r 1 t = subOf (decodeSyms t) (find r (decodeSyms t)) := by
  unfold findSubmatch subOf
  simp only [List.range, List.range.loop, List.map_cons, List.map_nil]
  cases find r (decodeSyms t) <;> rfl

theorem findSubmatch_schemeAlt (C D N E : List (Nat × Nat))
    (hC : asciiCls C = true) (hD : asciiCls D = true)
    (hN : ∀ c, 128 ≤ c → c ≤ 0x10FFFF → inCls N c = true)
    (hCD : ∀ c, inCls C c = true → inCls D c = false)
    (hNE : ∀ c, inCls N c = true → inCls E c = false) (t : Bytes) :
    ∃ w, findSubmatch (schemeAltRe C D N E) 1 t = (genCaps C D N E t).map (fun c => [some w, c]) := by
  rw [findSubmatch_one, find_schemeAlt C D N E hCD hNE]
  have h2 := find2_bytes N E hN t
  -- result when only the second alternative can match
  have hsecond : ∃ w, subOf (decodeSyms t) (schemeAltFind.schemeAltFind2 N E (decodeSyms t)) =
      (genCaps2 N E t).map (fun c => [some w, c]) := by
    cases hf : schemeAltFind.schemeAltFind2 N E (decodeSyms t) with
    | none =>
      rw [hf] at h2
      cases hg : genCaps2 N E t with
      | none => exact ⟨[], rfl⟩
      | some v => rw [hg] at h2; simp at h2
    | some mt =>
      rw [hf] at h2
      cases hg : genCaps2 N E t with
      | none => rw [hg] at h2; simp at h2
      | some v =>
        rw [hg] at h2
        simp only [Option.map_some, Option.some.injEq] at h2
        have hv : v = none := by
          unfold genCaps2 at hg
          split at hg
          · simpa using hg.symm
          · split at hg <;> simp at hg; exact hg.symm
        refine ⟨slice (decodeSyms t) mt.start mt.stop, ?_⟩
        simp [subOf, h2, hv, capLookup]
  obtain ⟨a, r, ht, hta, hr, hallb, hh⟩ := span_split (inCls C) t
  have ha : ∀ b ∈ a, b < 128 := fun b hb => inCls_ascii C hC b (hallb b hb)
  have hd : decodeSyms t = a.map asciiSym ++ decodeSyms r := by
    rw [ht]; exact decodeSyms_ascii_prefix _ _ ha
  have hall : ∀ x ∈ a.map asciiSym, inCls C x.rune = true := by
    intro x hx
    obtain ⟨b, hb, rfl⟩ := List.mem_map.1 hx
    exact hallb b hb
  unfold schemeAltFind genCaps
  simp only []
  rw [hta, hr]
  rcases stops_cases hh with rfl | ⟨d, r', rfl, hdc⟩
  · rw [decodeSyms_nil, List.append_nil] at hd
    have hs := spanCls_append_all C _ [] hall (Or.inl rfl)
    rw [List.append_nil, ← hd] at hs
    have hdrop : (decodeSyms t).drop (spanCls C (decodeSyms t)) = [] := by
      rw [hs, hd]; simp
    rw [hdrop]
    cases hn : spanCls C (decodeSyms t) <;> cases a <;> exact hsecond
  · obtain ⟨x, rest, hx, hxc⟩ := head_inCls_ascii C hC d r'
    obtain ⟨x', rest', hx', hxd⟩ := head_inCls_ascii D hD d r'
    rw [hx] at hx'
    obtain ⟨rfl, rfl⟩ := List.cons.inj hx'
    rw [hx] at hd
    have hs := spanCls_append_all C _ (x :: rest) hall (Or.inr ⟨x, rest, rfl, by rw [hxc, hdc]⟩)
    rw [← hd] at hs
    have hdrop : (decodeSyms t).drop (spanCls C (decodeSyms t)) = x :: rest := by
      rw [hs, hd, List.drop_left]
    rw [hdrop, hs]
    cases a with
    | nil => exact hsecond
    | cons c sch =>
      simp only [List.map_cons, List.length_cons, List.length_map, hxd]
      cases hdd : inCls D d with
      | false => exact hsecond
      | true =>
        refine ⟨slice (decodeSyms t) 0 (sch.length + 2), ?_⟩
        simp only [if_true, Option.map_some, subOf, capLookup, List.find?, beq_self_eq_true]
        congr 3
        simp only [slice, List.drop_zero, Nat.sub_zero]
        rw [hd]
        have : sch.length + 1 = ((c :: sch).map asciiSym).length := by simp
        rw [this, List.take_left]
        rw [symsBytes_map_asciiSym]

/-! ### `toLowerForScheme` -/

def lowSym (x : Sym) : Bytes :=
  if x.rune < 128 then [asciiLower x.rune]
  else match lowerRuneAsciiImage x.rune with
    | some a => [a]
    | none => Utf8.encodeRune x.rune

theorem toLower_def (s : Bytes) : toLowerForScheme s = (decodeSyms s).flatMap lowSym := rfl

theorem toLower_nil : toLowerForScheme [] = [] := by simp [toLower_def, decodeSyms_nil]

theorem toLower_ascii_append (a rest : Bytes) (h : ∀ b ∈ a, b < 128) :
    toLowerForScheme (a ++ rest) = a.map asciiLower ++ toLowerForScheme rest := by
  rw [toLower_def, decodeSyms_ascii_prefix a rest h, List.flatMap_append, ← toLower_def]
  congr 1
  induction a with
  | nil => rfl
  | cons b t ih =>
    have hb : b < 128 := h b (by simp)
    simp only [List.map_cons, List.flatMap_cons, ih (fun x hx => h x (by simp [hx]))]
    simp [lowSym, asciiSym, hb]

theorem toLower_append_ascii (p : Bytes) (c : Nat) (rest : Bytes) (hc : c < 128) :
    toLowerForScheme (p ++ c :: rest) = toLowerForScheme p ++ asciiLower c :: toLowerForScheme rest := by
  rw [toLower_def, decodeSyms_append_ascii c rest hc, List.flatMap_append, ← toLower_def,
    decodeSyms_cons_ascii c rest hc]
  simp [lowSym, hc, toLower_def]

theorem toLower_cons_ascii (c : Nat) (rest : Bytes) (hc : c < 128) :
    toLowerForScheme (c :: rest) = asciiLower c :: toLowerForScheme rest := by
  simpa [toLower_nil] using toLower_append_ascii [] c rest hc

theorem lowerRuneAsciiImage_some (r a : Nat) (h : lowerRuneAsciiImage r = some a) : a = 105 ∨ a = 107 := by
  unfold lowerRuneAsciiImage at h
  split at h
  · exact .inl (Option.some.inj h).symm
  · split at h
    · exact .inr (Option.some.inj h).symm
    · cases h

/-- where the bytes of the lowered string come from; 105 and 107 are the images of U+0130 and U+212A, the only
    non-ASCII runes Go lower-cases into ASCII (`Model.lowerRuneAsciiImage`) -/
theorem toLower_bytes (p : Bytes) : ∀ b' ∈ toLowerForScheme p,
    128 ≤ b' ∨ b' = 105 ∨ b' = 107 ∨ ∃ b ∈ p, b < 128 ∧ b' = asciiLower b := by
  intro b' hb'
  rw [toLower_def, List.mem_flatMap] at hb'
  obtain ⟨x, hx, hbx⟩ := hb'
  unfold lowSym at hbx
  rcases decodeSyms_symOK p x hx with ⟨hlt, hb⟩ | ⟨_, _, hge, _⟩
  · simp only [hlt, if_true, List.mem_singleton] at hbx
    right; right; right
    exact ⟨x.rune, sym_bytes_subset p x hx _ (by rw [hb]; simp), hlt, hbx⟩
  · have : ¬ x.rune < 128 := by omega
    simp only [this, if_false] at hbx
    cases h : lowerRuneAsciiImage x.rune with
    | some a =>
      rw [h, List.mem_singleton] at hbx
      rw [hbx]
      exact .inr ((lowerRuneAsciiImage_some _ a h).imp_right .inl)
    | none => rw [h] at hbx; exact .inl (encodeRune_nonascii _ hge _ hbx)

/-! ### the regenerated `safeURLPattern` (obligation: breaks when url.go's regex is edited) -/

/-- `[a-z0-9+.-]` -/
def isSchemeLower (c : Nat) : Bool := isLowerAlpha c || isDigit c || c == 43 || c == 45 || c == 46
/-- `[^&:/?#]` on bytes -/
def isNegB (c : Nat) : Bool := !(c == 35 || c == 38 || c == 47 || c == 58 || c == 63)
/-- `[/?#]` -/
def isDelimB (c : Nat) : Bool := c == 35 || c == 47 || c == 63

def handCaps2 (t : Bytes) : Option (Option Bytes) :=
  match t.dropWhile isNegB with
  | [] => some none
  | c :: _ => if isDelimB c then some none else none

/-- hand-written byte-level meaning of `^(?:([a-z0-9+.-]+):|[^&:/?#]*(?:[/?#]|$))`:
    `some (some sch)` = first alternative matched with capture `sch`; `some none` = second alternative. -/
def handCaps (t : Bytes) : Option (Option Bytes) :=
  match t.takeWhile isSchemeLower, t.dropWhile isSchemeLower with
  | c :: sch, d :: _ => if d == 58 then some (some (c :: sch)) else handCaps2 t
  | _, _ => handCaps2 t

theorem handCaps2_span (a r : Bytes) (ha : ∀ b ∈ a, isNegB b = true) (hr : Stops isNegB r) :
    handCaps2 (a ++ r) = match r.head? with
      | none => some none
      | some c => if isDelimB c then some none else none := by
  unfold handCaps2; rw [dropWhile_span _ _ _ ha hr]
  cases r <;> rfl

theorem handCaps_span (a r : Bytes) (ha : ∀ b ∈ a, isSchemeLower b = true) (hr : Stops isSchemeLower r) :
    handCaps (a ++ r) = if a ≠ [] ∧ r.head? = some 58 then some (some a) else handCaps2 (a ++ r) := by
  unfold handCaps
  rw [takeWhile_span _ _ _ ha hr, dropWhile_span _ _ _ ha hr]
  rcases a with _ | ⟨c, sch⟩ <;> rcases r with _ | ⟨d, r'⟩ <;> simp

open SafeHtml.Generated.Regexes in
theorem rx_safeURLPattern (t : Bytes) :
    ∃ w, findSubmatch safehtml_safeURLPattern safehtml_safeURLPattern_ncap t =
      (handCaps t).map (fun c => [some w, c]) := by
  have hre : safehtml_safeURLPattern =
      schemeAltRe [(43, 43), (45, 46), (48, 57), (97, 122)] [(58, 58)]
        [(0, 34), (36, 37), (39, 46), (48, 57), (59, 62), (64, 1114111)] [(35, 35), (47, 47), (63, 63)] := rfl
  have hn : safehtml_safeURLPattern_ncap = 1 := rfl
  rw [hre, hn]
  obtain ⟨w, hw⟩ := findSubmatch_schemeAlt [(43, 43), (45, 46), (48, 57), (97, 122)] [(58, 58)]
      [(0, 34), (36, 37), (39, 46), (48, 57), (59, 62), (64, 1114111)] [(35, 35), (47, 47), (63, 63)]
    (by decide) (by decide)
    (by intro c h1 h2; simp only [inCls, List.any, Bool.or_false]; simp; omega)
    (by intro c; simp only [inCls, List.any, Bool.or_false]; simp; omega)
    (by intro c; simp only [inCls, List.any, Bool.or_false]; simp; omega) t
  refine ⟨w, ?_⟩
  rw [hw]
  congr 1
  have e1 : inCls [(43, 43), (45, 46), (48, 57), (97, 122)] = isSchemeLower := by
    funext b
    simp only [inCls, List.any, isSchemeLower, isLowerAlpha, isDigit, Bool.or_false]
    cls_arith
  have e2 : negB [(0, 34), (36, 37), (39, 46), (48, 57), (59, 62), (64, 1114111)] = isNegB := by
    funext b
    simp only [negB, inCls, List.any, isNegB, Bool.or_false]
    cls_arith
  have e3 : inCls [(35, 35), (47, 47), (63, 63)] = isDelimB := by
    funext b
    simp only [inCls, List.any, isDelimB, Bool.or_false]
    cls_arith
  have e4 : ∀ d, inCls [(58, 58)] d = (d == 58) := by
    intro d
    simp only [inCls, List.any, Bool.or_false]
    cls_arith
  unfold genCaps handCaps genCaps2 handCaps2
  simp only [e1, e2, e3, e4]

theorem isSafeURL_eq (u : Bytes) :
    isSafeURL u =
      match handCaps (toLowerForScheme u) with
      | none => false
      | some (some sch) => sch != jsScheme
      | some none => true := by
  unfold isSafeURL
  obtain ⟨w, hw⟩ := rx_safeURLPattern (toLowerForScheme u)
  rw [hw]
  cases handCaps (toLowerForScheme u) with
  | none => rfl
  | some c => cases c <;> rfl

end SafeHtml.UrlRx
