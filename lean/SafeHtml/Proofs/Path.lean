/-
Lemmas about `Spec.Path` (lexical Unix `Clean`/`Join`), all by induction, for all byte lists.
Used by Props/C20.lean.
-/
import SafeHtml.Spec.Path
namespace SafeHtml.Spec.Path
open SafeHtml

/-! ### splitSep / joinSep -/

theorem splitSep_ne_nil (p : Bytes) : splitSep p ≠ [] := by
  cases p with
  | nil => simp [splitSep]
  | cons c t =>
    unfold splitSep
    split
    · simp
    · split <;> simp

theorem splitSep_cons_sep (t : Bytes) : splitSep (47 :: t) = [] :: splitSep t := by
  simp [splitSep]

theorem splitSep_cons_ne (c : Nat) (t : Bytes) (hc : c ≠ 47) :
    ∃ h r, splitSep t = h :: r ∧ splitSep (c :: t) = (c :: h) :: r := by
  cases hs : splitSep t with
  | nil => exact absurd hs (splitSep_ne_nil t)
  | cons h r => exact ⟨h, r, rfl, by rw [splitSep, if_neg hc, hs]⟩

theorem splitSep_append_sep (a b : Bytes) :
    splitSep (a ++ 47 :: b) = splitSep a ++ splitSep b := by
  induction a with
  | nil => simp [splitSep]
  | cons c t ih =>
    by_cases hc : c = 47
    · subst hc
      rw [List.cons_append, splitSep_cons_sep, splitSep_cons_sep, ih, List.cons_append]
    · obtain ⟨h, r, hs, hcs⟩ := splitSep_cons_ne c t hc
      rw [hcs, List.cons_append]
      obtain ⟨h', r', hs', hcs'⟩ := splitSep_cons_ne c (t ++ 47 :: b) hc
      rw [hcs']
      rw [ih, hs, List.cons_append] at hs'
      injection hs' with h1 h2
      subst h1; subst h2; rfl

theorem splitSep_sepfree (f : Bytes) (hf : 47 ∉ f) : splitSep f = [f] := by
  induction f with
  | nil => rfl
  | cons c t ih =>
    have hc : c ≠ 47 := fun h => hf (by simp [h])
    have ht : 47 ∉ t := fun h => hf (List.mem_cons_of_mem _ h)
    obtain ⟨h, r, hs, hcs⟩ := splitSep_cons_ne c t hc
    rw [hcs]
    rw [ih ht] at hs
    injection hs with h1 h2
    subst h1; subst h2; rfl

theorem splitSep_sepfree_mem (p : Bytes) : ∀ c ∈ splitSep p, 47 ∉ c := by
  induction p with
  | nil => simp [splitSep]
  | cons b t ih =>
    by_cases hb : b = 47
    · subst hb
      rw [splitSep_cons_sep]
      exact List.forall_mem_cons.2 ⟨by simp, ih⟩
    · obtain ⟨h, r, hs, hcs⟩ := splitSep_cons_ne b t hb
      rw [hs] at ih
      rw [hcs]
      have := List.forall_mem_cons.1 ih
      exact List.forall_mem_cons.2 ⟨by simpa [eq_comm, hb] using this.1, this.2⟩

theorem joinSep_cons_cons (a b : Bytes) (t : List Bytes) :
    joinSep (a :: b :: t) = a ++ 47 :: joinSep (b :: t) := rfl

theorem joinSep_append_singleton (es : List Bytes) (hne : es ≠ []) (f : Bytes) :
    joinSep (es ++ [f]) = joinSep es ++ 47 :: f := by
  induction es with
  | nil => exact absurd rfl hne
  | cons a t ih =>
    cases t with
    | nil => rfl
    | cons b t' =>
      rw [List.cons_append, List.cons_append, joinSep_cons_cons, joinSep_cons_cons,
        ← List.cons_append, ih (by simp), List.append_assoc]
      rfl

theorem splitSep_joinSep (es : List Bytes) (hne : es ≠ []) (hs : ∀ e ∈ es, 47 ∉ e) :
    splitSep (joinSep es) = es := by
  induction es with
  | nil => exact absurd rfl hne
  | cons a t ih =>
    cases t with
    | nil => exact splitSep_sepfree a (hs a (by simp))
    | cons b t' =>
      rw [joinSep_cons_cons, splitSep_append_sep, splitSep_sepfree a (hs a (by simp)),
        ih (by simp) (fun e he => hs e (List.mem_cons_of_mem _ he))]
      rfl

/-! ### components -/

theorem components_append_sep (a b : Bytes) :
    components (a ++ 47 :: b) = components a ++ components b := by
  simp [components, splitSep_append_sep, List.filter_append]

theorem components_sepfree (f : Bytes) (hf : 47 ∉ f) (hk : keepElem f = true) :
    components f = [f] := by
  simp [components, splitSep_sepfree f hf, List.filter, hk]

theorem components_dot : components dot = [] := by decide
theorem components_nil : components [] = [] := by decide
theorem components_root : components [47] = [] := by decide

theorem mem_components (p c : Bytes) (h : c ∈ components p) : keepElem c = true ∧ 47 ∉ c := by
  simp only [components, List.mem_filter] at h
  exact ⟨h.2, splitSep_sepfree_mem p c h.1⟩

/-! ### isRooted -/

theorem isRooted_cons (c : Nat) (t : Bytes) : isRooted (c :: t) = (c == 47) := by
  by_cases hc : c = 47
  · subst hc; rfl
  · unfold isRooted
    split
    · rename_i h; exact absurd (List.cons.inj h).1 hc
    · simp [hc]

theorem isRooted_append (a b : Bytes) (ha : a ≠ []) : isRooted (a ++ b) = isRooted a := by
  cases a with
  | nil => exact absurd rfl ha
  | cons c t => rw [List.cons_append, isRooted_cons, isRooted_cons]

theorem isRooted_sepfree (f : Bytes) (hf : 47 ∉ f) : isRooted f = false := by
  cases f with
  | nil => rfl
  | cons c t => rw [isRooted_cons, beq_eq_false_iff_ne]; exact fun h => hf (by simp [h])

/-! ### step / resolve -/

theorem step_ne_dotdot (r : Bool) (stk : List Bytes) (c : Bytes) (hc : c ≠ dotdot) :
    step r stk c = c :: stk := by
  simp [step, hc]

theorem resolve_append_singleton (r : Bool) (cs : List Bytes) (f : Bytes) (hf : f ≠ dotdot) :
    resolve r (cs ++ [f]) = resolve r cs ++ [f] := by
  simp [resolve, List.foldl_append, step_ne_dotdot r _ f hf]

theorem mem_step (r : Bool) (stk : List Bytes) (c e : Bytes) (h : e ∈ step r stk c) :
    e ∈ stk ∨ e = c := by
  unfold step at h
  split at h
  · rcases stk with _ | ⟨t, rest⟩ <;> simp only at h <;> split at h <;> simp_all
  · simpa [or_comm] using h

theorem mem_foldl_step (r : Bool) (cs : List Bytes) :
    ∀ (stk : List Bytes) (e : Bytes), e ∈ cs.foldl (step r) stk → e ∈ stk ∨ e ∈ cs := by
  induction cs with
  | nil => intro stk e h; exact Or.inl h
  | cons c t ih =>
    intro stk e h
    rw [List.foldl_cons] at h
    rcases ih _ e h with h1 | h1
    · rcases mem_step r stk c e h1 with h2 | h2
      · exact Or.inl h2
      · right; rw [h2]; simp
    · right; exact List.mem_cons_of_mem _ h1

theorem mem_resolve (r : Bool) (cs : List Bytes) (e : Bytes) (h : e ∈ resolve r cs) : e ∈ cs := by
  unfold resolve at h
  rcases mem_foldl_step r cs [] e (List.mem_reverse.1 h) with h1 | h1
  · simp at h1
  · exact h1

/-! ### render / child -/

/-- "valid element list": what `resolve` of `components` produces -/
def goodElems (es : List Bytes) : Prop := ∀ e ∈ es, keepElem e = true ∧ 47 ∉ e

theorem keepElem_iff (c : Bytes) : keepElem c = true ↔ c ≠ [] ∧ c ≠ dot := by
  simp [keepElem]

theorem goodElems_resolve_components (r : Bool) (p : Bytes) : goodElems (resolve r (components p)) :=
  fun e he => mem_components p e (mem_resolve r _ e he)

theorem joinSep_cons_ne_nil (a : Bytes) (l : List Bytes) (ha : a ≠ []) : joinSep (a :: l) ≠ [] := by
  cases l with
  | nil => exact ha
  | cons b l' => rw [joinSep_cons_cons]; simp [ha]

theorem joinSep_head (es : List Bytes) (hne : es ≠ []) (hg : goodElems es) :
    ∃ c t, joinSep es = c :: t ∧ c ≠ 47 ∧ c :: t ≠ dot := by
  cases es with
  | nil => exact absurd rfl hne
  | cons a t =>
    have ha := (keepElem_iff a).1 (hg a (by simp)).1
    have hs : 47 ∉ a := (hg a (by simp)).2
    cases a with
    | nil => exact absurd rfl ha.1
    | cons c a' =>
      have hc : c ≠ 47 := fun h => hs (by simp [h])
      cases t with
      | nil => exact ⟨c, a', rfl, hc, ha.2⟩
      | cons b t' =>
        refine ⟨c, _, by rw [joinSep_cons_cons]; rfl, hc, fun h => ?_⟩
        have : 47 ∈ dot := h ▸ by simp
        simp [dot] at this

theorem render_append_singleton (r : Bool) (es : List Bytes) (hg : goodElems es) (f : Bytes) :
    render r (es ++ [f]) = child (render r es) f := by
  cases es with
  | nil =>
    cases r
    · simp [render, child, joinSep]
    · simp [render, child, joinSep, dot]
  | cons a t =>
    have hne : a :: t ≠ [] := by simp
    obtain ⟨c, u, hj, hc, h2⟩ := joinSep_head _ hne hg
    have hr : ∀ r, render r (a :: t) = (if r then 47 :: joinSep (a :: t) else joinSep (a :: t)) := by
      intro r; cases r <;> rfl
    have hr' : ∀ r, render r (a :: t ++ [f]) = (if r then 47 :: joinSep (a :: t ++ [f]) else joinSep (a :: t ++ [f])) := by
      intro r; cases r <;> rfl
    rw [hr, hr', joinSep_append_singleton _ hne, hj]
    cases r
    · simp [child, h2, hc]
    · simp [child, dot]

/-! ### clean of an appended element -/

/-- `clean` treats 58 like any other byte; `plainName` excludes it because `TrustedSourceFromConstantDir` refuses
    the ListSeparator `:` in a filename (`strings.IndexAny` over Separator and ListSeparator). -/
theorem plainName_iff (f : Bytes) :
    plainName f = true ↔ f ≠ [] ∧ f ≠ dot ∧ f ≠ dotdot ∧ 47 ∉ f ∧ 58 ∉ f := by
  simp [plainName, and_assoc]

/-- C20 rests on this: appending one plain name to a non-empty path and cleaning
    gives the direct child of the cleaned path. -/
theorem clean_append_plain (p f : Bytes) (hp : p ≠ []) (hf : plainName f = true) :
    clean (p ++ 47 :: f) = child (clean p) f := by
  obtain ⟨hne, hdot, hdd, hsep, _⟩ := (plainName_iff f).1 hf
  have hk : keepElem f = true := (keepElem_iff f).2 ⟨hne, hdot⟩
  unfold clean
  rw [isRooted_append p _ hp, components_append_sep, components_sepfree f hsep hk,
    resolve_append_singleton _ _ _ hdd,
    render_append_singleton _ _ (goodElems_resolve_components _ p)]

theorem clean_append_dot (p : Bytes) (hp : p ≠ []) : clean (p ++ 47 :: dot) = clean p := by
  unfold clean
  rw [isRooted_append p _ hp, components_append_sep, components_dot, List.append_nil]

theorem clean_append_empty (p : Bytes) (hp : p ≠ []) : clean (p ++ [47]) = clean p := by
  unfold clean
  rw [isRooted_append p _ hp, components_append_sep, components_nil, List.append_nil]

theorem clean_plain (f : Bytes) (hf : plainName f = true) : clean f = f := by
  obtain ⟨hne, hdot, hdd, hsep, _⟩ := (plainName_iff f).1 hf
  have hk : keepElem f = true := (keepElem_iff f).2 ⟨hne, hdot⟩
  unfold clean
  rw [isRooted_sepfree f hsep, components_sepfree f hsep hk]
  simp [resolve, step, hdd, render, joinSep]

/-! ### shape of the resolved stack; idempotence of clean -/

/-- invariant of the reversed stack: `..` elements only at the bottom, and none when rooted -/
def okStk (r : Bool) : List Bytes → Prop
  | [] => True
  | t :: rest => if t = dotdot then (r = false ∧ ∀ x ∈ rest, x = dotdot) else okStk r rest

theorem okStk_all_dotdot (stk : List Bytes) (h : ∀ x ∈ stk, x = dotdot) : okStk false stk := by
  induction stk with
  | nil => trivial
  | cons t rest ih =>
    have ht : t = dotdot := h t (by simp)
    simp only [okStk, ht, if_true, true_and]
    exact fun x hx => h x (List.mem_cons_of_mem _ hx)

theorem okStk_tail (r : Bool) (t : Bytes) (rest : List Bytes) (h : okStk r (t :: rest)) : okStk r rest := by
  simp only [okStk] at h
  split at h
  · obtain ⟨hr, hall⟩ := h; subst hr; exact okStk_all_dotdot rest hall
  · exact h

theorem okStk_step (r : Bool) (stk : List Bytes) (c : Bytes) (h : okStk r stk) : okStk r (step r stk c) := by
  unfold step
  split
  · cases stk with
    | nil =>
      cases r
      · simp [okStk]
      · simp [okStk]
    | cons t rest =>
      simp only
      split
      · rename_i ht
        simp only [okStk, ht, if_true] at h
        simp only [okStk, if_true]
        refine ⟨h.1, ?_⟩
        intro x hx
        rcases List.mem_cons.1 hx with h1 | h1
        · rw [h1, ht]
        · exact h.2 x h1
      · exact okStk_tail r t rest h
  · rename_i hc
    simp only [okStk, hc, if_false]
    exact h

theorem okStk_foldl (r : Bool) (cs : List Bytes) :
    ∀ stk, okStk r stk → okStk r (cs.foldl (step r) stk) := by
  induction cs with
  | nil => intro stk h; exact h
  | cons c t ih => intro stk h; exact ih _ (okStk_step r stk c h)

theorem foldl_step_reverse (r : Bool) (stk : List Bytes) (h : okStk r stk) :
    stk.reverse.foldl (step r) [] = stk := by
  induction stk with
  | nil => rfl
  | cons t rest ih =>
    rw [List.reverse_cons, List.foldl_append, ih (okStk_tail r t rest h)]
    simp only [List.foldl_cons, List.foldl_nil]
    simp only [okStk] at h
    split at h
    · rename_i ht
      obtain ⟨hr, hall⟩ := h
      subst hr
      cases rest with
      | nil => simp [step, ht]
      | cons t' rest' =>
        have : t' = dotdot := hall t' (by simp)
        simp [step, ht, this]
    · rename_i ht
      exact step_ne_dotdot r rest t ht

theorem resolve_resolve (r : Bool) (cs : List Bytes) : resolve r (resolve r cs) = resolve r cs := by
  unfold resolve
  rw [foldl_step_reverse r _ (okStk_foldl r cs [] trivial)]

theorem filter_keepElem_good (es : List Bytes) (hg : goodElems es) : es.filter keepElem = es := by
  rw [List.filter_eq_self]
  exact fun e he => (hg e he).1

theorem isRooted_render (r : Bool) (es : List Bytes) (hg : goodElems es) : isRooted (render r es) = r := by
  cases es with
  | nil => cases r <;> rfl
  | cons a t =>
    cases r
    · obtain ⟨c, t', hj, hc, _⟩ := joinSep_head (a :: t) (by simp) hg
      show isRooted (joinSep (a :: t)) = false
      rw [hj, isRooted_cons]; simp [hc]
    · rfl

theorem components_render (r : Bool) (es : List Bytes) (hg : goodElems es) : components (render r es) = es := by
  cases es with
  | nil => cases r <;> decide
  | cons a t =>
    have hs : ∀ e ∈ a :: t, 47 ∉ e := fun e he => (hg e he).2
    cases r
    · show components (joinSep (a :: t)) = a :: t
      rw [components, splitSep_joinSep _ (by simp) hs, filter_keepElem_good _ hg]
    · show components (47 :: joinSep (a :: t)) = a :: t
      rw [components, splitSep_cons_sep, splitSep_joinSep _ (by simp) hs]
      have : keepElem [] = false := by decide
      rw [List.filter_cons_of_neg (by simp [this]), filter_keepElem_good _ hg]

theorem components_clean (p : Bytes) : components (clean p) = elements p :=
  components_render _ _ (goodElems_resolve_components _ p)

theorem isRooted_clean (p : Bytes) : isRooted (clean p) = isRooted p :=
  isRooted_render _ _ (goodElems_resolve_components _ p)

theorem clean_idem (p : Bytes) : clean (clean p) = clean p := by
  have h1 := isRooted_clean p
  have h2 := components_clean p
  show render (isRooted (clean p)) (resolve (isRooted (clean p)) (components (clean p))) = clean p
  rw [h1, h2, elements, resolve_resolve]
  rfl

theorem clean_ne_nil (p : Bytes) : clean p ≠ [] := by
  unfold clean
  generalize hes : resolve (isRooted p) (components p) = es
  have hg : goodElems es := hes ▸ goodElems_resolve_components _ p
  cases es with
  | nil => cases isRooted p <;> simp [render, dot]
  | cons a t =>
    cases isRooted p
    · exact joinSep_cons_ne_nil a t ((keepElem_iff a).1 (hg a (by simp)).1).1
    · simp [render]

/-! ### join -/

theorem nonEmptyElems_nil : nonEmptyElems [] = [] := rfl

theorem nonEmptyElems_cons_nil (es : List Bytes) : nonEmptyElems ([] :: es) = nonEmptyElems es := by
  simp [nonEmptyElems]

theorem nonEmptyElems_cons_ne (a : Bytes) (es : List Bytes) (ha : a ≠ []) :
    nonEmptyElems (a :: es) = a :: nonEmptyElems es := by
  simp [nonEmptyElems, ha]

theorem joinSep_nonEmpty_ne_nil {es : List Bytes} {a : Bytes} {l : List Bytes} (h : nonEmptyElems es = a :: l) :
    joinSep (a :: l) ≠ [] := by
  have : a ∈ nonEmptyElems es := by rw [h]; simp
  exact joinSep_cons_ne_nil a l (by simp only [nonEmptyElems, List.mem_filter] at this; simpa using this.2)

theorem join_of_nonEmpty_nil (es : List Bytes) (h : nonEmptyElems es = []) : join es = [] := by
  simp [join, h]

theorem join_of_nonEmpty_cons (es : List Bytes) (a : Bytes) (l : List Bytes) (h : nonEmptyElems es = a :: l) :
    join es = clean (joinSep (a :: l)) := by
  simp [join, h]

theorem join_cases (es : List Bytes) : join es = [] ∨ ∃ p, p ≠ [] ∧ join es = clean p := by
  cases h : nonEmptyElems es with
  | nil => exact Or.inl (join_of_nonEmpty_nil es h)
  | cons a l =>
    exact .inr ⟨joinSep (a :: l), joinSep_nonEmpty_ne_nil h, join_of_nonEmpty_cons es a l h⟩

theorem join_eq_nil_iff (es : List Bytes) : join es = [] ↔ ∀ e ∈ es, e = [] := by
  constructor
  · intro h e he
    cases hn : nonEmptyElems es with
    | nil =>
      simp only [nonEmptyElems, List.filter_eq_nil_iff] at hn
      simpa using hn e he
    | cons a l =>
      rw [join_of_nonEmpty_cons es a l hn] at h
      exact absurd h (clean_ne_nil _)
  · intro h
    apply join_of_nonEmpty_nil
    simp only [nonEmptyElems, List.filter_eq_nil_iff]
    intro e he
    simp [h e he]

theorem join_append_singleton (es : List Bytes) (f : Bytes) (hf : f ≠ [])
    (a : Bytes) (l : List Bytes) (h : nonEmptyElems es = a :: l) :
    join (es ++ [f]) = clean (joinSep (a :: l) ++ 47 :: f) := by
  have : nonEmptyElems (es ++ [f]) = a :: (l ++ [f]) := by
    simp only [nonEmptyElems, List.filter_append] at h ⊢
    rw [h]; simp [hf]
  rw [join_of_nonEmpty_cons _ _ _ this, ← List.cons_append, joinSep_append_singleton _ (by simp)]

theorem join_append_singleton_nil (es : List Bytes) (f : Bytes) (hf : f ≠ [])
    (h : nonEmptyElems es = []) : join (es ++ [f]) = clean f := by
  have : nonEmptyElems (es ++ [f]) = [f] := by
    simp only [nonEmptyElems, List.filter_append] at h ⊢
    rw [h]; simp [hf]
  rw [join_of_nonEmpty_cons _ _ _ this]; rfl

theorem join_append_empty (es : List Bytes) : join (es ++ [[]]) = join es := by
  have : nonEmptyElems (es ++ [[]]) = nonEmptyElems es := by
    simp [nonEmptyElems, List.filter_append]
  simp [join, this]

theorem join_append_plain (es : List Bytes) (f : Bytes) (hf : plainName f = true) :
    join (es ++ [f]) = child (join es) f := by
  have hfn : f ≠ [] := ((plainName_iff f).1 hf).1
  cases h : nonEmptyElems es with
  | nil =>
    rw [join_append_singleton_nil es f hfn h, join_of_nonEmpty_nil es h, clean_plain f hf]
    simp [child]
  | cons a l =>
    rw [join_append_singleton es f hfn a l h, join_of_nonEmpty_cons es a l h]
    exact clean_append_plain _ f (joinSep_nonEmpty_ne_nil h) hf

theorem join_append_dot (es : List Bytes) : join (es ++ [dot]) = clean (join es) := by
  have hfn : dot ≠ [] := by decide
  cases h : nonEmptyElems es with
  | nil =>
    rw [join_append_singleton_nil es dot hfn h, join_of_nonEmpty_nil es h]; decide
  | cons a l =>
    rw [join_append_singleton es dot hfn a l h, join_of_nonEmpty_cons es a l h, clean_idem]
    exact clean_append_dot _ (joinSep_nonEmpty_ne_nil h)

end SafeHtml.Spec.Path
