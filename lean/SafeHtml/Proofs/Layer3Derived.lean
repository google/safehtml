/-
C01 at the level of `Api.step` for a straight-line helper called inside an element or a quoted attribute value: the
engine analyses a copy of the helper under the derived name `mangle cc h` (`escapeTree_derived_miss`, `refD`), `commit`
installs it and renames the calls (`applyD`, `commit_derived`); `C01_api_main_plus_derived_helper`. That the derived
name differs from the MAIN template's is a hypothesis (known finding mangled-name-collision). Not covered: calls in two
different contexts (known finding memo-ignores-attr-prefix), helpers with branches or nested calls, `csp = true`.
-/
import SafeHtml.Proofs.Layer3Helpers
set_option linter.unusedSimpArgs false
namespace SafeHtml.Proofs.Layer3Derived
open SafeHtml SafeHtml.Model SafeHtml.Model.Tmpl SafeHtml.Spec SafeHtml.Spec.HtmlTok SafeHtml.Generated.Policy
open SafeHtml.Props.C01 (InertPos run_nil run_cons run_append)
open SafeHtml.Props.C02 (Untrusted)
open SafeHtml.Proofs.HtmlTokSim
open SafeHtml.Proofs.Layer3 SafeHtml.Proofs.Layer3E2E SafeHtml.Proofs.Layer3Branch SafeHtml.Proofs.Layer3Calls
open SafeHtml.Proofs.Layer3Helpers

/-! ### string facts about `mangle` -/

/-- the contexts in which `mangle` is the identity -/
def TopCtx (c : Ctx) : Bool := c.state == .text && c.elemName == [] && c.elemNames.isEmpty

theorem mangle_length (c : Ctx) (name : String) (hc : TopCtx c = false) : name.length < (mangle c name).length := by
  unfold TopCtx at hc
  unfold mangle
  rw [if_neg (by simpa using hc)]
  simp only [String.length_append]
  have : "$htmltemplate_".length = 14 := by decide
  omega

theorem mangle_ne_self (c : Ctx) (name : String) (hc : TopCtx c = false) : mangle c name ≠ name := by
  intro h
  have := mangle_length c name hc
  rw [h] at this
  omega

/-! ### the model's analysis of a call in the context `cc`: derived copy (memo miss) and memo hit -/

/-- the scratch escaper of the main template `m` before the first call -/
def escD0 (m : String) (A : List (EditKey × List String)) (T : List (EditKey × String)) (X : List (EditKey × Bytes)) :
    Esc :=
  { output := [(m, {})], memoPrefix := [(m, ([], false))], actionEdits := A, tmplEdits := T, textEdits := X }

/-- … and after it: the derived copy `dt` of the helper under the name `dn`, memoised with output context `cc'` -/
def escD1 (m dn : String) (cc cc' : Ctx) (dt : Tree) (A : List (EditKey × List String)) (T : List (EditKey × String))
    (X : List (EditKey × Bytes)) : Esc :=
  { output := [(m, {}), (dn, cc')], derived := [(dn, dt)], called := [dn],
    memoPrefix := [(m, ([], false)), (dn, (cc.attrValue, cc.ambiguous))],
    actionEdits := A, tmplEdits := T, textEdits := X }

/-- the scratch escaper in which the derived copy's body is analysed -/
def scratchD (m dn : String) (cc : Ctx) : Esc :=
  { output := [(m, {}), (dn, cc)], pristine := [],
    memoPrefix := [(m, ([], false)), (dn, (cc.attrValue, cc.ambiguous))] }

/-- first call: the helper's tree is copied under the derived name, the copy is analysed from the call context and its
    edits (keyed by the derived name) are merged. The copy's body calls nothing, so the first pass of `computeOutCtx`
    is accepted although `cc'` may differ from `cc`. -/
theorem escapeTree_derived_miss (env : Env) (m h dn : String) (cc cc' : Ctx) (hdn : mangle cc h = dn)
    (hdm : dn ≠ m) (hdh : dn ≠ h) (hcc : cc.state ≠ .error) (hcc' : cc'.state ≠ .error) (trh : Tree)
    (A : List (EditKey × List String)) (T : List (EditKey × String)) (X : List (EditKey × Bytes)) (s1 : Esc) (f : Nat)
    (hlook : env.text.lookup h = some (some trh)) (hlookd : env.text.lookup dn = none)
    (hl : escapeList env f dn (scratchD m dn cc) cc trh.root = .ok (s1, cc'))
    (hoe : OtherEq (scratchD m dn cc) s1) (hk : KeysOK dn s1)
    (hA : ∀ p ∈ A, p.1.1 = m) (hX : ∀ p ∈ X, p.1.1 = m) :
    escapeTree env (f + 3) (escD0 m A T X) cc h =
      .ok (escD1 m dn cc cc' { trh with name := dn } (A ++ s1.actionEdits) T (X ++ s1.textEdits), cc', dn) := by
  have hent : Analysis.enter env (escD0 m A T X) cc h trh =
      ({ Analysis.miss (escD0 m A T X) cc dn with derived := [(dn, { trh with name := dn })] },
        some { trh with name := dn }) := by
    simp [Analysis.enter, hdn, hdh, Esc.template, hlookd, Analysis.miss, Analysis.call, escD0, alookup, aset]
  rw [escapeTree_first_pass hdn hcc (by simp [escD0, alookup, Ne.symm hdm]) hlook hent
    (by rw [show Analysis.scratch _ = scratchD m dn cc by
          simp [Analysis.scratch, Analysis.setOut, Analysis.miss, Analysis.call, escD0, scratchD, aset, Ne.symm hdm]]
        exact hl) hcc'
    (by rw [hoe.2.2.1]; simp [scratchD]) (mergeEdits_names A s1.actionEdits m dn (Ne.symm hdm) hA hk.1 hk.2.1)
    (by rw [hoe.2.2.2.1]; rfl) (mergeEdits_names X s1.textEdits m dn (Ne.symm hdm) hX hk.2.2.1 hk.2.2.2), hoe.eq_with]
  simp [Analysis.setOut, Analysis.merge, Analysis.miss, Analysis.call, escD0, escD1, scratchD, aset, alookup, hdm,
    Ne.symm hdm]

theorem escapeTree_derived_hit (env : Env) (m h dn : String) (cc cc' : Ctx) (hdn : mangle cc h = dn)
    (hdm : dn ≠ m) (hcc : cc.state ≠ .error) (dt : Tree)
    (A : List (EditKey × List String)) (T : List (EditKey × String)) (X : List (EditKey × Bytes)) (f : Nat) :
    escapeTree env (f + 1) (escD1 m dn cc cc' dt A T X) cc h = .ok (escD1 m dn cc cc' dt A T X, cc', dn) := by
  have hmd' : (m == dn) = false := by simpa using (Ne.symm hdm)
  have hce : (cc.state == State.error) = false := by simpa using hcc
  simp [escapeTree, hdn, escD1, alookup, hmd', hdm, Ne.symm hdm, hce, hcc]

/-! ### the model's analysis of the main template -/

def escOfD (m dn : String) (cc cc' : Ctx) (dt : Tree) (st : DSt) : Esc :=
  if st.fl then escD1 m dn cc cc' dt st.A st.T st.X else escD0 m st.A st.T st.X

theorem escOfD_text (m dn : String) (cc cc' : Ctx) (dt : Tree) (st : DSt) (X' : List (EditKey × Bytes)) :
    { escOfD m dn cc cc' dt st with textEdits := X' } = escOfD m dn cc cc' dt { st with X := X' } := by
  unfold escOfD; cases st.fl <;> rfl

theorem escOfD_action (m dn : String) (cc cc' : Ctx) (dt : Tree) (st : DSt) (A' : List (EditKey × List String)) :
    { escOfD m dn cc cc' dt st with actionEdits := A' } = escOfD m dn cc cc' dt { st with A := A' } := by
  unfold escOfD; cases st.fl <;> rfl

theorem escOfD_edits (m dn : String) (cc cc' : Ctx) (dt : Tree) (st : DSt) :
    (escOfD m dn cc cc' dt st).actionEdits = st.A ∧ (escOfD m dn cc cc' dt st).textEdits = st.X := by
  unfold escOfD; cases st.fl <;> exact ⟨rfl, rfl⟩

theorem escapeNode_tmpl_diff (env : Env) (f : Nat) (tn : String) (e e' : Esc) (c c' : Ctx) (id : Nat) (name dn : String)
    (p : Option Pipe) (h : escapeTree env f e c name = .ok (e', c', dn)) (hne : dn ≠ name)
    (hfr : e'.tmplEdits.any (fun p => p.1 == (tn, id)) = false) :
    escapeNode env (f + 1) tn e c (.tmpl id name p) =
      .ok ({ e' with tmplEdits := e'.tmplEdits ++ [((tn, id), dn)] }, c') := by
  rw [escapeNode]
  simp [h, bind, Out.bind, pure, hne, Esc.editTmpl, hfr]

theorem refD (env : Env) (hcsp : env.csp = false) (m h dn : String) (cc cc' : Ctx) (hdn : mangle cc h = dn)
    (hdm : dn ≠ m) (hdh : dn ≠ h) (hcc : cc.state ≠ .error) (hcc' : cc'.state ≠ .error) (trh : Tree) (nH : Nat)
    (s1 : Esc) (hlookH : env.text.lookup h = some (some trh)) (hlookd : env.text.lookup dn = none)
    (hlH : ∀ f, nH ≤ f → escapeList env f dn (scratchD m dn cc) cc trh.root = .ok (s1, cc'))
    (hoe : OtherEq (scratchD m dn cc) s1) (hk : KeysOK dn s1) :
    ∀ (ms : List MP) (i : Nat) (c cf : Ctx) (st : DSt) (es : List EM) (f : Nat),
      analyseD env.v cc cc' c ms = some (cf, es) → MInvD m i st → ArgsOKM ms → ms.length + nH + 5 ≤ f →
      escapeList env f m (escOfD m dn cc cc' { trh with name := dn } st) c (NodeList.ofList (nodesM h i ms)) =
        .ok (escOfD m dn cc cc' { trh with name := dn }
          (runD env.v m dn cc' s1.actionEdits s1.textEdits i c ms st), cf)
  | [], i, c, cf, st, es, f, ha, _, _, hf => by
    obtain ⟨f', rfl⟩ : ∃ f', f = f' + 1 := ⟨f - 1, by omega⟩
    simp only [analyseD, Option.some.injEq, Prod.mk.injEq] at ha
    simp [nodesM, NodeList.ofList, escapeList, runD, ha.1]
  | .text s :: ms, i, c, cf, st, es, f, ha, hinv, hok, hf => by
    obtain ⟨f', rfl⟩ : ∃ f', f = f' + 2 := ⟨f - 2, by simp at hf; omega⟩
    obtain ⟨c', out, es', hsc, hne, hrec, _⟩ := analyseD_text ha
    have hsd : (scanD c s).1 = c' := by simp [scanD, hsc]
    have hkk : (escOfD m dn cc cc' { trh with name := dn } st).textEdits.any (fun p => p.1 == (m, i)) = false := by
      rw [(escOfD_edits m dn cc cc' _ st).2]; exact (hinv.1 i (Nat.le_refl _)).2.2
    have h1 := escapeTextNode_scan env hcsp m (escOfD m dn cc cc' { trh with name := dn } st) c c' i s out hsc hkk
    rw [(escOfD_edits m dn cc cc' _ st).2, escOfD_text] at h1
    have hinv' := MInvD_text m i c s st hinv
    have ih := refD env hcsp m h dn cc cc' hdn hdm hdh hcc hcc' trh nH s1 hlookH hlookd hlH hoe hk ms (i + 1) c'
      cf _ es' (f' + 1) hrec hinv' hok (by simp at hf ⊢; omega)
    simp only [nodesM, NodeList.ofList, escapeList, escapeNode, h1, bind, Out.bind, runD, hsd]
    exact ih
  | .action a :: ms, i, c, cf, st, es, f, ha, hinv, hok, hf => by
    obtain ⟨f', rfl⟩ : ∃ f', f = f' + 2 := ⟨f - 2, by simp at hf; omega⟩
    obtain ⟨c', ch, es', hact, hrec, _⟩ := analyseD_action ha
    have hkk : (escOfD m dn cc cc' { trh with name := dn } st).actionEdits.any (fun p => p.1 == (m, i)) = false := by
      rw [(escOfD_edits m dn cc cc' _ st).1]; exact (hinv.1 i (Nat.le_refl _)).1
    have h1 := escapeAction_arg env m (escOfD m dn cc cc' { trh with name := dn } st) c c' ch i a hok.1 hact hkk
    rw [(escOfD_edits m dn cc cc' _ st).1, escOfD_action] at h1
    have hinv' := MInvD_action m i ch st hinv
    have ih := refD env hcsp m h dn cc cc' hdn hdm hdh hcc hcc' trh nH s1 hlookH hlookd hlH hoe hk ms (i + 1) c'
      cf _ es' (f' + 1) hrec hinv' hok.2 (by simp at hf ⊢; omega)
    simp only [nodesM, NodeList.ofList, escapeList, escapeNode, h1, bind, Out.bind, runD, hact]
    exact ih
  | .call :: ms, i, c, cf, st, es, f, ha, hinv, hok, hf => by
    obtain ⟨f', rfl⟩ : ∃ f', f = f' + 5 := ⟨f - 5, by simp at hf; omega⟩
    obtain ⟨es', hc, hrec, _⟩ := analyseD_call ha
    subst hc
    obtain ⟨fl, A, T, X⟩ := st
    simp only [nodesM, NodeList.ofList, runD]
    cases fl with
    | true =>
      -- memo hit
      have h1 : escapeNode env (f' + 4) m (escOfD m dn c cc' { trh with name := dn } ⟨true, A, T, X⟩) c
          (.tmpl i h (some dotPipe)) =
          .ok (escOfD m dn c cc' { trh with name := dn } ⟨true, A, T ++ [((m, i), dn)], X⟩, cc') :=
        escapeNode_tmpl_diff env (f' + 3) m _ _ _ _ i h dn _
          (escapeTree_derived_hit env m h dn c cc' hdn hdm hcc _ A T X (f' + 2)) hdh (hinv.1 i (Nat.le_refl _)).2.1
      rw [escapeList_cons_ok _ h1]
      exact refD env hcsp m h dn c cc' hdn hdm hdh hcc hcc' trh nH s1 hlookH hlookd hlH hoe hk ms (i + 1) cc' cf _ es'
        (f' + 4) hrec (MInvD_call m dn hdm i ⟨true, A, T, X⟩ _ _ hk.1 hk.2.2.1 hinv) hok (by simp at hf ⊢; omega)
    | false =>
      -- first call: the derived copy is made and analysed, its edits are appended
      have h1 : escapeNode env (f' + 4) m (escOfD m dn c cc' { trh with name := dn } ⟨false, A, T, X⟩) c
          (.tmpl i h (some dotPipe)) =
          .ok (escOfD m dn c cc' { trh with name := dn }
            ⟨true, A ++ s1.actionEdits, T ++ [((m, i), dn)], X ++ s1.textEdits⟩, cc') :=
        escapeNode_tmpl_diff env (f' + 3) m _ _ _ _ i h dn _
          (escapeTree_derived_miss env m h dn c cc' hdn hdm hdh hcc hcc' trh A T X s1 f' hlookH hlookd
            (hlH f' (by simp at hf; omega)) hoe hk (hinv.2 rfl).1 (hinv.2 rfl).2) hdh (hinv.1 i (Nat.le_refl _)).2.1
      rw [escapeList_cons_ok _ h1]
      exact refD env hcsp m h dn c cc' hdn hdm hdh hcc hcc' trh nH s1 hlookH hlookd hlH hoe hk ms (i + 1) cc' cf _ es'
        (f' + 4) hrec (MInvD_call m dn hdm i ⟨false, A, T, X⟩ _ _ hk.1 hk.2.2.1 hinv) hok (by simp at hf ⊢; omega)

/-! ### `escapeTree` on the main template -/

/-- the escaper after the analysis of the main template `m` that called the helper in the context `cc` -/
def escAfterD (m dn : String) (cc cc' : Ctx) (dt : Tree) (cf : Ctx) (A : List (EditKey × List String))
    (T : List (EditKey × String)) (X : List (EditKey × Bytes)) : Esc :=
  { output := [(m, cf), (dn, cc')], derived := [(dn, dt)], called := [m, dn],
    memoPrefix := [(m, ([], false)), (dn, (cc.attrValue, cc.ambiguous))],
    actionEdits := A, tmplEdits := T, textEdits := X }

theorem escapeTree_mainD (env : Env) (m dn : String) (hdm : dn ≠ m) (cc cc' : Ctx) (dt : Tree) (trm : Tree) (cf : Ctx)
    (A : List (EditKey × List String)) (T : List (EditKey × String)) (X : List (EditKey × Bytes))
    (hlook : env.text.lookup m = some (some trm)) (f' : Nat)
    (hl : escapeList env f' m (escD0 m [] [] []) {} trm.root = .ok (escD1 m dn cc cc' dt A T X, cf))
    (hkA : (A.map (·.1)).Nodup) (hkT : (T.map (·.1)).Nodup) (hkX : (X.map (·.1)).Nodup) (hne : cf.state ≠ .error) :
    escapeTree env (f' + 3) {} {} m = .ok (escAfterD m dn cc cc' dt cf A T X, cf, m) := by
  rw [escapeTree_first_pass (Analysis.mangle_default m) (by decide) rfl hlook
    (Analysis.enter_text env {} m trm) hl hne (by simp [escD1, Ne.symm hdm]) (mergeEdits_ok A [] (by simp) hkA)
    (mergeEdits_ok T [] (by simp) hkT) (mergeEdits_ok X [] (by simp) hkX)]
  simp [Analysis.setOut, Analysis.merge, Analysis.miss, Analysis.call, escD1, escAfterD, aset, alookup, hdm,
    Ne.symm hdm]

/-! ### `applyEdits` on the main template: the call nodes are renamed to the derived name -/

theorem applyD (v : Validators) (m h dn : String) (hdm : dn ≠ m) (cc cc' : Ctx) (AH : List (EditKey × List String))
    (XH : List (EditKey × Bytes)) (hAH : ∀ p ∈ AH, p.1.1 = dn) (hXH : ∀ p ∈ XH, p.1.1 = dn) (E : Esc) :
    ∀ (ms : List MP) (i : Nat) (c cf : Ctx) (st : DSt) (es : List EM), analyseD v cc cc' c ms = some (cf, es) →
      MInvD m i st → ArgsOKM ms →
      (∀ k, k < i + ms.length →
        E.textEdits.find? (fun p => p.1 == (m, k)) =
          (runD v m dn cc' AH XH i c ms st).X.find? (fun p => p.1 == (m, k)) ∧
        E.actionEdits.find? (fun p => p.1 == (m, k)) =
          (runD v m dn cc' AH XH i c ms st).A.find? (fun p => p.1 == (m, k)) ∧
        E.tmplEdits.find? (fun p => p.1 == (m, k)) =
          (runD v m dn cc' AH XH i c ms st).T.find? (fun p => p.1 == (m, k))) →
      NodeList.applyEdits m E (NodeList.ofList (nodesM h i ms)) = some (NodeList.ofList (outM dn i es))
  | [], i, c, cf, st, es, ha, _, _, _ => by
    simp only [analyseD, Option.some.injEq, Prod.mk.injEq] at ha
    obtain ⟨_, rfl⟩ := ha
    simp [nodesM, outM, NodeList.ofList, NodeList.applyEdits]
  | .text s :: ms, i, c, cf, st, es, ha, hinv, hok, hag => by
    obtain ⟨c', out, es', hsc, hne, hrec, rfl⟩ := analyseD_text ha
    have hsd : (scanD c s).1 = c' := by simp [scanD, hsc]
    simp only [runD, hsd] at hag
    have hfind := ((hag i (by simp)).1).trans
      (find_runD v m dn hdm cc' AH XH hAH hXH ms (i + 1) c' { st with X := addText m i c s st.X } i (by omega)).1
    have ih := applyD v m h dn hdm cc cc' AH XH hAH hXH E ms (i + 1) c' cf _ es' hrec
      (MInvD_text m i c s st hinv) hok (fun k hk' => hag k (by simp at hk' ⊢; omega))
    simp only [nodesM, outM, NodeList.ofList]
    exact applyEdits_cons m E _ _ _ _
      (applyEdits_text_node m E i c c' s out _ hsc (hinv.1 i (Nat.le_refl _)).2.2 hfind) ih
  | .action a :: ms, i, c, cf, st, es, ha, hinv, hok, hag => by
    obtain ⟨c', ch, es', hact, hrec, rfl⟩ := analyseD_action ha
    simp only [runD, hact] at hag
    have hfind := ((hag i (by simp)).2.1).trans
      (find_runD v m dn hdm cc' AH XH hAH hXH ms (i + 1) c' { st with A := st.A ++ [((m, i), ch)] } i (by omega)).2.1
    have ih := applyD v m h dn hdm cc cc' AH XH hAH hXH E ms (i + 1) c' cf _ es' hrec
      (MInvD_action m i ch st hinv) hok.2 (fun k hk' => hag k (by simp at hk' ⊢; omega))
    simp only [nodesM, outM, NodeList.ofList]
    exact applyEdits_cons m E _ _ _ _
      (applyEdits_action_node m E i a hok.1 ch _ (hinv.1 i (Nat.le_refl _)).1 hfind) ih
  | .call :: ms, i, c, cf, st, es, ha, hinv, hok, hag => by
    obtain ⟨es', _, hrec, rfl⟩ := analyseD_call ha
    simp only [runD] at hag
    have hf2 : E.tmplEdits.find? (fun q => q.1 == (m, i)) = some ((m, i), dn) := by
      rw [((hag i (by simp)).2.2).trans (find_runD v m dn hdm cc' AH XH hAH hXH ms (i + 1) cc' _ i (by omega)).2.2,
        DSt.call_T]
      simp [List.find?_append, find_none_of_any _ _ (hinv.1 i (Nat.le_refl _)).2.1]
    simp only [nodesM, outM, NodeList.ofList]
    exact applyEdits_cons m E _ _ _ _ (by simp [Node.applyEdits, hf2])
      (applyD v m h dn hdm cc cc' AH XH hAH hXH E ms (i + 1) cc' cf _ es' hrec
        (MInvD_call m dn hdm i st AH XH hAH hXH hinv) hok (fun k hk' => hag k (by simp at hk' ⊢; omega)))

/-! ### `commit`: the derived copy is installed in the text set, the main template's calls are renamed -/

theorem applyEdits_node_none (tn : String) (E : Esc) (h1 : ∀ p ∈ E.actionEdits, p.1.1 ≠ tn)
    (h2 : ∀ p ∈ E.textEdits, p.1.1 ≠ tn) (h3 : ∀ p ∈ E.tmplEdits, p.1.1 ≠ tn) :
    ∀ n : Node, Node.applyEdits tn E n = some n :=
  applyEdits_node_id tn E h1 h2 h3

theorem commit_derived (m h dn : String) (hmh : m ≠ h) (hdm : dn ≠ m) (hdh : dn ≠ h) (cc cc' : Ctx) (trm trh dt : Tree)
    (cf : Ctx) (A : List (EditKey × List String)) (T : List (EditKey × String)) (X : List (EditKey × Bytes))
    (rm rd : NodeList)
    (hA : ∀ p ∈ A, p.1.1 = m ∨ p.1.1 = dn) (hT : ∀ p ∈ T, p.1.1 = m ∨ p.1.1 = dn)
    (hX : ∀ p ∈ X, p.1.1 = m ∨ p.1.1 = dn)
    (happm : ∀ pr, NodeList.applyEdits m { escAfterD m dn cc cc' dt cf A T X with pristine := pr } trm.root = some rm)
    (happd : ∀ pr, NodeList.applyEdits dn { escAfterD m dn cc cc' dt cf A T X with pristine := pr } dt.root = some rd) :
    ∃ E', commit [(m, some trm), (h, some trh)] (escAfterD m dn cc cc' dt cf A T X) =
      .ok ([(m, some { trm with root := rm }), (h, some trh), (dn, some { dt with root := rd })], E') := by
  have hmh' : (m == h) = false := by simpa using hmh
  have hmd' : (m == dn) = false := by simpa using (Ne.symm hdm)
  have hhd' : (h == dn) = false := by simpa using (Ne.symm hdh)
  -- the helper itself owns no edit: they are keyed by `m` and by the derived name
  have hne : ∀ n : String, n = m ∨ n = dn → n ≠ h := by
    intro n hn he
    rcases hn with e | e
    · exact hmh (e.symm.trans he)
    · exact hdh (e.symm.trans he)
  have happh : ∀ pr, NodeList.applyEdits h { escAfterD m dn cc cc' dt cf A T X with pristine := pr } trh.root =
      some trh.root := fun pr =>
    applyEdits_list_id h _ (fun p hp => hne _ (hA p hp)) (fun p hp => hne _ (hX p hp)) (fun p hp => hne _ (hT p hp)) _
  obtain ⟨pr, E', hc⟩ := commit_rewrites [(m, some trm), (h, some trh)] (escAfterD m dn cc cc' dt cf A T X)
    [(m, some trm), (h, some trh), (dn, some dt)] (by simp [escAfterD, TextSet.lookup, alookup, hmh', hmd'])
    (by simp [escAfterD, Frozen.installStep, TextSet.lookup, TextSet.set, hmd', hhd'])
    (by simp [hmh, Ne.symm hdm, Ne.symm hdh])
    (fun pr n tr hm => by
      simp only [List.mem_cons, List.not_mem_nil, or_false, Prod.mk.injEq, Option.some.injEq] at hm
      rcases hm with ⟨rfl, rfl⟩ | ⟨rfl, rfl⟩ | ⟨rfl, rfl⟩
      · rw [happm pr]; rfl
      · rw [happh pr]; rfl
      · rw [happd pr]; rfl)
  exact ⟨E', by rw [hc]; simp [rewriteBy, happm pr, happh pr, happd pr]⟩

theorem derived_first (v : Validators) (f' : Nat) (m h : String) (hmh : m ≠ h) (trm trh : Tree)
    (ms : List MP) (hps : List Piece) (asH : List Arg) (cc cc' cf : Ctx) (es : List EM) (esH : List EPiece)
    (hrootM : trm.root = NodeList.ofList (nodesM h 0 ms))
    (hrootH : trh.root = NodeList.ofList (toNodesA 0 hps asH))
    (hokM : ArgsOKM ms) (hasH : ∀ a ∈ asH, ActArg a) (hcall : MP.call ∈ ms)
    (htop : TopCtx cc = false) (hcoll : mangle cc h ≠ m) (hcc : cc.state ≠ .error) (hcc' : cc'.state ≠ .error)
    (hH : analyse v cc hps = some (cc', esH)) (hM : analyseD v cc cc' {} ms = some (cf, es))
    (hfin : finalError cf = none) (hf : ms.length + hps.length + 9 ≤ f' + 3) :
    ∃ (E E' : Esc),
      escapeTree (env2 v m h trm trh) (f' + 3) {} {} m = .ok (E, cf, m) ∧
      commit [(m, some trm), (h, some trh)] E =
        .ok ([(m, some { trm with root := NodeList.ofList (outM (mangle cc h) 0 es) }), (h, some trh),
          (mangle cc h, some { ({ trh with name := mangle cc h } : Tree) with
            root := NodeList.ofList (outNodes 0 esH asH) })], E') := by
  have hdh : mangle cc h ≠ h := mangle_ne_self cc h htop
  generalize hdn : mangle cc h = dn at hcoll hdh ⊢
  have hdm : dn ≠ m := hcoll
  have hmh' : (m == h) = false := by simpa using hmh
  have hhm' : (h == m) = false := by simpa using (Ne.symm hmh)
  have hmd' : (m == dn) = false := by simpa using (Ne.symm hdm)
  have hhd' : (h == dn) = false := by simpa using (Ne.symm hdh)
  have hst := Frozen.finalError_text cf hfin
  have hne : cf.state ≠ .error := by rw [hst]; decide
  -- the derived copy's analysis
  have hfreshH : Fresh dn 0 (scratchD m dn cc) := fun k _ => ⟨rfl, rfl⟩
  obtain ⟨hoe, hk⟩ := editsOf_keep v dn hps 0 cc (scratchD m dn cc) hfreshH
    ⟨by simp [scratchD], by simp [scratchD], by simp [scratchD], by simp [scratchD]⟩
  generalize hs1 : editsOf v dn 0 cc hps (scratchD m dn cc) = s1 at hoe hk
  let env : Env := ⟨[(m, some trm), (h, some trh)], fun n => (alookup [(m, 1), (h, 2)] n).isSome, false, v⟩
  have hlH : ∀ f, hps.length + 1 ≤ f → escapeList env f dn (scratchD m dn cc) cc trh.root = .ok (s1, cc') := by
    intro f hf
    rw [hrootH, ← hs1]
    exact escapeList_refinesA env rfl dn hps 0 cc cc' (scratchD m dn cc) esH asH f hH hfreshH hasH hf
  have hlookH : env.text.lookup h = some (some trh) := by
    simp [env, TextSet.lookup, alookup, hhm', hmh, Ne.symm hmh]
  have hlookM : env.text.lookup m = some (some trm) := by
    simp [env, TextSet.lookup, alookup]
  have hlookd : env.text.lookup dn = none := by
    simp [env, TextSet.lookup, alookup, hmd', hhd', hdm, hdh, Ne.symm hdm, Ne.symm hdh]
  -- the main template's analysis
  have hinv0 : MInvD m 0 ⟨false, [], [], []⟩ := ⟨fun k _ => ⟨rfl, rfl, rfl⟩, fun _ => ⟨by simp, by simp⟩⟩
  have hl := refD env rfl m h dn cc cc' hdn hdm hdh hcc hcc' trh (hps.length + 1) s1 hlookH hlookd hlH hoe hk ms 0 {} cf
    ⟨false, [], [], []⟩ es f' hM hinv0 hokM (by omega)
  obtain ⟨kA, kT, kX⟩ := runD_keys v m dn hdm cc' s1.actionEdits s1.textEdits hk.1 hk.2.1 hk.2.2.1 hk.2.2.2 ms
    0 {} ⟨false, [], [], []⟩ hinv0 ⟨by simp, by simp⟩ ⟨by simp, by simp⟩ ⟨by simp, by simp⟩
  have hfind := fun k => find_d_false v m dn hdm cc cc' s1.actionEdits s1.textEdits ms 0 {} cf ⟨false, [], [], []⟩ es k
    hM rfl (by simp) (by simp) hcall
  have hflag := (hfind 0).1
  generalize hstF : runD v m dn cc' s1.actionEdits s1.textEdits 0 {} ms ⟨false, [], [], []⟩ = stF at hl kA kT kX hflag hfind
  obtain ⟨fl, A, T, X⟩ := stF
  simp only at hflag kA kT kX
  subst hflag
  have e0 : escOfD m dn cc cc' { trh with name := dn } ⟨false, [], [], []⟩ = escD0 m [] [] [] := by simp [escOfD]
  have e1' : escOfD m dn cc cc' { trh with name := dn } ⟨true, A, T, X⟩ =
      escD1 m dn cc cc' { trh with name := dn } A T X := by simp [escOfD]
  rw [e0, e1', ← hrootM] at hl
  have het := escapeTree_mainD env m dn hdm cc cc' _ trm cf A T X hlookM f' hl kA.2 kT.2 kX.2 hne
  -- commit
  have happm := fun pr => applyD v m h dn hdm cc cc' s1.actionEdits s1.textEdits hk.1 hk.2.2.1
    { escAfterD m dn cc cc' { trh with name := dn } cf A T X with pristine := pr }
    ms 0 {} cf ⟨false, [], [], []⟩ es hM hinv0 hokM (by intro k _; rw [hstF]; exact ⟨rfl, rfl, rfl⟩)
  have hagree : ∀ pr, Agree dn (0 + hps.length)
      { escAfterD m dn cc cc' { trh with name := dn } cf A T X with pristine := pr }
      (editsOf v dn 0 cc hps (scratchD m dn cc)) := by
    intro pr k _
    rw [hs1]
    exact (hfind k).2
  have happd := fun pr => applyEdits_out v dn
    { escAfterD m dn cc cc' { trh with name := dn } cf A T X with pristine := pr }
    hps 0 cc cc' (scratchD m dn cc) esH asH hH hfreshH hasH (hagree pr)
  obtain ⟨E', hc⟩ := commit_derived m h dn hmh hdm hdh cc cc' trm trh { trh with name := dn } cf A T X _ _ kA.1 kT.1 kX.1
    (fun pr => hrootM ▸ happm pr) (fun pr => by have := happd pr; rw [← hrootH] at this; exact this)
  exact ⟨_, E', het, hc⟩

theorem C01_api_main_plus_derived_helper (v : Validators) (fuel : Nat) (m h : String) (hmh : m ≠ h) (trm trh : Tree)
    (ms : List MP) (hps : List Piece) (asH : List Arg) (cc cc' cf : Ctx) (es : List EM) (esH : List EPiece)
    (hnm : trm.name = m) (hnh : trh.name = h)
    (hrootM : trm.root = NodeList.ofList (nodesM h 0 ms))
    (hrootH : trh.root = NodeList.ofList (toNodesA 0 hps asH))
    (hokM : ArgsOKM ms) (hasH : ∀ a ∈ asH, ActArg a) (hcall : MP.call ∈ ms)
    (htop : TopCtx cc = false) (hcoll : mangle cc h ≠ m) (hcc : cc.state ≠ .error) (hcc' : cc'.state ≠ .error)
    (hH : analyse v cc hps = some (cc', esH)) (hM : analyseD v cc cc' {} ms = some (cf, es))
    (hs : SimpleAll v {} (inlineP hps ms))
    (hfin : finalError cf = none) (hf : ms.length + hps.length + 9 ≤ fuel) (d1 d2 : Value)
    (hu1 : ∀ vs, valsM d1 esH asH es = some vs → ∀ x ∈ vs, Untrusted x)
    (hu2 : ∀ vs, valsM d2 esH asH es = some vs → ∀ x ∈ vs, Untrusted x)
    (o1 o2 : Bytes) (w1 w2 : World)
    (h1 : Api.step (setup2 v fuel m trm trh) (.exec 0 d1) = (w1, .exec (.ok o1)))
    (h2 : Api.step (setup2 v fuel m trm trh) (.exec 0 d2) = (w2, .exec (.ok o2))) :
    skeleton (HtmlTok.tokenize o1).tokens = skeleton (HtmlTok.tokenize o2).tokens ∧
    (HtmlTok.tokenize o1).final = .data ∧ (HtmlTok.tokenize o2).final = .data := by
  obtain ⟨f', rfl⟩ : ∃ f', fuel = f' + 3 := ⟨fuel - 3, by omega⟩
  obtain ⟨E, E', het, hc⟩ := derived_first v f' m h hmh trm trh ms hps asH cc cc' cf es esH hrootM hrootH hokM hasH hcall
    htop hcoll hcc hcc' hH hM hfin hf
  have hdh : mangle cc h ≠ h := mangle_ne_self cc h htop
  generalize hdn : mangle cc h = dn at hcoll hdh hc
  have hdm : dn ≠ m := hcoll
  have hmh' : (m == h) = false := by simpa using hmh
  have hhm' : (h == m) = false := by simpa using (Ne.symm hmh)
  have hmd' : (m == dn) = false := by simpa using (Ne.symm hdm)
  have hhd' : (h == dn) = false := by simpa using (Ne.symm hdh)
  exact C01_of_first2 v (f' + 3) m h hmh trm trh hnm hnh dn { trm with root := NodeList.ofList (outM dn 0 es) }
    { ({ trh with name := dn } : Tree) with root := NodeList.ofList (outNodes 0 esH asH) } _ cf E E' es esH asH hasH _
    het hfin hc (by simp [TextSet.lookup]) rfl
    (by simp [TextSet.lookup, hmd', hhd', hdm, hdh, Ne.symm hdm, Ne.symm hdh]) rfl
    (analyseD_args v cc cc' ms {} cf es hM hokM) hs (analyseD_inline v cc cc' hps esH hH ms {} cf es hM) d1 d2 hu1 hu2
    o1 o2 w1 w2 h1 h2

/-- `C01_api_main_plus_derived_helper` with the grammar hypothesis stated separately for the two templates -/
theorem C01_api_main_plus_derived_helper' (v : Validators) (fuel : Nat) (m h : String) (hmh : m ≠ h) (trm trh : Tree)
    (ms : List MP) (hps : List Piece) (asH : List Arg) (cc cc' cf : Ctx) (es : List EM) (esH : List EPiece)
    (hnm : trm.name = m) (hnh : trh.name = h)
    (hrootM : trm.root = NodeList.ofList (nodesM h 0 ms))
    (hrootH : trh.root = NodeList.ofList (toNodesA 0 hps asH))
    (hokM : ArgsOKM ms) (hasH : ∀ a ∈ asH, ActArg a) (hcall : MP.call ∈ ms)
    (htop : TopCtx cc = false) (hcoll : mangle cc h ≠ m) (hcc : cc.state ≠ .error) (hcc' : cc'.state ≠ .error)
    (hH : analyse v cc hps = some (cc', esH)) (hM : analyseD v cc cc' {} ms = some (cf, es))
    (hsH : SimpleAll v cc hps) (hsM : SimpleD v cc' {} ms)
    (hfin : finalError cf = none) (hf : ms.length + hps.length + 9 ≤ fuel) (d1 d2 : Value)
    (hu1 : ∀ vs, valsM d1 esH asH es = some vs → ∀ x ∈ vs, Untrusted x)
    (hu2 : ∀ vs, valsM d2 esH asH es = some vs → ∀ x ∈ vs, Untrusted x)
    (o1 o2 : Bytes) (w1 w2 : World)
    (h1 : Api.step (setup2 v fuel m trm trh) (.exec 0 d1) = (w1, .exec (.ok o1)))
    (h2 : Api.step (setup2 v fuel m trm trh) (.exec 0 d2) = (w2, .exec (.ok o2))) :
    skeleton (HtmlTok.tokenize o1).tokens = skeleton (HtmlTok.tokenize o2).tokens ∧
    (HtmlTok.tokenize o1).final = .data ∧ (HtmlTok.tokenize o2).final = .data :=
  C01_api_main_plus_derived_helper v fuel m h hmh trm trh ms hps asH cc cc' cf es esH hnm hnh hrootM hrootH hokM hasH
    hcall htop hcoll hcc hcc' hH hM (SimpleAll_inlineD v cc cc' hps esH hH hsH ms {} cf es hM hsM) hfin hf d1 d2 hu1 hu2
    o1 o2 w1 w2 h1 h2

/-! ### non-vacuity (1): the helper `<b>{{.T}}</b>` called inside an element, main `<p>{{template "h" .}}</p>` -/

def pO : Bytes := [60, 112, 62]          -- `<p>`
def pC : Bytes := [60, 47, 112, 62]      -- `</p>`
def bO : Bytes := [60, 98, 62]           -- `<b>`
def bC : Bytes := [60, 47, 98, 62]       -- `</b>`
example : B "<p>" = pO ∧ B "</p>" = pC ∧ B "<b>" = bO ∧ B "</b>" = bC := by decide +kernel

def cP : Ctx := { state := .text, elemName := [112] }
def cB : Ctx := { state := .text, elemName := [98] }

def exM1 : List MP := [.text pO, .call, .text pC]
def exM1Out : List EM := [.text pO, .call, .text pC]
def exH1 : List Piece := [.text bO, .action, .text bC]
def exH1Out : List EPiece := [.text bO, .action ["_sanitizeHTML"], .text bC]
def exArgs1 : List Arg := [.field ["T"]]
def exM1Tree : Tree := { name := "main", root := NodeList.ofList (nodesM "h" 0 exM1) }
def exH1Tree : Tree := { name := "h", root := NodeList.ofList (toNodesA 0 exH1 exArgs1) }

/-- the derived name -/
example : mangle cP "h" = "h$htmltemplate_StateText_elementP" := by decide +kernel

theorem ex1_helper : analyse v0 cP exH1 = some ({}, exH1Out) := by decide +kernel
theorem ex1_main : analyseD v0 cP {} {} exM1 = some ({}, exM1Out) := by decide +kernel

theorem ex1_scan0 : scanD {} pO = (cP, pO) := by decide +kernel
theorem ex1_scan1 : scanD {} pC = ({}, pC) := by decide +kernel
theorem ex1_scanH0 : scanD cP bO = (cB, bO) := by decide +kernel
theorem ex1_actH : actionStep v0 cB = some (cB, ["_sanitizeHTML"]) := by decide +kernel
theorem ex1_scanH1 : scanD cB bC = ({}, bC) := by decide +kernel

theorem ex1_simple_pO : Simple false [] .text .none pO pO .text :=
  Simple.openTag [] [] 112 [] _ _ (by decide) (by decide) (by decide) (by decide) (by decide)
    (Simple.tagEnd _ [] [] [] [] (by decide) (fun h => absurd h (by decide)) (Simple.nil _ _ _))
theorem ex1_simple_pC : Simple false [] .text .none pC pC .text :=
  Simple.closeTag _ [] 112 [] _ _ (by decide) (by decide) (by decide)
    (Simple.tagEnd _ [] [] [] [] (by decide) (fun h => absurd h (by decide)) (Simple.nil _ _ _))
theorem ex1_simple_bO : Simple false [112] .text .none bO bO .text :=
  Simple.openTag [112] [] 98 [] _ _ (by decide) (by decide) (by decide) (by decide) (by decide)
    (Simple.tagEnd _ [] [] [] [] (by decide) (fun h => absurd h (by decide)) (Simple.nil _ _ _))
theorem ex1_simple_bC : Simple false [98] .text .none bC bC .text :=
  Simple.closeTag _ [] 98 [] _ _ (by decide) (by decide) (by decide)
    (Simple.tagEnd _ [] [] [] [] (by decide) (fun h => absurd h (by decide)) (Simple.nil _ _ _))

theorem ex1_simpleM : SimpleD v0 {} {} exM1 := by
  simp only [exM1, SimpleD, ex1_scan0, ex1_scan1]
  exact ⟨⟨false, pO, .text, ex1_simple_pO, fun h => absurd h (by decide), fun h => by simp at h⟩,
    ⟨false, pC, .text, ex1_simple_pC, fun h => absurd h (by decide), fun h => by simp at h⟩, trivial⟩

theorem ex1_simpleH : SimpleAll v0 cP exH1 := by
  simp only [exH1, SimpleAll, ex1_scanH0, ex1_actH, ex1_scanH1]
  refine ⟨⟨false, bO, .text, ex1_simple_bO, fun h => absurd h (by decide), fun h => by simp at h⟩, ?_, ?_⟩
  · intro h; cases h
  · exact ⟨⟨false, bC, .text, ex1_simple_bC, fun h => absurd h (by decide), fun h => by simp at h⟩, trivial⟩

theorem ex1_vals (b : Bytes) : valsM (exData b) exH1Out exArgs1 exM1Out = some [.str b] := by
  simp [valsM, exM1Out, exH1Out, exArgs1, argVals, argVal, fieldChain, exData, Value.indirect, KVList.get]

/-- the output of the example for the value `"><`: `<p><b>&#34;&gt;&lt;</b></p>` -/
example : retBytes (Api.step (setup2 v0 100 "main" exM1Tree exH1Tree) (.exec 0 (exData [34, 62, 60]))).2 =
    [60, 112, 62, 60, 98, 62, 38, 35, 51, 52, 59, 38, 103, 116, 59, 38, 108, 116, 59, 60, 47, 98, 62, 60, 47, 112, 62] := by
  decide +kernel

theorem ex_api_derived_element (b1 b2 o1 o2 : Bytes) (w1 w2 : World)
    (h1 : Api.step (setup2 v0 100 "main" exM1Tree exH1Tree) (.exec 0 (exData b1)) = (w1, .exec (.ok o1)))
    (h2 : Api.step (setup2 v0 100 "main" exM1Tree exH1Tree) (.exec 0 (exData b2)) = (w2, .exec (.ok o2))) :
    skeleton (HtmlTok.tokenize o1).tokens = skeleton (HtmlTok.tokenize o2).tokens ∧
    (HtmlTok.tokenize o1).final = .data ∧ (HtmlTok.tokenize o2).final = .data :=
  C01_api_main_plus_derived_helper' v0 100 "main" "h" (by decide) exM1Tree exH1Tree exM1 exH1 exArgs1 cP {} {} exM1Out
    exH1Out rfl rfl rfl rfl trivial
    (by intro a ha; simp [exArgs1] at ha; subst ha; exact Or.inr ⟨_, rfl⟩) (by simp [exM1])
    (by decide) (by decide +kernel) (by decide) (by decide)
    ex1_helper ex1_main ex1_simpleH ex1_simpleM (by decide) (by decide) _ _
    (by rw [ex1_vals]; intro vs hv x hx; cases hv; simp at hx; subst hx; intro t y h; simp [Value.indirect] at h)
    (by rw [ex1_vals]; intro vs hv x hx; cases hv; simp at hx; subst hx; intro t y h; simp [Value.indirect] at h)
    o1 o2 w1 w2 h1 h2

/-! ### non-vacuity (2): the helper `a {{.T}} b` called inside a quoted attribute value, main
    `<p title="{{template "h" .}}">x</p>` -/

def tE : Bytes := [34, 62, 120, 60, 47, 112, 62]      -- `">x</p>`
def hA : Bytes := [97, 32]                            -- `a `
def hB : Bytes := [32, 98]                            -- ` b`
example : B "\">x</p>" = tE ∧ B "a " = hA ∧ B " b" = hB := by decide +kernel

def cA1 : Ctx := { cAttr with attrValue := [97, 32] }
def cA2 : Ctx := { cAttr with attrValue := [97, 32, 32, 98] }

def exM2 : List MP := [.text t0, .call, .text tE]
def exM2Out : List EM := [.text t0, .call, .text tE]
def exH2 : List Piece := [.text hA, .action, .text hB]
def exH2Out : List EPiece := [.text hA, .action ["_evalArgs", "_sanitizeHTML"], .text hB]
def exM2Tree : Tree := { name := "main", root := NodeList.ofList (nodesM "h" 0 exM2) }
def exH2Tree : Tree := { name := "h", root := NodeList.ofList (toNodesA 0 exH2 exArgs1) }

example : mangle cAttr "h" = "h$htmltemplate_StateAttr_DelimDoubleQuote_attrTitle_elementP" := by decide +kernel

theorem ex2_helper : analyse v0 cAttr exH2 = some (cA2, exH2Out) := by decide +kernel
theorem ex2_main : analyseD v0 cAttr cA2 {} exM2 = some ({}, exM2Out) := by decide +kernel

theorem ex2_scan1 : scanD cA2 tE = ({}, tE) := by decide +kernel
theorem ex2_scanH0 : scanD cAttr hA = (cA1, hA) := by decide +kernel
theorem ex2_actH : actionStep v0 cA1 = some (cA1, ["_evalArgs", "_sanitizeHTML"]) := by decide +kernel
theorem ex2_scanH1 : scanD cA1 hB = (cA2, hB) := by decide +kernel

theorem ex2_simple_tE : Simple false [112] .attr .dq tE tE .text :=
  Simple.closeQ _ .dq [] _ _ (Or.inl rfl) (by decide)
    (Simple.tagEnd _ [] [] _ _ (by decide) (fun h => absurd h (by decide))
      (Simple.closeTag _ [120] 112 [] _ _ (by decide) (by decide) (by decide)
        (Simple.tagEnd _ [] [] [] [] (by decide) (fun h => absurd h (by decide)) (Simple.nil _ _ _))))
theorem ex2_simple_hA : Simple false [112] .attr .dq hA hA .attr :=
  Simple.val _ .dq _ (Or.inl rfl) (by decide) (by decide)
theorem ex2_simple_hB : Simple false [112] .attr .dq hB hB .attr :=
  Simple.val _ .dq _ (Or.inl rfl) (by decide) (by decide)

theorem ex2_simpleM : SimpleD v0 cA2 {} exM2 := by
  simp only [exM2, SimpleD, ex_scan0, ex2_scan1]
  exact ⟨⟨false, t0, .attr, ex_simple0, fun h => absurd h (by decide), fun h => by simp at h⟩,
    ⟨false, tE, .text, ex2_simple_tE, fun h => absurd h (by decide), fun h => by simp at h⟩, trivial⟩

theorem ex2_simpleH : SimpleAll v0 cAttr exH2 := by
  simp only [exH2, SimpleAll, ex2_scanH0, ex2_actH, ex2_scanH1]
  refine ⟨⟨false, hA, .attr, ex2_simple_hA, fun h => absurd h (by decide), fun h => by simp at h⟩, ?_, ?_⟩
  · intro h; cases h
  · exact ⟨⟨false, hB, .attr, ex2_simple_hB, fun h => absurd h (by decide), fun h => by simp at h⟩, trivial⟩

theorem ex2_vals (b : Bytes) : valsM (exData b) exH2Out exArgs1 exM2Out = some [.str b] := by
  simp [valsM, exM2Out, exH2Out, exArgs1, argVals, argVal, fieldChain, exData, Value.indirect, KVList.get]

/-- the output of the example for the value `"><`: `<p title="a &#34;&gt;&lt; b">x</p>` -/
example : retBytes (Api.step (setup2 v0 100 "main" exM2Tree exH2Tree) (.exec 0 (exData [34, 62, 60]))).2 =
    [60, 112, 32, 116, 105, 116, 108, 101, 61, 34, 97, 32, 38, 35, 51, 52, 59, 38, 103, 116, 59, 38, 108, 116, 59, 32, 98,
     34, 62, 120, 60, 47, 112, 62] := by
  decide +kernel

theorem ex_api_derived_attr (b1 b2 o1 o2 : Bytes) (w1 w2 : World)
    (h1 : Api.step (setup2 v0 100 "main" exM2Tree exH2Tree) (.exec 0 (exData b1)) = (w1, .exec (.ok o1)))
    (h2 : Api.step (setup2 v0 100 "main" exM2Tree exH2Tree) (.exec 0 (exData b2)) = (w2, .exec (.ok o2))) :
    skeleton (HtmlTok.tokenize o1).tokens = skeleton (HtmlTok.tokenize o2).tokens ∧
    (HtmlTok.tokenize o1).final = .data ∧ (HtmlTok.tokenize o2).final = .data :=
  C01_api_main_plus_derived_helper' v0 100 "main" "h" (by decide) exM2Tree exH2Tree exM2 exH2 exArgs1 cAttr cA2 {} exM2Out
    exH2Out rfl rfl rfl rfl trivial
    (by intro a ha; simp [exArgs1] at ha; subst ha; exact Or.inr ⟨_, rfl⟩) (by simp [exM2])
    (by decide) (by decide +kernel) (by decide) (by decide)
    ex2_helper ex2_main ex2_simpleH ex2_simpleM (by decide) (by decide) _ _
    (by rw [ex2_vals]; intro vs hv x hx; cases hv; simp at hx; subst hx; intro t y h; simp [Value.indirect] at h)
    (by rw [ex2_vals]; intro vs hv x hx; cases hv; simp at hx; subst hx; intro t y h; simp [Value.indirect] at h)
    o1 o2 w1 w2 h1 h2

/-! ### non-vacuity (3): memo hit — the helper `{{.T}}, ` called twice inside an element, main
    `<p>{{template "h" .}}{{template "h" .}}{{.T}}</p>` -/

def hS : Bytes := [44, 32]                            -- `, `
example : B ", " = hS := by decide +kernel

def exM3 : List MP := [.text pO, .call, .call, .action (.field ["T"]), .text pC]
def exM3Out : List EM := [.text pO, .call, .call, .action (.field ["T"]) ["_sanitizeHTML"], .text pC]
def exH3 : List Piece := [.action, .text hS]
def exH3Out : List EPiece := [.action ["_sanitizeHTML"], .text hS]
def exM3Tree : Tree := { name := "main", root := NodeList.ofList (nodesM "h" 0 exM3) }
def exH3Tree : Tree := { name := "h", root := NodeList.ofList (toNodesA 0 exH3 exArgs1) }

theorem ex3_helper : analyse v0 cP exH3 = some (cP, exH3Out) := by decide +kernel
theorem ex3_main : analyseD v0 cP cP {} exM3 = some ({}, exM3Out) := by decide +kernel

theorem ex3_scan1 : scanD cP pC = ({}, pC) := by decide +kernel
theorem ex3_act : actionStep v0 cP = some (cP, ["_sanitizeHTML"]) := by decide +kernel
theorem ex3_scanH : scanD cP hS = (cP, hS) := by decide +kernel

theorem ex3_simple_pC : Simple false [112] .text .none pC pC .text :=
  Simple.closeTag _ [] 112 [] _ _ (by decide) (by decide) (by decide)
    (Simple.tagEnd _ [] [] [] [] (by decide) (fun h => absurd h (by decide)) (Simple.nil _ _ _))
theorem ex3_simple_hS : Simple false [112] .text .none hS hS .text :=
  Simple.text [112] hS (by decide) (by decide)

theorem ex3_simpleM : SimpleD v0 cP {} exM3 := by
  simp only [exM3, SimpleD, ex1_scan0, ex3_scan1, ex3_act]
  refine ⟨⟨false, pO, .text, ex1_simple_pO, fun h => absurd h (by decide), fun h => by simp at h⟩, ?_, ?_⟩
  · intro h; cases h
  · exact ⟨⟨false, pC, .text, ex3_simple_pC, fun h => absurd h (by decide), fun h => by simp at h⟩, trivial⟩

theorem ex3_simpleH : SimpleAll v0 cP exH3 := by
  simp only [exH3, SimpleAll, ex3_act, ex3_scanH]
  refine ⟨?_, ⟨false, hS, .text, ex3_simple_hS, fun h => absurd h (by decide), fun h => by simp at h⟩, trivial⟩
  intro h; cases h

theorem ex3_vals (b : Bytes) : valsM (exData b) exH3Out exArgs1 exM3Out = some [.str b, .str b, .str b] := by
  simp [valsM, exM3Out, exH3Out, exArgs1, argVals, argVal, fieldChain, exData, Value.indirect, KVList.get]

theorem ex_api_derived_twice (b1 b2 o1 o2 : Bytes) (w1 w2 : World)
    (h1 : Api.step (setup2 v0 100 "main" exM3Tree exH3Tree) (.exec 0 (exData b1)) = (w1, .exec (.ok o1)))
    (h2 : Api.step (setup2 v0 100 "main" exM3Tree exH3Tree) (.exec 0 (exData b2)) = (w2, .exec (.ok o2))) :
    skeleton (HtmlTok.tokenize o1).tokens = skeleton (HtmlTok.tokenize o2).tokens ∧
    (HtmlTok.tokenize o1).final = .data ∧ (HtmlTok.tokenize o2).final = .data :=
  C01_api_main_plus_derived_helper' v0 100 "main" "h" (by decide) exM3Tree exH3Tree exM3 exH3 exArgs1 cP cP {} exM3Out
    exH3Out rfl rfl rfl rfl ⟨Or.inr ⟨_, rfl⟩, trivial⟩
    (by intro a ha; simp [exArgs1] at ha; subst ha; exact Or.inr ⟨_, rfl⟩) (by simp [exM3])
    (by decide) (by decide +kernel) (by decide) (by decide)
    ex3_helper ex3_main ex3_simpleH ex3_simpleM (by decide) (by decide) _ _
    (by rw [ex3_vals]; intro vs hv x hx; cases hv; simp at hx; subst hx; intro t y h; simp [Value.indirect] at h)
    (by rw [ex3_vals]; intro vs hv x hx; cases hv; simp at hx; subst hx; intro t y h; simp [Value.indirect] at h)
    o1 o2 w1 w2 h1 h2

/-- the output of the example for the value `"><`: `<p>&#34;&gt;&lt;, &#34;&gt;&lt;, &#34;&gt;&lt;</p>` -/
example : retBytes (Api.step (setup2 v0 100 "main" exM3Tree exH3Tree) (.exec 0 (exData [34, 62, 60]))).2 =
    [60, 112, 62, 38, 35, 51, 52, 59, 38, 103, 116, 59, 38, 108, 116, 59, 44, 32, 38, 35, 51, 52, 59, 38, 103, 116, 59, 38,
     108, 116, 59, 44, 32, 38, 35, 51, 52, 59, 38, 103, 116, 59, 38, 108, 116, 59, 60, 47, 112, 62] := by
  decide +kernel

end SafeHtml.Proofs.Layer3Derived
