/-
CSP monotonicity: a CSP-compatible set (`(*Template).CSPCompatible()`, the flag `csp` of `NS` / `Env`) only ever REFUSES
more. The flag is read in one place of the model, `escapeTextNode` (the two tests of `EscapeText.lean`: `javascript:` in a
text, a text inside an `on*` attribute). So a run under `envOff env` returns what the run under `env` returns unless the
latter fails or ends in an error context (`analysis_mono`; error contexts must be well formed, see `IllFormed`), a
successful `Execute` is the same `Execute` without the flag (`step_exec_wOff`), and the C01 theorems transfer (section 4).
-/
import SafeHtml.Proofs.Layer3Helpers
import SafeHtml.Proofs.ConcReach
namespace SafeHtml.Proofs.CspMono
open SafeHtml SafeHtml.Model SafeHtml.Model.Tmpl SafeHtml.Proofs.Analysis SafeHtml.Proofs.Frozen SafeHtml.Proofs.ConcApi

/-! ## 1. text level -/

abbrev cspErr : Ctx := Ctx.errorCtx .cspCompatibility

theorem escapeTextLoop_mono (s : Bytes) : ∀ (f : Nat) (st : ETState) (r : Option ETState ⊕ ETResult),
    escapeTextLoop true s f st = r →
    r = .inr (.done (Ctx.errorCtx .cspCompatibility) none) ∨ escapeTextLoop false s f st = r := by
  intro f
  induction f with
  | zero => intro st r h; right; rw [← h]; rfl
  | succ f ih =>
    intro st r h
    subst h
    rw [escapeTextLoop_succ, escapeTextLoop_succ]
    simp only [Bool.true_and, Bool.false_and, Bool.false_eq_true, if_false]
    split
    · right; rfl
    · split
      · left; rfl
      · split
        · right; rfl
        · split
          · right; rfl
          · exact ih _ _ rfl

theorem escapeText_mono (c : Ctx) (s : Bytes) (r : ETResult) (h : escapeText true c s = r) :
    r = .done (Ctx.errorCtx .cspCompatibility) none ∨ escapeText false c s = r := by
  subst h
  unfold escapeText
  simp only [Bool.true_and, Bool.false_and, Bool.false_eq_true, if_false]
  split
  · left; rfl
  · rcases escapeTextLoop_mono s (2 * s.length + 2) { c := c, i := 0, written := 0, b := [] } _ rfl with h | h
    · left; rw [h]
    · right; rw [h]

theorem escapeText_mono' (csp : Bool) (c : Ctx) (s : Bytes) :
    escapeText csp c s = .done (Ctx.errorCtx .cspCompatibility) none ∨ escapeText false c s = escapeText csp c s := by
  cases csp with
  | false => right; rfl
  | true => exact escapeText_mono c s _ rfl

theorem escapeText_csp_success (c : Ctx) (s : Bytes) (c' : Ctx) (nt : Option Bytes)
    (h : escapeText true c s = .done c' nt) (hne : c'.state ≠ .error) : escapeText false c s = .done c' nt := by
  rcases escapeText_mono c s _ h with h1 | h1
  · cases h1; exact absurd rfl hne
  · exact h1

/-! non-vacuity at the text level -/

/-- decidable form of `r = .done c nt` (`ETResult` has no `DecidableEq`) -/
def resIs (r : ETResult) (c : Ctx) (nt : Option Bytes) : Bool :=
  match r with
  | .done c' nt' => decide (c' = c) && decide (nt' = nt)
  | .panic => false

theorem resIs_eq {r : ETResult} {c : Ctx} {nt : Option Bytes} (h : resIs r c nt = true) : r = .done c nt := by
  cases r with
  | panic => cases h
  | done c' nt' =>
    simp only [resIs, Bool.and_eq_true, decide_eq_true_eq] at h
    rw [h.1, h.2]

/-- `<b>` in the text state: accepted with the flag -/
example : escapeText true {} [60, 98, 62] = .done { elemName := [98] } none := resIs_eq (by decide +kernel)
/-- `javascript:` anywhere in a text: refused with the flag, accepted without -/
example : escapeText true {} jsUri = .done (Ctx.errorCtx .cspCompatibility) none ∧
    escapeText false {} jsUri = .done {} none := ⟨resIs_eq (by decide +kernel), resIs_eq (by decide +kernel)⟩
/-- a text inside an `onclick` attribute value: refused with the flag, accepted without -/
example : escapeText true { state := .attr, delim := .dq, attrName := [111, 110, 99, 108, 105, 99, 107] } [120] =
      .done (Ctx.errorCtx .cspCompatibility) none ∧
    escapeText false { state := .attr, delim := .dq, attrName := [111, 110, 99, 108, 105, 99, 107] } [120] =
      .done { state := .attr, delim := .dq, attrName := [111, 110, 99, 108, 105, 99, 107], attrValue := [120] } none :=
  ⟨resIs_eq (by decide +kernel), resIs_eq (by decide +kernel)⟩

/-! ## 2. analysis level

### 2a. error contexts are well formed and sticky

`ErrWF c` (from `Frozen`): a context in the error state is literally `Ctx.errorCtx code`. Every context the engine
computes has this property; it is what makes the error state absorbing (an ill-formed "error" context with a
delimiter could be left again by a text node). The memo table `e.output` must have it, too. -/

def envOff (env : Env) : Env := { env with csp := false }

def MemoWF (e : Esc) : Prop := ∀ p ∈ e.output, ErrWF p.2

theorem memoWF_empty : MemoWF {} := fun _ h => nomatch h

theorem memoWF_of_base {text : TextSet} {e : Esc} (hb : Base text e) : MemoWF e := by
  intro p hp
  obtain ⟨b1, _, _, b4, _⟩ := hb
  exact b4 p.1 p.2 (alookup_of_mem e.output b1 p hp)

theorem join_state_err (a b : Ctx) (h : a.state = .error ∨ b.state = .error) : (join a b).state = .error := by
  by_cases hj : (join a b).state = .error
  · exact hj
  · obtain ⟨h1, h2⟩ := join_ne a b hj
    rcases h with h | h
    · exact absurd h h1
    · exact absurd h h2

theorem analysis_isErr (env : Env) : ∀ f,
    (∀ tn e c n r, IsErr c → escapeNode env f tn e c n = .ok r → IsErr r.2) ∧
    (∀ tn e c l r, IsErr c → escapeList env f tn e c l = .ok r → IsErr r.2) ∧
    (∀ tn e c t el b r, IsErr c → escapeBranch env f tn e c t el b = .ok r → IsErr r.2) ∧
    (∀ e c name r, IsErr c → escapeTree env f e c name = .ok r → IsErr r.2.1) ∧
    (∀ e c tname t r, IsErr c → computeOutCtx env f e c tname t = .ok r → IsErr r.2) ∧
    (∀ e c tname t r, IsErr c → escapeTemplateBody env f e c tname t = .ok r → IsErr r.2.1) := by
  refine fuel_induction ⟨?_, ?_, ?_, ?_, ?_, ?_⟩ ?_ ?_ ?_ ?_ ?_ ?_
  · intro _ _ _ _ _ _ h; rw [escapeNode_zero] at h; cases h
  · intro _ _ _ _ _ _ h; rw [escapeList_zero] at h; cases h
  · intro _ _ _ _ _ _ _ _ h; rw [escapeBranch_zero] at h; cases h
  · intro _ _ _ _ _ h; rw [escapeTree_zero] at h; cases h
  · intro _ _ _ _ _ _ h; rw [computeOutCtx_zero] at h; cases h
  · intro _ _ _ _ _ _ h; rw [escapeTemplateBody_zero] at h; cases h
  · intro f hb ht tn e c n r hc h
    cases n with
    | action id p =>
      rw [escapeNode_action] at h
      obtain ⟨_, hw, hs⟩ := escapeAction_core env tn e c id p r h hc.wf
      exact hw (hs hc.state)
    | text id b =>
      rw [escapeNode_text] at h
      obtain ⟨_, hw, hs⟩ := escapeTextNode_core env tn e c id b r h hc.wf
      exact hw (hs hc.state)
    | ifN id p t el => rw [escapeNode_if] at h; exact hb _ _ _ _ _ _ _ hc h
    | withN id p t el => rw [escapeNode_with] at h; exact hb _ _ _ _ _ _ _ hc h
    | rangeN id p t el => rw [escapeNode_range] at h; exact hb _ _ _ _ _ _ _ hc h
    | tmpl id name p =>
      obtain ⟨e1, d, h1, _⟩ := escapeNode_tmpl_ok h
      exact ht _ _ _ _ hc h1
    | brk id => rw [escapeNode_brk] at h; cases h; exact ⟨_, rfl⟩
    | cont id => rw [escapeNode_cont] at h; cases h; exact ⟨_, rfl⟩
    | comment id => rw [escapeNode_comment] at h; cases h; exact ⟨_, rfl⟩
  · intro f hn hl tn e c l r hc h
    cases l with
    | nil => rw [escapeList_nil] at h; cases h; exact hc
    | cons n ns =>
      obtain ⟨e1, c1, h1, h2⟩ := escapeList_cons_ok h
      exact hl _ _ _ _ _ (hn _ _ _ _ _ hc h1) h2
  · intro f hl tn e c t el b r hc h
    -- the then-list ends in an error `c0`, so there is no re-entry check and the join returns `c0`
    obtain ⟨e1, c0, h1, h2⟩ := escapeBranch_ok h
    have h0 := hl _ _ _ _ _ hc h1
    rcases h2 with ⟨hb, _⟩ | ⟨_, e2, c2, _, rfl⟩
    · rw [h0.state] at hb; cases b <;> cases hb
    · rw [join_isErr c0 c2 h0]; exact h0
  · intro f ho e c name r hc h
    rcases escapeTree_ok h with ⟨_, rfl⟩ | ⟨hne, _⟩ | ⟨hne, _⟩ | ⟨hne, _⟩
    · exact hc
    · exact absurd hc.state hne
    · exact absurd hc.state hne
    · exact absurd hc.state hne
  · intro f hy e c tname t r hc h
    obtain ⟨e1, c1, ok1, h1, h2⟩ := computeOutCtx_ok h
    have s1 := hy _ _ _ _ _ hc h1
    rcases h2 with ⟨_, rfl⟩ | ⟨_, e2, c2, ok2, h3, h4⟩
    · exact s1
    · rcases h4 with ⟨_, rfl⟩ | ⟨_, _, rfl⟩ | ⟨_, _, rfl⟩
      · exact hy _ _ _ _ _ s1 h3
      · exact ⟨_, rfl⟩
      · exact s1
  · intro f hl e c tname t r hc h
    obtain ⟨tr, e1, c1, _, h1, h2⟩ := escapeTemplateBody_ok h
    have s1 := hl _ _ _ _ _ hc h1
    rcases h2 with ⟨_, _, _, _, rfl⟩ | ⟨_, rfl⟩ <;> exact s1

/-! ### 2b. monotonicity: the run without the flag gives the same result, or the run with the flag fails -/

def Bad {α} (ctx : α → Ctx) : Out α → Prop
  | .ok a => (ctx a).state = .error
  | .panic _ => True
  | .fuel => True

/-- `x` = run under `env`, `x'` = run under `envOff env` -/
def Mono {α} (ctx : α → Ctx) (x x' : Out α) : Prop := x' = x ∨ Bad ctx x

theorem Mono.refl {α} (ctx : α → Ctx) (x : Out α) : Mono ctx x x := .inl rfl

theorem bad_of_ok {α} {ctx : α → Ctx} {x : Out α} (h : ∀ a, x = .ok a → (ctx a).state = .error) : Bad ctx x := by
  cases x with
  | ok a => exact h a rfl
  | panic m => trivial
  | fuel => trivial

theorem bad_bind {α β} {cb : β → Ctx} {x : Out α} {g : α → Out β} (h : ∀ a, x = .ok a → Bad cb (g a)) :
    Bad cb (x >>= g) := by
  cases x with
  | ok a => exact h a rfl
  | panic m => trivial
  | fuel => trivial

theorem mono_bind {α β} {ca : α → Ctx} {cb : β → Ctx} {x x' : Out α} {g g' : α → Out β} (h : Mono ca x x')
    (hg : ∀ a, x = .ok a → (ca a).state ≠ .error → Mono cb (g a) (g' a))
    (hbad : ∀ a, x = .ok a → (ca a).state = .error → Bad cb (g a)) : Mono cb (x >>= g) (x' >>= g') := by
  cases x with
  | ok a =>
    by_cases he : (ca a).state = .error
    · exact .inr (hbad a rfl he)
    · rcases h with h | h
      · rw [h]; exact hg a rfl he
      · exact absurd h he
  | panic m => exact .inr trivial
  | fuel => exact .inr trivial

theorem mono_bind_same {α β} {ca : α → Ctx} {cb : β → Ctx} {x x' : Out α} {g : α → Out β} (h : Mono ca x x')
    (hbad : ∀ a, (ca a).state = .error → Bad cb (g a)) : Mono cb (x >>= g) (x' >>= g) :=
  mono_bind h (fun a _ _ => Mono.refl cb (g a)) (fun a _ he => hbad a he)

abbrev c2 : Esc × Ctx → Ctx := fun r => r.2
abbrev c3 {γ : Type} : Esc × Ctx × γ → Ctx := fun r => r.2.1

def NodeMono (env : Env) (f : Nat) : Prop :=
  ∀ tn e c n, MemoWF e → ErrWF c → Mono c2 (escapeNode env f tn e c n) (escapeNode (envOff env) f tn e c n)
def ListMono (env : Env) (f : Nat) : Prop :=
  ∀ tn e c l, MemoWF e → ErrWF c → Mono c2 (escapeList env f tn e c l) (escapeList (envOff env) f tn e c l)
def BranchMono (env : Env) (f : Nat) : Prop :=
  ∀ tn e c t el b, MemoWF e → ErrWF c →
    Mono c2 (escapeBranch env f tn e c t el b) (escapeBranch (envOff env) f tn e c t el b)
def TreeMono (env : Env) (f : Nat) : Prop :=
  ∀ e c name, MemoWF e → ErrWF c → Mono c3 (escapeTree env f e c name) (escapeTree (envOff env) f e c name)
def OutMono (env : Env) (f : Nat) : Prop :=
  ∀ e c tname t, MemoWF e → ErrWF c →
    Mono c2 (computeOutCtx env f e c tname t) (computeOutCtx (envOff env) f e c tname t)
def BodyMono (env : Env) (f : Nat) : Prop :=
  ∀ e c tname t, MemoWF e → ErrWF c →
    Mono c3 (escapeTemplateBody env f e c tname t) (escapeTemplateBody (envOff env) f e c tname t)

theorem escapeAction_envOff (env : Env) (tn : String) (e : Esc) (c : Ctx) (id : Nat) (p : Pipe) :
    escapeAction (envOff env) tn e c id p = escapeAction env tn e c id p := rfl

theorem escapeTextNode_mono (env : Env) (tn : String) (e : Esc) (c : Ctx) (id : Nat) (b : Bytes) :
    Mono c2 (escapeTextNode env tn e c id b) (escapeTextNode (envOff env) tn e c id b) := by
  unfold escapeTextNode
  simp only [envOff]
  rcases escapeText_mono' env.csp c b with h | h
  · rw [h]; exact .inr rfl
  · rw [h]; exact .inl rfl

theorem template_envOff (env : Env) (e : Esc) (n : String) : Esc.template (envOff env) e n = Esc.template env e n := rfl

theorem enter_envOff (env : Env) (e : Esc) (c : Ctx) (name : String) (tr : Tree) :
    enter (envOff env) e c name tr = enter env e c name tr := rfl

/-- context of the optional result of the range re-entry check -/
abbrev oc : Option Ctx → Ctx := fun o => o.getD {}

/-- **CSP monotonicity of the analysis**: for all six mutually recursive functions, from a well-formed memo and
    context, the run under `envOff env` returns exactly what the run under `env` returns, unless the latter panics,
    runs out of fuel or ends in an error context. -/
theorem analysis_mono (env : Env) : ∀ f,
    NodeMono env f ∧ ListMono env f ∧ BranchMono env f ∧ TreeMono env f ∧ OutMono env f ∧ BodyMono env f := by
  -- what a run under `env` returns is well formed, and an error context stays one
  have wf := Analysis.analysis_ctx errwf_closed env
  have abs := analysis_isErr env
  refine fuel_induction ⟨?_, ?_, ?_, ?_, ?_, ?_⟩ ?_ ?_ ?_ ?_ ?_ ?_
  · intro tn e c n _ _; rw [escapeNode_zero, escapeNode_zero]; exact .inl rfl
  · intro tn e c l _ _; rw [escapeList_zero, escapeList_zero]; exact .inl rfl
  · intro tn e c t el b _ _; rw [escapeBranch_zero, escapeBranch_zero]; exact .inl rfl
  · intro e c name _ _; rw [escapeTree_zero, escapeTree_zero]; exact .inl rfl
  · intro e c tname t _ _; rw [computeOutCtx_zero, computeOutCtx_zero]; exact .inl rfl
  · intro e c tname t _ _; rw [escapeTemplateBody_zero, escapeTemplateBody_zero]; exact .inl rfl
  · intro f hb ht tn e c n hm hc
    cases n with
    | action id p => rw [escapeNode_action, escapeNode_action]; exact .inl rfl
    | text id b => rw [escapeNode_text, escapeNode_text]; exact escapeTextNode_mono env tn e c id b
    | ifN id p t el => rw [escapeNode_if, escapeNode_if]; exact hb _ _ _ _ _ _ hm hc
    | withN id p t el => rw [escapeNode_with, escapeNode_with]; exact hb _ _ _ _ _ _ hm hc
    | rangeN id p t el => rw [escapeNode_range, escapeNode_range]; exact hb _ _ _ _ _ _ hm hc
    | tmpl id name p =>
      rw [escapeNode_tmpl, escapeNode_tmpl]
      apply mono_bind_same (ht e c name hm hc)
      intro ⟨e1, c1, dname⟩ he
      dsimp only at he ⊢
      split
      · exact bad_bind fun e2 _ => he
      · exact he
    | brk id => rw [escapeNode_brk, escapeNode_brk]; exact .inl rfl
    | cont id => rw [escapeNode_cont, escapeNode_cont]; exact .inl rfl
    | comment id => rw [escapeNode_comment, escapeNode_comment]; exact .inl rfl
  · intro f hn hl tn e c l hm hc
    cases l with
    | nil => rw [escapeList_nil, escapeList_nil]; exact .inl rfl
    | cons n ns =>
      rw [escapeList_cons, escapeList_cons]
      apply mono_bind (hn tn e c n hm hc)
      · intro ⟨e1, c1⟩ hx _
        have s1 := (wf f).1 _ _ _ _ _ hm hc hx
        exact hl tn e1 c1 ns s1.1 s1.2
      · intro ⟨e1, c1⟩ hx he
        have s1 := (wf f).1 _ _ _ _ _ hm hc hx
        exact bad_of_ok fun a ha => ((abs f).2.1 _ _ _ _ _ (s1.2 he) ha).state
  · intro f hl tn e c t el b hm hc
    rw [escapeBranch_succ, escapeBranch_succ]
    apply mono_bind (hl tn e c t hm hc)
    · intro ⟨e1, c0⟩ hx hne
      have s1 := (wf f).2.1 _ _ _ _ _ hm hc hx
      have helse : ∀ j, Mono c2 (escapeList env f tn e1 c el >>= fun r2 => Out.ok (r2.1, join j r2.2))
          (escapeList (envOff env) f tn e1 c el >>= fun r2 => Out.ok (r2.1, join j r2.2)) := fun j =>
        mono_bind_same (hl tn e1 c el s1.1 hc) fun ⟨e2, c1⟩ he2 => join_state_err _ _ (.inr he2)
      dsimp only at hne s1 ⊢
      apply mono_bind (ca := oc)
      · split
        · apply mono_bind_same (hl tn (scratch e1) c0 t s1.1 s1.2)
          intro ⟨e', c1⟩ he1
          exact join_state_err _ _ (.inr he1)
        · exact .inl rfl
      · intro j _ _
        cases j with
        | some jc =>
          dsimp only
          split
          · exact .inl rfl
          · exact helse jc
        | none => exact helse c0
      · intro j _ hj
        cases j with
        | none => exact absurd hj (by decide)
        | some jc =>
          have hjc : jc.state = .error := hj
          dsimp only
          rw [if_pos (by rw [hjc]; rfl)]
          exact hjc
    · intro ⟨e1, c0⟩ hx he
      have he' : c0.state = .error := he
      dsimp only
      rw [if_neg (by rw [he']; cases b <;> decide)]
      show Bad c2 (escapeList env f tn e1 c el >>= fun r2 => Out.ok (r2.1, join c0 r2.2))
      exact bad_bind fun a _ => join_state_err _ _ (.inl he')
  · intro f ho e c name hm hc
    rw [escapeTree_succ, escapeTree_succ]
    simp only [template_envOff, enter_envOff]
    split
    · exact .inl rfl
    · split
      · exact .inl rfl
      · split
        · refine mono_bind_same (ho _ c _ _ ?_ hc) fun ⟨e1, c1⟩ he => he
          show MemoAll ErrWF _
          unfold MemoAll; rw [enter_output]; exact hm
        · exact .inl rfl
  · intro f hy e c tname t hm hc
    rw [computeOutCtx_succ, computeOutCtx_succ]
    -- whatever the second body run returns from an error context is bad
    have tail : ∀ (c1 : Ctx) (a : Esc × Ctx × Bool), a.2.1.state = .error →
        Bad c2 (if a.2.2 then (Out.ok (setOut a.1 tname a.2.1, a.2.1) : Out (Esc × Ctx))
          else if c1.state != .error then
            .ok (setOut a.1 tname (Ctx.errorCtx .outputContext), Ctx.errorCtx .outputContext)
          else .ok (setOut a.1 tname c1, c1)) := by
      intro c1 a ha
      split
      · exact ha
      · split
        · rfl
        · rename_i h
          show c1.state = .error
          simpa using h
    apply mono_bind (hy e c tname t hm hc)
    · intro ⟨e1, c1, ok⟩ hx hne
      have s1 := (wf f).2.2.2.2.2 _ _ _ _ _ hm hc hx
      dsimp only at hne s1 ⊢
      split
      · exact .inl rfl
      · exact mono_bind_same (hy e1 c1 tname t s1.1 s1.2) fun a ha => tail c1 a ha
    · intro ⟨e1, c1, ok⟩ hx he
      have s1 := (wf f).2.2.2.2.2 _ _ _ _ _ hm hc hx
      dsimp only at he s1 ⊢
      split
      · exact he
      · exact bad_bind fun a ha => tail c1 a ((abs f).2.2.2.2.2 _ _ _ _ _ (s1.2 he) ha).state
  · intro f hl e c tname t hm hc
    rw [escapeTemplateBody_succ, escapeTemplateBody_succ]
    cases t with
    | none => exact .inl rfl
    | some tr =>
      dsimp only
      apply mono_bind_same (hl tname (scratch (setOut e tname c)) c tr.root (MemoAll.setOut hm tname hc) hc)
      intro ⟨e1, c1⟩ he1
      have he1' : c1.state = .error := he1
      have hb : bodyOk tname c e1 c1 = false := by unfold bodyOk; rw [he1']; rfl
      dsimp only
      rw [hb, if_neg Bool.false_ne_true]
      exact he1'

theorem Mono.success {α} {ctx : α → Ctx} {x x' : Out α} (h : Mono ctx x x') {a : α} (hx : x = .ok a)
    (hne : (ctx a).state ≠ .error) : x' = .ok a := by
  rcases h with h | h
  · rw [h, hx]
  · rw [hx] at h; exact absurd h hne

/-! ### 2c. success in CSP mode is the identical success without CSP mode

(`env` is arbitrary; for `env.csp = false` the statements are trivial.) -/

theorem escapeNode_csp_success (env : Env) (f : Nat) (tn : String) (e : Esc) (c : Ctx) (n : Node) (e' : Esc) (c' : Ctx)
    (hm : MemoWF e) (hc : ErrWF c) (h : escapeNode env f tn e c n = .ok (e', c')) (hne : c'.state ≠ .error) :
    escapeNode (envOff env) f tn e c n = .ok (e', c') :=
  ((analysis_mono env f).1 tn e c n hm hc).success h hne

theorem escapeList_csp_success (env : Env) (f : Nat) (tn : String) (e : Esc) (c : Ctx) (l : NodeList) (e' : Esc)
    (c' : Ctx) (hm : MemoWF e) (hc : ErrWF c) (h : escapeList env f tn e c l = .ok (e', c'))
    (hne : c'.state ≠ .error) : escapeList (envOff env) f tn e c l = .ok (e', c') :=
  ((analysis_mono env f).2.1 tn e c l hm hc).success h hne

theorem escapeBranch_csp_success (env : Env) (f : Nat) (tn : String) (e : Esc) (c : Ctx) (t el : NodeList) (b : Bool)
    (e' : Esc) (c' : Ctx) (hm : MemoWF e) (hc : ErrWF c) (h : escapeBranch env f tn e c t el b = .ok (e', c'))
    (hne : c'.state ≠ .error) : escapeBranch (envOff env) f tn e c t el b = .ok (e', c') :=
  ((analysis_mono env f).2.2.1 tn e c t el b hm hc).success h hne

theorem escapeTree_csp_success (env : Env) (f : Nat) (e : Esc) (c : Ctx) (name : String) (e' : Esc) (c' : Ctx)
    (d : String) (hm : MemoWF e) (hc : ErrWF c) (h : escapeTree env f e c name = .ok (e', c', d))
    (hne : c'.state ≠ .error) : escapeTree (envOff env) f e c name = .ok (e', c', d) :=
  ((analysis_mono env f).2.2.2.1 e c name hm hc).success h hne

theorem computeOutCtx_csp_success (env : Env) (f : Nat) (e : Esc) (c : Ctx) (tname : String) (t : Option Tree)
    (e' : Esc) (c' : Ctx) (hm : MemoWF e) (hc : ErrWF c) (h : computeOutCtx env f e c tname t = .ok (e', c'))
    (hne : c'.state ≠ .error) : computeOutCtx (envOff env) f e c tname t = .ok (e', c') :=
  ((analysis_mono env f).2.2.2.2.1 e c tname t hm hc).success h hne

theorem escapeTemplateBody_csp_success (env : Env) (f : Nat) (e : Esc) (c : Ctx) (tname : String) (t : Option Tree)
    (e' : Esc) (c' : Ctx) (ok : Bool) (hm : MemoWF e) (hc : ErrWF c)
    (h : escapeTemplateBody env f e c tname t = .ok (e', c', ok)) (hne : c'.state ≠ .error) :
    escapeTemplateBody (envOff env) f e c tname t = .ok (e', c', ok) :=
  ((analysis_mono env f).2.2.2.2.2 e c tname t hm hc).success h hne

/-! ### 2d. the well-formedness hypothesis cannot be dropped

From an ill-formed "error" context (state `error` but with a delimiter and an RCDATA element name — never produced by
the engine) a text can leave the error state again. Then a CSP refusal inside one arm of an `{{if}}` is swallowed by
`join` (which returns the error context of the other arm), the run with the flag succeeds, and the run without the flag
succeeds with a DIFFERENT escaper state (one more text edit). -/

namespace IllFormed
def cBad : Ctx := { state := .error, delim := .dq, elemName := [116, 101, 120, 116, 97, 114, 101, 97] }
/-- `<<javascript:" ` -/
def elText : Bytes := [60, 60, 106, 97, 118, 97, 115, 99, 114, 105, 112, 116, 58, 34, 32]
/-- `{{if .}}{{else}}<<javascript:" {{end}}" ` -/
def lst : NodeList :=
  NodeList.ofList [.ifN 0 { cmds := [{ args := [.dot] }] } .nil (NodeList.ofList [.text 1 elText]), .text 2 [34, 32]]
def envT : Env := { text := [], nsHas := fun _ => false, csp := true, v := ⟨fun _ => true, fun _ => true, fun _ => false⟩ }
def view (r : Out (Esc × Ctx)) : Option (Nat × State) :=
  match r with
  | .ok (e, c) => some (e.textEdits.length, c.state)
  | _ => none

example : ¬ ErrWF cBad := fun h => by
  obtain ⟨code, hc⟩ := h rfl
  have := congrArg Ctx.delim hc
  cases this

example : view (escapeList envT 10 "t" {} cBad lst) = some (0, .tag) ∧
    view (escapeList (envOff envT) 10 "t" {} cBad lst) = some (1, .tag) := by decide +kernel
end IllFormed

/-! ## 3. API level -/

def nsOff (n : NS) : NS := { n with csp := false }
def wOff (w : World) : World := { w with nss := w.nss.map (fun p => (p.1, nsOff p.2)) }

theorem nlookup_map {β} (g : β → β) (l : List (Nat × β)) (k : Nat) :
    nlookup (l.map (fun p => (p.1, g p.2))) k = (nlookup l k).map g := by
  induction l with
  | nil => rfl
  | cons q t ih =>
    unfold nlookup at ih ⊢
    simp only [List.map_cons, List.find?_cons]
    split
    · rfl
    · exact ih

theorem ns_wOff (w : World) (k : Nat) : (wOff w).ns k = nsOff (w.ns k) := by
  unfold World.ns wOff
  simp only [nlookup_map]
  cases nlookup w.nss k <;> rfl

theorem nset_map {β} (g : β → β) (l : List (Nat × β)) (k : Nat) (v : β) :
    (nset l k v).map (fun p => (p.1, g p.2)) = nset (l.map (fun p => (p.1, g p.2))) k (g v) := by
  unfold nset
  simp only [List.map_cons, List.filter_map]
  rfl

theorem setNs_wOff (w : World) (k : Nat) (n : NS) : wOff (w.setNs k n) = (wOff w).setNs k (nsOff n) := by
  unfold wOff World.setNs
  simp only [nset_map]

theorem setObj_wOff (w : World) (k : Nat) (o : TObj) : wOff (w.setObj k o) = (wOff w).setObj k o := rfl
theorem objs_wOff (w : World) : (wOff w).objs = w.objs := rfl

theorem markOk_wOff (w : World) (k : Nat) (name : String) (t : TextSet) (e : Esc) :
    wOff (markOk w k name t e) = markOk (wOff w) k name t e := by
  unfold markOk
  simp only [ns_wOff]
  have h1 : (wOff w).setNs k { nsOff (w.ns k) with esc := e, text := t } =
      wOff (w.setNs k { w.ns k with esc := e, text := t }) := (setNs_wOff w k { w.ns k with esc := e, text := t }).symm
  rw [h1]
  have h2 : (nsOff (w.ns k)).set = (w.ns k).set := rfl
  rw [h2]
  cases alookup (w.ns k).set name with
  | none => rfl
  | some oid =>
    simp only [objs_wOff]
    cases nlookup (w.setNs k { w.ns k with esc := e, text := t }).objs oid with
    | none => rfl
    | some o => rfl

theorem textExecute_wOff (w : World) (o : TObj) (d : Value) : textExecute (wOff w) o d = textExecute w o d := by
  unfold textExecute
  simp only [ns_wOff]
  rfl

def envOf (w : World) (k : Nat) : Env :=
  { text := (w.ns k).text, nsHas := fun n => (alookup (w.ns k).set n).isSome, csp := (w.ns k).csp, v := w.v }

theorem envOf_wOff (w : World) (k : Nat) : envOf (wOff w) k = envOff (envOf w k) := by
  unfold envOf envOff
  simp only [ns_wOff]
  rfl

theorem escapeTemplateTop_wOff (w : World) (k : Nat) (name : String) (w' : World)
    (hwf : MemoWF (w.ns k).esc) (h : escapeTemplateTop w k name = .inr (w', none)) :
    escapeTemplateTop (wOff w) k name = .inr (wOff w', none) := by
  obtain ⟨e, c, d, hr, ⟨_, _, hn, _⟩ | ⟨t2, e2, hf, hcm, _, rfl⟩⟩ := top_inr h
  · cases hn
  · rw [markOk_wOff]
    refine top_of_ok (e := e) (c := c) (d := d) ?_ hf ?_
    · rw [show analysisEnv (wOff w) k = envOff (analysisEnv w k) from envOf_wOff w k, ns_wOff]
      exact escapeTree_csp_success _ _ _ _ name e c d hwf (errwf_of_ne (by decide)) hr
        (by rw [finalError_text c hf]; decide)
    · rw [ns_wOff]; exact hcm

/-- every memo table of the world is well formed (true in every world the API can reach; trivially true for
    fresh sets) -/
def WorldWF (w : World) : Prop := ∀ k, MemoWF (w.ns k).esc

theorem setEscaped_wOff (w : World) (k : Nat) :
    (wOff w).setNs k { (wOff w).ns k with escaped := true } = wOff (w.setNs k { w.ns k with escaped := true }) := by
  rw [ns_wOff]; exact (setNs_wOff w k { w.ns k with escaped := true }).symm

theorem memoWF_setEscaped (w : World) (k : Nat) (hwf : WorldWF w) :
    MemoWF ((w.setNs k { w.ns k with escaped := true }).ns k).esc := by
  rw [ns_setNs_same]; exact hwf k

theorem critExecute_ok {w : World} {h oid : Nat} {o : TObj} (ho : w.obj h = some (oid, o)) (hs : o.status = .ok) :
    critExecute w h = (w.setNs o.ns { w.ns o.ns with escaped := true }, .inr o) := by
  unfold critExecute
  simp only [ho, hs]

theorem critExecuteTemplate_ok {w : World} {h oid tid : Nat} {o t : TObj} {name : String}
    (ho : w.obj h = some (oid, o)) (hl : alookup (w.ns o.ns).set name = some tid)
    (hn : nlookup w.objs tid = some t) (hs : t.status = .ok) (hb : okTreeNil t name (w.ns o.ns).text = false) :
    critExecuteTemplate w h name = (w.setNs o.ns { w.ns o.ns with escaped := true }, .inr t) := by
  obtain ⟨hreg, tr, htr⟩ := okTreeNil_false hb
  unfold critExecuteTemplate
  simp only [ho, hl, objs_setNs, hn, hs, hreg, htr, Option.isNone_some, Bool.false_eq_true, if_false, if_true,
    show (Status.ok == Status.unset) = false from rfl]

theorem critExecute_wOff {w : World} {h : Nat} {o' : TObj} (hwf : WorldWF w)
    (hr : (critExecute w h).2 = .inr o') : critExecute (wOff w) h = (wOff (critExecute w h).1, .inr o') := by
  obtain ⟨oid, o, ho, ⟨hs, rfl, h1⟩ | ⟨hs, ht, he, hn⟩⟩ := critExecute_inr hr
  · rw [critExecute_ok (w := wOff w) ho hs, h1, setEscaped_wOff]
  · rw [critExecute_unset (w := wOff w) ho hs ht, setEscaped_wOff,
      escapeTemplateTop_wOff _ _ _ _ (memoWF_setEscaped w o.ns hwf) he]
    dsimp only
    rw [objs_wOff, hn]

theorem critExecuteTemplate_wOff {w : World} {h : Nat} {name : String} {o' : TObj} (hwf : WorldWF w)
    (hr : (critExecuteTemplate w h name).2 = .inr o') :
    critExecuteTemplate (wOff w) h name = (wOff (critExecuteTemplate w h name).1, .inr o') := by
  obtain ⟨oid, o, tid, t, ho, hl, hn, hb, ⟨hs, rfl, h1⟩ | ⟨hs, he, hn'⟩⟩ := critExecuteTemplate_inr hr
  · rw [critExecuteTemplate_ok (w := wOff w) ho (by rw [ns_wOff]; exact hl) hn hs (by rw [ns_wOff]; exact hb), h1,
      setEscaped_wOff]
  · rw [critExecuteTemplate_unset (w := wOff w) ho (by rw [ns_wOff]; exact hl) hn hs (by rw [ns_wOff]; exact hb),
      setEscaped_wOff, escapeTemplateTop_wOff _ _ _ _ (memoWF_setEscaped w o.ns hwf) he]
    dsimp only
    rw [objs_wOff, hn']

theorem AfterTop.not_ok {w' : World} {id : Nat} {oc : Option ErrCode} {r : Res ⊕ TObj} (h : AfterTop w' id oc r)
    (o : Bytes) : r ≠ .inl (.ok o) := by
  rcases h with ⟨_, _, rfl⟩ | ⟨_, ⟨_, _, rfl⟩ | ⟨_, rfl⟩⟩ <;> exact fun hx => nomatch hx

theorem critExecute_not_ok (w : World) (h : Nat) (o : Bytes) : (critExecute w h).2 ≠ .inl (.ok o) := by
  rcases critExecute_cases w h with ⟨_, hc⟩ | ⟨_, _, _, ⟨r, hc, hr'⟩ | ⟨_, _, _, _, _, _, hc, ha⟩⟩ <;> rw [hc]
  · exact fun hx => nomatch hx
  · rcases hr' with ⟨_, _, rfl⟩ | ⟨_, rfl⟩ | ⟨_, _, rfl⟩ | ⟨x, _, _, rfl, he⟩
    · exact fun hx => nomatch hx
    · exact fun hx => nomatch hx
    · exact fun hx => nomatch hx
    · rcases top_inl_res he with rfl | ⟨m, rfl⟩ <;> exact fun hx => nomatch hx
  · exact AfterTop.not_ok ha o

theorem critExecuteTemplate_not_ok (w : World) (h : Nat) (name : String) (o : Bytes) :
    (critExecuteTemplate w h name).2 ≠ .inl (.ok o) := by
  rcases critExecuteTemplate_cases w h name with
    ⟨_, hc⟩ | ⟨_, _, _, ⟨r, hc, hr'⟩ | ⟨_, _, _, _, _, _, _, _, _, _, hc, ha⟩⟩ <;> rw [hc]
  · exact fun hx => nomatch hx
  · rcases hr' with ⟨_, rfl⟩ | ⟨_, _, ⟨_, rfl⟩ | ⟨_, _, hr'⟩⟩
    · exact fun hx => nomatch hx
    · exact fun hx => nomatch hx
    · rcases hr' with ⟨_, _, rfl⟩ | ⟨_, rfl⟩ | ⟨_, _, rfl⟩ | ⟨x, _, _, rfl, he⟩
      · exact fun hx => nomatch hx
      · exact fun hx => nomatch hx
      · exact fun hx => nomatch hx
      · rcases top_inl_res he with rfl | ⟨m, rfl⟩ <;> exact fun hx => nomatch hx
  · exact AfterTop.not_ok ha o

/-- a critical section `cr` followed by the unlocked execution: if it ends with output `o`, so does the same call in
    the set without the flag, whose critical section is `cr'` -/
theorem run_wOff {cr cr' : World × (Res ⊕ TObj)} {d : Value} {w1 : World} {o : Bytes}
    (hno : cr.2 ≠ .inl (.ok o)) (hoff : ∀ o', cr.2 = .inr o' → cr' = (wOff cr.1, .inr o')) (hw : cr.1 = w1)
    (hx : (match cr.2 with | .inl r => r | .inr t => textExecute cr.1 t d) = .ok o) :
    cr'.1 = wOff w1 ∧ (match cr'.2 with | .inl r => r | .inr t => textExecute cr'.1 t d) = .ok o := by
  cases hr : cr.2 with
  | inl x => rw [hr] at hx hno; exact absurd (congrArg Sum.inl hx) hno
  | inr o' =>
    rw [hr] at hx
    rw [hoff o' hr, ← hw]
    exact ⟨rfl, (textExecute_wOff _ _ _).trans hx⟩

/-- **`Api.step`, `Execute`**: a successful execution in a CSP-compatible set is also a successful execution, with
    the same output bytes and the same resulting world (up to the flags), in the same set without the flag. -/
theorem step_exec_wOff (w : World) (h : Nat) (d : Value) (w1 : World) (o : Bytes) (hwf : WorldWF w)
    (hx : Api.step w (.exec h d) = (w1, .exec (.ok o))) :
    Api.step (wOff w) (.exec h d) = (wOff w1, .exec (.ok o)) := by
  rw [step_exec] at hx ⊢
  obtain ⟨hw, hres⟩ := Prod.mk.inj hx
  obtain ⟨h1, h2⟩ := run_wOff (critExecute_not_ok w h o) (fun _ => critExecute_wOff hwf) hw (Ret.exec.inj hres)
  exact congr (congrArg Prod.mk h1) (congrArg Ret.exec h2)

theorem step_execT_wOff (w : World) (h : Nat) (name : String) (d : Value) (w1 : World) (o : Bytes) (hwf : WorldWF w)
    (hx : Api.step w (.execT h name d) = (w1, .exec (.ok o))) :
    Api.step (wOff w) (.execT h name d) = (wOff w1, .exec (.ok o)) := by
  rw [step_execT] at hx ⊢
  obtain ⟨hw, hres⟩ := Prod.mk.inj hx
  obtain ⟨h1, h2⟩ :=
    run_wOff (critExecuteTemplate_not_ok w h name o) (fun _ => critExecuteTemplate_wOff hwf) hw (Ret.exec.inj hres)
  exact congr (congrArg Prod.mk h1) (congrArg Ret.exec h2)

theorem zeroOnError_ok {r : Res} {o : Bytes} (h : zeroOnError r = .ok o) : r = .ok o := by
  cases r <;> first | exact h | cases h

theorem step_execHTML_wOff (w : World) (h : Nat) (d : Value) (w1 : World) (o : Bytes) (hwf : WorldWF w)
    (hx : Api.step w (.execHTML h d) = (w1, .html (.ok o))) :
    Api.step (wOff w) (.execHTML h d) = (wOff w1, .html (.ok o)) := by
  rw [step_execHTML] at hx ⊢
  obtain ⟨hw, hres⟩ := Prod.mk.inj hx
  obtain ⟨h1, h2⟩ := run_wOff (critExecute_not_ok w h o) (fun _ => critExecute_wOff hwf) hw
    (zeroOnError_ok (Ret.html.inj hres))
  exact congr (congrArg Prod.mk h1) (congrArg (fun r => Ret.html (zeroOnError r)) h2)

theorem step_execTHTML_wOff (w : World) (h : Nat) (name : String) (d : Value) (w1 : World) (o : Bytes)
    (hwf : WorldWF w) (hx : Api.step w (.execTHTML h name d) = (w1, .html (.ok o))) :
    Api.step (wOff w) (.execTHTML h name d) = (wOff w1, .html (.ok o)) := by
  rw [step_execTHTML] at hx ⊢
  obtain ⟨hw, hres⟩ := Prod.mk.inj hx
  obtain ⟨h1, h2⟩ :=
    run_wOff (critExecuteTemplate_not_ok w h name o) (fun _ => critExecuteTemplate_wOff hwf) hw
      (zeroOnError_ok (Ret.html.inj hres))
  exact congr (congrArg Prod.mk h1) (congrArg (fun r => Ret.html (zeroOnError r)) h2)

/-! the hypothesis `WorldWF` holds in every world a program can build -/

theorem worldWF_of_good (w : World) (h : ∀ k, GoodNs (w.ns k)) : WorldWF w :=
  fun k => memoWF_of_base (h k).1

theorem worldWF_reachable (w : World) (h : ConcReach.Reachable w) : WorldWF w :=
  worldWF_of_good w (ConcReach.invR_reachable w h).1.1

theorem step_exec_wOff_reachable (w : World) (hr : ConcReach.Reachable w) (h : Nat) (d : Value) (w1 : World)
    (o : Bytes) (hx : Api.step w (.exec h d) = (w1, .exec (.ok o))) :
    Api.step (wOff w) (.exec h d) = (wOff w1, .exec (.ok o)) :=
  step_exec_wOff w h d w1 o (worldWF_reachable w hr) hx

theorem step_execT_wOff_reachable (w : World) (hr : ConcReach.Reachable w) (h : Nat) (name : String) (d : Value)
    (w1 : World) (o : Bytes) (hx : Api.step w (.execT h name d) = (w1, .exec (.ok o))) :
    Api.step (wOff w) (.execT h name d) = (wOff w1, .exec (.ok o)) :=
  step_execT_wOff w h name d w1 o (worldWF_reachable w hr) hx

/-! ## 4. transfer of the end-to-end theorems to CSP-compatible sets -/

section Transfer
open SafeHtml.Spec SafeHtml.Spec.HtmlTok SafeHtml.Proofs.HtmlTokSim
open SafeHtml.Proofs.Layer3 SafeHtml.Proofs.Layer3E2E SafeHtml.Proofs.Layer3Branch
open SafeHtml.Proofs.Layer3Calls SafeHtml.Proofs.Layer3Helpers
open SafeHtml.Props.C02 (Untrusted)

/-- `t := New(name); t.Parse(text); t.CSPCompatible()` -/
def setupCsp (v : Validators) (fuel : Nat) (name : String) (tr : Tree) : World :=
  Api.run (world0 v fuel) [.new 0 name, .parse 0 [tr], .csp 0]

theorem world0_reachable (v : Validators) (fuel : Nat) : ConcReach.Reachable (world0 v fuel) :=
  .init _ ⟨rfl, rfl⟩

theorem setupCsp_wf (v : Validators) (fuel : Nat) (name : String) (tr : Tree) : WorldWF (setupCsp v fuel name tr) :=
  worldWF_reachable _ (ConcReach.reachable_run _ _ (world0_reachable v fuel))

theorem setupCsp_flag (v : Validators) (fuel : Nat) (name : String) (tr : Tree) (hn : tr.name = name) :
    ((setupCsp v fuel name tr).ns 0).csp = true := by
  have h : setupCsp v fuel name tr = (Api.step (setup v fuel name tr) (.csp 0)).1 := rfl
  rw [h, setup_eq v fuel name tr hn]
  -- one `CSPCompatible()` step on the explicit world `setupW`, by evaluation
  simp [Api.step, setupW, World.obj, nlookup, World.ns, World.setNs, nset, bind, Option.bind]

theorem setupCsp_off (v : Validators) (fuel : Nat) (name : String) (tr : Tree) (hn : tr.name = name) :
    wOff (setupCsp v fuel name tr) = setup v fuel name tr := by
  have h : setupCsp v fuel name tr = (Api.step (setup v fuel name tr) (.csp 0)).1 := rfl
  rw [h, setup_eq v fuel name tr hn]
  -- the step sets the flag of name space 0 of the explicit world `setupW`, `wOff` clears it again: by evaluation
  simp [Api.step, setupW, World.obj, nlookup, World.ns, World.setNs, nset, bind, Option.bind, wOff, nsOff]

/-- **C01 for a single straight-line template in a CSP-compatible set** (`New`, `Parse`, `CSPCompatible`, then
    `Execute`): two successful executions with untrusted data give the same markup skeleton and end in the data state.
    Corollary of `step_exec_wOff` and `Layer3Calls.C01_api_single_template`. -/
theorem C01_api_single_template_csp (v : Validators) (fuel : Nat) (name : String) (tr : Tree) (ps : List Piece)
    (as : List Arg) (has : ∀ a ∈ as, ActArg a) (cf : Ctx) (es : List EPiece) (hn : tr.name = name)
    (hroot : tr.root = NodeList.ofList (toNodesA 0 ps as)) (hs : SimpleAll v {} ps)
    (ha : analyse v {} ps = some (cf, es)) (hfin : finalError cf = none) (hf : ps.length + 4 ≤ fuel)
    (d1 d2 : Value) (hu1 : LeavesUntrusted d1 as) (hu2 : LeavesUntrusted d2 as) (o1 o2 : Bytes) (w1 w2 : World)
    (h1 : Api.step (setupCsp v fuel name tr) (.exec 0 d1) = (w1, .exec (.ok o1)))
    (h2 : Api.step (setupCsp v fuel name tr) (.exec 0 d2) = (w2, .exec (.ok o2))) :
    skeleton (HtmlTok.tokenize o1).tokens = skeleton (HtmlTok.tokenize o2).tokens ∧
    (HtmlTok.tokenize o1).final = .data ∧ (HtmlTok.tokenize o2).final = .data := by
  have k1 := step_exec_wOff _ _ _ _ _ (setupCsp_wf v fuel name tr) h1
  have k2 := step_exec_wOff _ _ _ _ _ (setupCsp_wf v fuel name tr) h2
  rw [setupCsp_off v fuel name tr hn] at k1 k2
  exact C01_api_single_template v fuel name tr ps as has cf es hn hroot hs ha hfin hf d1 d2 hu1 hu2 o1 o2 _ _ k1 k2

theorem C01_api_single_template_execT_csp (v : Validators) (fuel : Nat) (name : String) (tr : Tree) (ps : List Piece)
    (as : List Arg) (has : ∀ a ∈ as, ActArg a) (cf : Ctx) (es : List EPiece) (hn : tr.name = name)
    (hroot : tr.root = NodeList.ofList (toNodesA 0 ps as)) (hs : SimpleAll v {} ps)
    (ha : analyse v {} ps = some (cf, es)) (hfin : finalError cf = none) (hf : ps.length + 4 ≤ fuel)
    (d1 d2 : Value) (hu1 : LeavesUntrusted d1 as) (hu2 : LeavesUntrusted d2 as) (o1 o2 : Bytes) (w1 w2 : World)
    (h1 : Api.step (setupCsp v fuel name tr) (.execT 0 name d1) = (w1, .exec (.ok o1)))
    (h2 : Api.step (setupCsp v fuel name tr) (.execT 0 name d2) = (w2, .exec (.ok o2))) :
    skeleton (HtmlTok.tokenize o1).tokens = skeleton (HtmlTok.tokenize o2).tokens ∧
    (HtmlTok.tokenize o1).final = .data ∧ (HtmlTok.tokenize o2).final = .data := by
  have k1 := step_execT_wOff _ _ _ _ _ _ (setupCsp_wf v fuel name tr) h1
  have k2 := step_execT_wOff _ _ _ _ _ _ (setupCsp_wf v fuel name tr) h2
  rw [setupCsp_off v fuel name tr hn] at k1 k2
  exact C01_api_single_template_execT v fuel name tr ps as has cf es hn hroot hs ha hfin hf d1 d2 hu1 hu2 o1 o2 _ _
    k1 k2

/-- **C01 for a template with `if` / `with` / `range` in a CSP-compatible set** -/
theorem C01_api_branch_template_csp (v : Validators) (fuel : Nat) (name : String) (tr : Tree) (tps : TPs) (cf : Ctx)
    (es : ERs) (hn : tr.name = name) (hroot : tr.root = nodesTL 0 tps) (hok : ArgsOKL tps)
    (hs : SimpleRL v {} (eraseL tps)) (ha : analyseRL v {} (eraseL tps) = some (cf, es))
    (hfin : finalError cf = none) (hf : fuelRL (eraseL tps) + 3 ≤ fuel) (d1 d2 : Value)
    (hpath : pathL tps d1 d1 = pathL tps d2 d2)
    (hu1 : ∀ x ∈ valsL tps d1 d1, Untrusted x) (hu2 : ∀ x ∈ valsL tps d2 d2, Untrusted x)
    (o1 o2 : Bytes) (w1 w2 : World)
    (h1 : Api.step (setupCsp v fuel name tr) (.exec 0 d1) = (w1, .exec (.ok o1)))
    (h2 : Api.step (setupCsp v fuel name tr) (.exec 0 d2) = (w2, .exec (.ok o2))) :
    skeleton (HtmlTok.tokenize o1).tokens = skeleton (HtmlTok.tokenize o2).tokens ∧
    (HtmlTok.tokenize o1).final = .data ∧ (HtmlTok.tokenize o2).final = .data := by
  have k1 := step_exec_wOff _ _ _ _ _ (setupCsp_wf v fuel name tr) h1
  have k2 := step_exec_wOff _ _ _ _ _ (setupCsp_wf v fuel name tr) h2
  rw [setupCsp_off v fuel name tr hn] at k1 k2
  exact C01_api_branch_template v fuel name tr tps cf es hn hroot hok hs ha hfin hf d1 d2 hpath hu1 hu2 o1 o2 _ _ k1 k2

/-- `t := New(m); t.Parse(text)` (main template `m` and `{{define "h"}}…{{end}}`); `t.CSPCompatible()` -/
def setupCsp2 (v : Validators) (fuel : Nat) (m : String) (trm trh : Tree) : World :=
  Api.run (world0 v fuel) [.new 0 m, .parse 0 [trm, trh], .csp 0]

theorem setupCsp2_wf (v : Validators) (fuel : Nat) (m : String) (trm trh : Tree) :
    WorldWF (setupCsp2 v fuel m trm trh) :=
  worldWF_reachable _ (ConcReach.reachable_run _ _ (world0_reachable v fuel))

theorem setupCsp2_off (v : Validators) (fuel : Nat) (m h : String) (hmh : m ≠ h) (trm trh : Tree)
    (hnm : trm.name = m) (hnh : trh.name = h) : wOff (setupCsp2 v fuel m trm trh) = setup2 v fuel m trm trh := by
  have hh : setupCsp2 v fuel m trm trh = (Api.step (setup2 v fuel m trm trh) (.csp 0)).1 := rfl
  rw [hh, setup2_eq v fuel m h hmh trm trh hnm hnh]
  -- as in `setupCsp_off`, on the explicit world `setupW2`
  simp [Api.step, setupW2, World.obj, nlookup, World.ns, World.setNs, nset, bind, Option.bind, wOff, nsOff]

/-- **C01 for a main template calling a helper, in a CSP-compatible set** -/
theorem C01_api_main_plus_helper_csp (v : Validators) (fuel : Nat) (m h : String) (hmh : m ≠ h) (trm trh : Tree)
    (ms : List MP) (hps : List Piece) (asH : List Arg) (cf : Ctx) (es : List EM) (esH : List EPiece)
    (hnm : trm.name = m) (hnh : trh.name = h)
    (hrootM : trm.root = NodeList.ofList (nodesM h 0 ms))
    (hrootH : trh.root = NodeList.ofList (toNodesA 0 hps asH))
    (hokM : ArgsOKM ms) (hasH : ∀ a ∈ asH, ActArg a) (hcall : MP.call ∈ ms)
    (hH : analyse v {} hps = some ({}, esH)) (hM : analyseM v {} ms = some (cf, es))
    (hs : SimpleAll v {} (inlineP hps ms))
    (hfin : finalError cf = none) (hf : ms.length + hps.length + 9 ≤ fuel) (d1 d2 : Value)
    (hu1 : ∀ vs, valsM d1 esH asH es = some vs → ∀ x ∈ vs, Untrusted x)
    (hu2 : ∀ vs, valsM d2 esH asH es = some vs → ∀ x ∈ vs, Untrusted x)
    (o1 o2 : Bytes) (w1 w2 : World)
    (h1 : Api.step (setupCsp2 v fuel m trm trh) (.exec 0 d1) = (w1, .exec (.ok o1)))
    (h2 : Api.step (setupCsp2 v fuel m trm trh) (.exec 0 d2) = (w2, .exec (.ok o2))) :
    skeleton (HtmlTok.tokenize o1).tokens = skeleton (HtmlTok.tokenize o2).tokens ∧
    (HtmlTok.tokenize o1).final = .data ∧ (HtmlTok.tokenize o2).final = .data := by
  have k1 := step_exec_wOff _ _ _ _ _ (setupCsp2_wf v fuel m trm trh) h1
  have k2 := step_exec_wOff _ _ _ _ _ (setupCsp2_wf v fuel m trm trh) h2
  rw [setupCsp2_off v fuel m h hmh trm trh hnm hnh] at k1 k2
  exact C01_api_main_plus_helper v fuel m h hmh trm trh ms hps asH cf es esH hnm hnh hrootM hrootH hokM hasH hcall hH hM
    hs hfin hf d1 d2 hu1 hu2 o1 o2 _ _ k1 k2

/-! ### non-vacuity through the whole state machine (kernel evaluation) -/

/-- `<p title="{{.T}}">{{.T}}</p>` in a CSP-compatible set: `Execute` returns `ok` -/
example : retOk (Api.step (setupCsp v0 100 "t" exTree) (.exec 0 (exData [34, 62, 60]))).2 = true := by
  decide +kernel

/-- … and the transferred theorem applies to it -/
theorem ex_api_csp (b1 b2 o1 o2 : Bytes) (w1 w2 : World)
    (h1 : Api.step (setupCsp v0 100 "t" exTree) (.exec 0 (exData b1)) = (w1, .exec (.ok o1)))
    (h2 : Api.step (setupCsp v0 100 "t" exTree) (.exec 0 (exData b2)) = (w2, .exec (.ok o2))) :
    skeleton (HtmlTok.tokenize o1).tokens = skeleton (HtmlTok.tokenize o2).tokens ∧
    (HtmlTok.tokenize o1).final = .data ∧ (HtmlTok.tokenize o2).final = .data :=
  C01_api_single_template_csp v0 100 "t" exTree exTemplate exArgs
    (by intro a ha; simp [exArgs] at ha; subst ha; exact Or.inr ⟨_, rfl⟩) {} exOut rfl rfl ex_simpleAll ex_analyse
    (by decide) (by decide) _ _ (exData_untrusted b1) (exData_untrusted b2) o1 o2 w1 w2 h1 h2

/-- the static template `<a onclick="x">` -/
def onTree : Tree :=
  { name := "t", root := NodeList.ofList [.text 0 [60, 97, 32, 111, 110, 99, 108, 105, 99, 107, 61, 34, 120, 34, 62]] }

/-- refused (`ErrCSPCompatibility`) in the CSP-compatible set, executed in the plain set: the converse of
    `step_exec_wOff` does not hold -/
example : (Api.step (setupCsp v0 100 "t" onTree) (.exec 0 .noValue)).2.str = "err:analysis:ErrCSPCompatibility -" ∧
    (Api.step (setup v0 100 "t" onTree) (.exec 0 .noValue)).2.str = "ok 3c61206f6e636c69636b3d2278223e" := by
  decide +kernel

end Transfer

end SafeHtml.Proofs.CspMono
