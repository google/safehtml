/-
C06, first half, for templates WITH `{{template}}` calls (calls in the plain text context `{}`, call-free callees). A name
without `$` is memoized only under itself, and only for analyses started in `{}` (`CtxInv`, `mangle_nodollar`); if its
original tree is call-free (`Trk`, `origT`), its memo entry and edits are the canonical ones of `cfOut … {} tree` in every
reachable world (`MInv`, `NSInv`, `nsinv_reachable`). A caller of such names in `{}` is simulated by a memo-free reference
analysis (`rNode`, `rTop`): `C06_textcalls_reachable`, `C06_textcalls_step`. What is not covered: the end of the file.
-/
import SafeHtml.Proofs.Independence
import SafeHtml.Proofs.Analysis
namespace SafeHtml.Proofs.IndependenceCalls
open SafeHtml SafeHtml.Model.Tmpl SafeHtml.Proofs.Frozen SafeHtml.Proofs.ConcApi SafeHtml.Proofs.ConcReach
  SafeHtml.Proofs.ApiFrames SafeHtml.Proofs.NoPanic SafeHtml.Proofs.NoPanic2 SafeHtml.Proofs.NoPanic3 SafeHtml.Proofs.NoPanic4
  SafeHtml.Proofs.Independence

/-! ### a context invariant: a top-level text context is literally the default context -/

def CtxInv (c : Ctx) : Prop :=
  (c.elemName = [] → c.elemNames = [] → c.scriptType = [] ∧ c.linkRel = []) ∧
  (c.state = .text → c.delim = .none ∧ c.attrName = [] ∧ c.attrValue = [] ∧ c.ambiguous = false ∧
     c.attrNames = [] ∧ c.err = none)

theorem ctxInv_default : CtxInv {} :=
  ⟨fun _ _ => ⟨rfl, rfl⟩, fun _ => ⟨rfl, rfl, rfl, rfl, rfl, rfl⟩⟩

theorem ci_nt {c : Ctx} (hs : c.state ≠ .text)
    (h1 : c.elemName = [] → c.elemNames = [] → c.scriptType = [] ∧ c.linkRel = []) : CtxInv c :=
  ⟨h1, fun h => absurd h hs⟩

theorem ctxInv_errorCtx (code : ErrCode) : CtxInv (Ctx.errorCtx code) :=
  ci_nt (by simp [Ctx.errorCtx]) (fun _ _ => ⟨rfl, rfl⟩)

theorem ci_text_eq (c : Ctx) (h : CtxInv c) (hs : c.state = .text) (h1 : c.elemName = []) (h2 : c.elemNames = []) :
    c = {} := by
  obtain ⟨ha, hb⟩ := h
  obtain ⟨a1, a2⟩ := ha h1 h2
  obtain ⟨b1, b2, b3, b4, b5, b6⟩ := hb hs
  cases c
  simp only [] at hs h1 h2 a1 a2 b1 b2 b3 b4 b5 b6
  subst hs h1 h2 a1 a2 b1 b2 b3 b4 b5 b6
  rfl

theorem scriptName_ne : scriptName ≠ [] := by decide
theorem linkName_ne : linkName ≠ [] := by decide

/-- every step of the text scanner keeps `CtxInv`: a step leaves state `text` or starts from the default fields, it
    keeps the element names or comes with them non-empty, and an attribute value only grows inside a delimiter -/
theorem ctxInv_textClosed : Analysis.TextClosed CtxInv where
  err := ctxInv_errorCtx
  step := by
    intro c c' h hc
    cases h with
    | fresh => exact ctxInv_default
    | cmt => exact ci_nt (by simp) (fun _ _ => ⟨rfl, rfl⟩)
    | tagOpen => exact ci_nt (by simp) (fun _ _ => ⟨rfl, rfl⟩)
    | tagEnd => exact ⟨hc.1, fun _ => ⟨rfl, rfl, rfl, rfl, rfl, rfl⟩⟩
    | tagEndVoid => exact ⟨fun _ _ => ⟨rfl, rfl⟩, fun _ => ⟨rfl, rfl, rfl, rfl, rfl, rfl⟩⟩
    | attrStart st r n _ hst =>
      exact ci_nt (by rcases hst with rfl | rfl <;> simp) (fun h1 h2 => ⟨rfl, (hc.1 h1 h2).2⟩)
    | afterName => exact ci_nt (by simp) hc.1
    | tag => exact ci_nt (by simp) hc.1
    | beforeValue => exact ci_nt (by simp) hc.1
    | attr => exact ci_nt (by simp) hc.1
    | value s hd => exact ci_nt (fun hs => hd (hc.2 hs).1) hc.1
    | attrEnd st lr _ hst hlr =>
      refine ci_nt (by simp) (fun h1 h2 => ?_)
      have h1 : c.elemName = [] := h1
      have ⟨e1, e2⟩ := hc.1 h1 h2
      refine ⟨?_, ?_⟩
      · rcases hst with rfl | hn
        · exact e1
        · exact absurd (hn.symm.trans h1) scriptName_ne
      · rcases hlr with rfl | hn
        · exact e2
        · exact absurd (hn.symm.trans h1) linkName_ne

theorem ctxInv_attrName {c : Ctx} (h : CtxInv c) : CtxInv { c with state := .attrName } := ci_nt (by simp) h.1

theorem ci_nudge (c : Ctx) (h : CtxInv c) : CtxInv (nudge c) := by
  unfold nudge
  split
  · exact ctxInv_attrName h
  · rename_i hs; exact ctxInv_textClosed.step (.attr _ hs (by simp)) h
  · exact ctxInv_attrName h
  · exact h

theorem nudge_text (c : Ctx) (h : (nudge c).state = .text) : nudge c = c ∧ c.state = .text := by
  unfold nudge at h ⊢
  split at h
  · cases h
  · cases h
  · cases h
  · exact ⟨rfl, h⟩

/-! ### join -/

def jadd (acc : List Bytes) (n : Bytes) : List Bytes := if acc.contains n then acc else acc ++ [n]

theorem jadd_ne (acc : List Bytes) (n : Bytes) : jadd acc n ≠ [] := by
  unfold jadd
  split
  · rename_i h
    intro h0
    rw [h0] at h
    cases h
  · cases acc <;> simp

theorem foldl_jadd_nil : ∀ (l : List Bytes) (r : List Bytes), l.foldl jadd r = [] → r = [] ∧ l = [] := by
  intro l
  induction l with
  | nil => intro r h; exact ⟨h, rfl⟩
  | cons x t ih =>
    intro r h
    rw [List.foldl_cons] at h
    exact absurd (ih _ h).1 (jadd_ne r x)

theorem joinNames_eq (x y : Bytes) (xs ys : List Bytes) :
    joinNames x y xs ys =
      ys.foldl jadd (if x != y then jadd (jadd (xs.foldl jadd []) x) y else xs.foldl jadd []) := rfl

theorem joinNames_nil (x y : Bytes) (xs ys : List Bytes) (h : joinNames x y xs ys = []) :
    xs = [] ∧ ys = [] ∧ x = y := by
  rw [joinNames_eq] at h
  obtain ⟨h1, h2⟩ := foldl_jadd_nil _ _ h
  split at h1
  · exact absurd h1 (jadd_ne _ _)
  · rename_i hne
    refine ⟨(foldl_jadd_nil _ _ h1).2, h2, ?_⟩
    simpa using hne

theorem joinNames_nil_nil : joinNames [] [] [] [] = [] := rfl

theorem bor3_false : (false || (([] : Bytes) != []) || false) = false := rfl

/-- what `CtxInv` says of a context in state `text`, apart from the names of the open element -/
def TextCtx (c : Ctx) : Prop :=
  c.delim = .none ∧ c.attrName = [] ∧ c.attrValue = [] ∧ c.ambiguous = false ∧ c.attrNames = [] ∧ c.err = none

theorem TextCtx.named {a b : Ctx} (ha : TextCtx a) (hb : TextCtx b) : TextCtx (Analysis.named a b) := by
  obtain ⟨a1, a2, a3, a4, a5, a6⟩ := ha
  obtain ⟨_, b2, b3, b4, b5, _⟩ := hb
  refine ⟨a1, a2, a3, ?_, ?_, a6⟩
  · show (a.ambiguous || (a.attrValue != b.attrValue) || b.ambiguous) = false
    rw [a4, a3, b3, b4]; exact bor3_false
  · show joinNames a.attrName b.attrName a.attrNames b.attrNames = []
    rw [a2, b2, a5, b5]; exact joinNames_nil_nil

/-- two contexts that `join` finds compatible: the name lists of the result are empty only if those of `a` are, and in
    state `text` both are default contexts -/
theorem ctxInv_joined {a b : Ctx} (h1 : a.elemName = [] → a.elemNames = [] → a.scriptType = [] ∧ a.linkRel = [])
    (h2 : a.state = .text → b.state = .text → TextCtx a) (hb : CtxInv b)
    (heq : (Analysis.joined a b).eq b = true) : CtxInv (Analysis.joined a b) := by
  have hst : a.state = b.state := (eq_state heq).1
  refine ⟨fun e1 e2 => ?_, fun hs => ?_⟩
  · obtain ⟨n1, _, n3⟩ := joinNames_nil _ _ _ _ e2
    exact h1 (n3.trans e1) n1
  · have hsb : b.state = .text := hst.symm.trans hs
    have hn := (h2 hs hsb).named (hb.2 hsb)
    exact ⟨hn.1, (hb.2 hsb).2.1, hn.2.2⟩

theorem ci_join {a b : Ctx} (ha : CtxInv a) (hb : CtxInv b) : CtxInv (join a b) := by
  rcases Analysis.join_cases a b with h | h | h | ⟨a0, b0, hab, _, _, h, heq⟩
  · rw [h]; exact ha
  · rw [h]; exact hb
  · rw [h]; exact ctxInv_errorCtx _
  · rw [h]
    rcases hab with ⟨rfl, rfl⟩ | ⟨rfl, rfl⟩
    · exact ctxInv_joined ha.1 (fun hs _ => ha.2 hs) hb heq
    · -- the nudged retry: `nudge` keeps the element names, and is the identity where it returns state `text`
      refine ctxInv_joined ?_ ?_ (ci_nudge b hb) heq
      · have hn : ∀ x : Ctx, (nudge x).elemName = x.elemName ∧ (nudge x).elemNames = x.elemNames ∧
            (nudge x).scriptType = x.scriptType ∧ (nudge x).linkRel = x.linkRel := by
          intro x; unfold nudge; split <;> exact ⟨rfl, rfl, rfl, rfl⟩
        obtain ⟨n1, n2, n3, n4⟩ := hn (Analysis.named a b)
        rw [n1, n2, n3, n4]
        exact fun e1 e2 => ha.1 e1 (joinNames_nil _ _ _ _ e2).1
      · intro hs hs'
        obtain ⟨e1, hsa⟩ := nudge_text _ hs
        obtain ⟨_, hsb⟩ := nudge_text _ hs'
        rw [e1]
        exact TextCtx.named (ha.2 hsa) (hb.2 hsb)

theorem ctxInv_closed : Analysis.CtxClosed CtxInv :=
  { ctxInv_textClosed with attrName := fun _ h => ctxInv_attrName h, join := ci_join }

def CIall (e : Esc) : Prop := ∀ p ∈ e.output, CtxInv p.2

/-! ### fuel monotonicity -/

theorem bind_mono {α β} {x x' : Out α} {g g' : α → Out β}
    (hx : x ≠ .fuel → x' = x) (hg : ∀ a, x = .ok a → g a ≠ .fuel → g' a = g a)
    (h : (x >>= g) ≠ .fuel) : (x' >>= g') = (x >>= g) := by
  cases x with
  | ok a =>
    rw [hx (by intro h; cases h)]
    exact hg a rfl h
  | panic m =>
    rw [hx (by intro h; cases h)]
    rfl
  | fuel => exact absurd rfl h

/-- without `{{template}}` nodes the fuel is consumed by the depth of the tree only: a run that does not run out of
    fuel is not changed by one more unit -/
theorem cf_fuel_succ (env : Env) : ∀ f,
    (∀ n, nodeNoCalls n → ∀ tn e c, escapeNode env f tn e c n ≠ .fuel →
      escapeNode env (f + 1) tn e c n = escapeNode env f tn e c n) ∧
    (∀ l, listNoCalls l → ∀ tn e c, escapeList env f tn e c l ≠ .fuel →
      escapeList env (f + 1) tn e c l = escapeList env f tn e c l) ∧
    (∀ t el, listNoCalls t → listNoCalls el → ∀ tn e c b, escapeBranch env f tn e c t el b ≠ .fuel →
      escapeBranch env (f + 1) tn e c t el b = escapeBranch env f tn e c t el b) := by
  intro f
  induction f with
  | zero =>
    exact ⟨fun _ _ _ _ _ h => absurd (Analysis.escapeNode_zero ..) h, fun _ _ _ _ _ h => absurd (Analysis.escapeList_zero ..) h,
      fun _ _ _ _ _ _ _ _ h => absurd (Analysis.escapeBranch_zero ..) h⟩
  | succ f ih =>
    obtain ⟨hn, hl, hb⟩ := ih
    refine ⟨fun n hnc tn e c h => ?_, fun l hlc tn e c h => ?_, fun t el ht hel tn e c b h => ?_⟩
    · cases n with
      | text id b => simp only [Analysis.escapeNode_text]
      | action id p => simp only [Analysis.escapeNode_action]
      | tmpl id name p => simp only [nodeNoCalls] at hnc
      | ifN id p t el =>
        simp only [nodeNoCalls] at hnc
        simp only [Analysis.escapeNode_if] at h ⊢
        exact hb t el hnc.1 hnc.2 tn e c false h
      | rangeN id p t el =>
        simp only [nodeNoCalls] at hnc
        simp only [Analysis.escapeNode_range] at h ⊢
        exact hb t el hnc.1 hnc.2 tn e c true h
      | withN id p t el =>
        simp only [nodeNoCalls] at hnc
        simp only [Analysis.escapeNode_with] at h ⊢
        exact hb t el hnc.1 hnc.2 tn e c false h
      | brk id => simp only [Analysis.escapeNode_brk]
      | cont id => simp only [Analysis.escapeNode_cont]
      | comment id => simp only [Analysis.escapeNode_comment]
    · cases l with
      | nil => simp only [Analysis.escapeList_nil]
      | cons n ns =>
        simp only [listNoCalls] at hlc
        simp only [Analysis.escapeList_cons] at h ⊢
        exact bind_mono (hn n hlc.1 tn e c) (fun a _ h2 => hl ns hlc.2 tn a.1 a.2 h2) h
    · simp only [Analysis.escapeBranch_succ] at h ⊢
      refine bind_mono (hl t ht tn e c) (fun a _ h2 => ?_) h
      refine bind_mono (fun h3 => ?_) (fun j _ h4 => ?_) h2
      · split
        · rw [if_pos ‹_›] at h3
          exact bind_mono (hl t ht tn _ a.2) (fun _ _ _ => rfl) h3
        · rfl
      · cases j with
        | some jc =>
          dsimp only at h4 ⊢
          split
          · rfl
          · rw [if_neg ‹_›] at h4
            exact bind_mono (hl el hel tn a.1 c) (fun _ _ _ => rfl) h4
        | none => exact bind_mono (hl el hel tn a.1 c) (fun _ _ _ => rfl) h4

theorem node_fuel_succ (env : Env) : ∀ n, nodeNoCalls n → ∀ f tn e c, escapeNode env f tn e c n ≠ .fuel →
    escapeNode env (f + 1) tn e c n = escapeNode env f tn e c n :=
  fun n hn f => (cf_fuel_succ env f).1 n hn

theorem list_fuel_mono (env : Env) (l : NodeList) (hl : listNoCalls l) {f f' : Nat} (hf : f ≤ f') (tn : String)
    (e : Esc) (c : Ctx) (h : escapeList env f tn e c l ≠ .fuel) :
    escapeList env f' tn e c l = escapeList env f tn e c l := by
  induction hf with
  | refl => rfl
  | step _ ih => exact ((cf_fuel_succ env _).2.1 l hl tn e c (ih ▸ h)).trans ih

/-! ### the canonical functions -/

theorem cfBody_fuel_mono (env : Env) {f f' : Nat} (hf : f ≤ f') (tn : String) (c : Ctx) (root : NodeList)
    (hl : listNoCalls root) (h : cfBody env f tn c root ≠ .fuel) : cfBody env f' tn c root = cfBody env f tn c root := by
  unfold cfBody at h ⊢
  rw [list_fuel_mono env root hl hf tn {} c (fun hh => h (by rw [hh]))]

theorem cfOut_fuel_mono (env : Env) {f f' : Nat} (hf : f ≤ f') (tn : String) (c : Ctx) (root : NodeList)
    (hl : listNoCalls root) (h : cfOut env f tn c root ≠ .fuel) : cfOut env f' tn c root = cfOut env f tn c root := by
  unfold cfOut at h ⊢
  cases hB : cfBody env f tn c root with
  | fuel => rw [hB] at h; exact absurd rfl h
  | panic m => rw [cfBody_fuel_mono env hf tn c root hl (by rw [hB]; nofun), hB]
  | ok a =>
    obtain ⟨c1, b, s⟩ := a
    rw [cfBody_fuel_mono env hf tn c root hl (by rw [hB]; nofun), hB]
    rw [hB] at h
    cases b with
    | true => rfl
    | false =>
      dsimp only at h ⊢
      rw [cfBody_fuel_mono env hf tn c1 root hl (fun hh => h (by rw [hh]))]

theorem cfOut_mono {env : Env} {f f' : Nat} (hf : f ≤ f') {tn : String} {c : Ctx} {root : NodeList}
    (hl : listNoCalls root) {x : Out (Ctx × Esc)} (h : cfOut env f tn c root = x) (hx : x ≠ .fuel) :
    cfOut env f' tn c root = x :=
  (cfOut_fuel_mono env hf tn c root hl (h ▸ hx)).trans h

/-! ### keys of the pending edits -/

def EK (tn : String) (e r : Esc) : Prop :=
  (∀ q ∈ r.actionEdits, q ∈ e.actionEdits ∨ q.1.1 = tn) ∧ r.tmplEdits = e.tmplEdits ∧
  (∀ q ∈ r.textEdits, q ∈ e.textEdits ∨ q.1.1 = tn)

theorem EK.refl (tn : String) (e : Esc) : EK tn e e := ⟨fun _ h => .inl h, rfl, fun _ h => .inl h⟩

theorem EK.trans {tn : String} {e e1 e2 : Esc} (h1 : EK tn e e1) (h2 : EK tn e1 e2) : EK tn e e2 := by
  refine ⟨fun q hq => ?_, h2.2.1.trans h1.2.1, fun q hq => ?_⟩
  · rcases h2.1 q hq with h | h
    · exact h1.1 q h
    · exact .inr h
  · rcases h2.2.2 q hq with h | h
    · exact h1.2.2 q h
    · exact .inr h

theorem mem_snoc_key {β} {l : List (EditKey × β)} {tn : String} {id : Nat} {v : β} :
    ∀ q ∈ l ++ [((tn, id), v)], q ∈ l ∨ q.1.1 = tn := fun q hq =>
  (List.mem_append.mp hq).imp_right fun hq => by rw [List.mem_singleton.mp hq]

theorem escapeAction_ek {env : Env} {tn : String} {e : Esc} {c : Ctx} {id : Nat} {p : Pipe} {r : Esc × Ctx}
    (h : escapeAction env tn e c id p = .ok r) : EK tn e r.1 := by
  rcases Analysis.escapeAction_ok h with h1 | ⟨s, h1⟩ <;> rw [h1]
  · exact EK.refl _ _
  · exact ⟨mem_snoc_key, rfl, fun _ hq => .inl hq⟩

theorem escapeTextNode_ek {env : Env} {tn : String} {e : Esc} {c : Ctx} {id : Nat} {b : Bytes} {r : Esc × Ctx}
    (h : escapeTextNode env tn e c id b = .ok r) : EK tn e r.1 := by
  rcases Analysis.escapeTextNode_ok h with h1 | ⟨s, h1⟩ <;> rw [h1]
  · exact EK.refl _ _
  · exact ⟨fun _ hq => .inl hq, rfl, mem_snoc_key⟩

theorem cf_ek (env : Env) : ∀ f,
    (∀ n, nodeNoCalls n → ∀ tn (e : Esc) c (r : Esc × Ctx), escapeNode env f tn e c n = .ok r → EK tn e r.1) ∧
    (∀ l, listNoCalls l → ∀ tn (e : Esc) c (r : Esc × Ctx), escapeList env f tn e c l = .ok r → EK tn e r.1) ∧
    (∀ t el, listNoCalls t → listNoCalls el → ∀ tn (e : Esc) c b (r : Esc × Ctx),
      escapeBranch env f tn e c t el b = .ok r → EK tn e r.1) := by
  intro f
  induction f with
  | zero =>
    refine ⟨fun _ _ _ _ _ _ h => ?_, fun _ _ _ _ _ _ h => ?_, fun _ _ _ _ _ _ _ _ _ h => ?_⟩
    · rw [Analysis.escapeNode_zero] at h; cases h
    · rw [Analysis.escapeList_zero] at h; cases h
    · rw [Analysis.escapeBranch_zero] at h; cases h
  | succ f ih =>
    obtain ⟨hn, hl, hb⟩ := ih
    refine ⟨fun n hnc tn e c r h => ?_, fun l hlc tn e c r h => ?_, fun t el ht hel tn e c b r h => ?_⟩
    · cases n with
      | text id b => rw [Analysis.escapeNode_text] at h; exact escapeTextNode_ek h
      | action id p => rw [Analysis.escapeNode_action] at h; exact escapeAction_ek h
      | tmpl id name p => simp only [nodeNoCalls] at hnc
      | ifN id p t el =>
        simp only [nodeNoCalls] at hnc
        rw [Analysis.escapeNode_if] at h; exact hb t el hnc.1 hnc.2 tn e c false r h
      | rangeN id p t el =>
        simp only [nodeNoCalls] at hnc
        rw [Analysis.escapeNode_range] at h; exact hb t el hnc.1 hnc.2 tn e c true r h
      | withN id p t el =>
        simp only [nodeNoCalls] at hnc
        rw [Analysis.escapeNode_with] at h; exact hb t el hnc.1 hnc.2 tn e c false r h
      | brk id => rw [Analysis.escapeNode_brk] at h; cases h; exact EK.refl _ _
      | cont id => rw [Analysis.escapeNode_cont] at h; cases h; exact EK.refl _ _
      | comment id => rw [Analysis.escapeNode_comment] at h; cases h; exact EK.refl _ _
    · cases l with
      | nil => rw [Analysis.escapeList_nil] at h; cases h; exact EK.refl _ _
      | cons n ns =>
        simp only [listNoCalls] at hlc
        obtain ⟨e1, c1, h1, h2⟩ := Analysis.escapeList_cons_ok h
        exact (hn n hlc.1 tn e c _ h1).trans (hl ns hlc.2 tn e1 c1 r h2)
    · obtain ⟨e1, c0, h1, h2⟩ := Analysis.escapeBranch_ok h
      have k1 : EK tn e e1 := hl t ht tn e c _ h1
      rcases h2 with ⟨_, es, c1, _, ⟨_, rfl⟩ | ⟨_, e2, c2, h5, rfl⟩⟩ | ⟨_, e2, c2, h3, rfl⟩
      · exact k1
      · exact k1.trans (hl el hel tn e1 c (e2, c2) h5)
      · exact k1.trans (hl el hel tn e1 c (e2, c2) h3)

theorem node_ek (env : Env) : ∀ n, nodeNoCalls n → ∀ f tn (e : Esc) c (r : Esc × Ctx),
    escapeNode env f tn e c n = .ok r → EK tn e r.1 :=
  fun n hn f => (cf_ek env f).1 n hn

theorem list_ek (env : Env) : ∀ l, listNoCalls l → ∀ f tn (e : Esc) c (r : Esc × Ctx),
    escapeList env f tn e c l = .ok r → EK tn e r.1 :=
  fun l hl f => (cf_ek env f).2.1 l hl

theorem cf_edit_keys (env : Env) : ∀ l, listNoCalls l → ∀ f tn (e : Esc) c (r : Esc × Ctx),
    escapeList env f tn e c l = .ok r →
    (∀ q ∈ r.1.actionEdits, q ∈ e.actionEdits ∨ q.1.1 = tn) ∧ r.1.tmplEdits = e.tmplEdits ∧
    (∀ q ∈ r.1.textEdits, q ∈ e.textEdits ∨ q.1.1 = tn) :=
  fun l hl f tn e c r h => list_ek env l hl f tn e c r h

theorem ek_empty {tn : String} {s : Esc} (h : EK tn {} s) :
    (∀ q ∈ s.actionEdits, q.1.1 = tn) ∧ s.tmplEdits = [] ∧ (∀ q ∈ s.textEdits, q.1.1 = tn) :=
  ⟨fun q hq => (h.1 q hq).resolve_left (List.not_mem_nil), h.2.1, fun q hq => (h.2.2 q hq).resolve_left (List.not_mem_nil)⟩

theorem cfOut_ok {env : Env} {f : Nat} {tn : String} {c : Ctx} {root : NodeList} {c' : Ctx} {ss : Esc}
    (h : cfOut env f tn c root = .ok (c', ss)) :
    ss = {} ∨ ∃ c0 c1 b, cfBody env f tn c0 root = .ok (c1, b, ss) := by
  unfold cfOut at h
  cases hB : cfBody env f tn c root with
  | fuel => rw [hB] at h; cases h
  | panic m => rw [hB] at h; cases h
  | ok a =>
    obtain ⟨c1, b, s⟩ := a
    rw [hB] at h
    cases b with
    | true => cases h; exact .inr ⟨_, _, _, hB⟩
    | false =>
      dsimp only at h
      cases hB2 : cfBody env f tn c1 root with
      | fuel => rw [hB2] at h; cases h
      | panic m => rw [hB2] at h; cases h
      | ok a2 =>
        obtain ⟨c2, b2, s2⟩ := a2
        rw [hB2] at h
        cases b2 with
        | true => cases h; exact .inr ⟨_, _, _, hB2⟩
        | false => cases h; exact .inl rfl

theorem cfOut_edit_keys (env : Env) (f : Nat) (tn : String) (c : Ctx) (root : NodeList) (hl : listNoCalls root)
    (c' : Ctx) (ss : Esc) (h : cfOut env f tn c root = .ok (c', ss)) :
    (∀ q ∈ ss.actionEdits, q.1.1 = tn) ∧ ss.tmplEdits = [] ∧ (∀ q ∈ ss.textEdits, q.1.1 = tn) := by
  apply ek_empty
  rcases cfOut_ok h with rfl | ⟨c0, c1, b, hB⟩
  · exact EK.refl _ _
  · unfold cfBody at hB
    cases hS : escapeList env f tn {} c0 root with
    | fuel => rw [hS] at hB; cases hB
    | panic m => rw [hS] at hB; cases hB
    | ok a =>
      rw [hS] at hB
      cases hB
      exact list_ek env root hl f tn {} c0 _ hS

/-! ## basic definitions: names without `$`, edits keyed by a name, original trees -/

/-- the name contains no `$` (so it is not a mangled name) -/
def NoDollar (h : String) : Prop := '$' ∉ h.toList

instance (h : String) : Decidable (NoDollar h) := by unfold NoDollar; exact inferInstance

def fk {β} (h : String) (l : List (EditKey × β)) : List (EditKey × β) := l.filter (fun q => q.1.1 == h)

theorem fk_append {β} (h : String) (l1 l2 : List (EditKey × β)) : fk h (l1 ++ l2) = fk h l1 ++ fk h l2 :=
  List.filter_append ..

theorem fk_nil {β} (h : String) : fk h ([] : List (EditKey × β)) = [] := rfl

theorem fk_all {β} (h : String) (l : List (EditKey × β)) (hl : ∀ q ∈ l, q.1.1 = h) : fk h l = l := by
  unfold fk
  rw [List.filter_eq_self]
  intro q hq
  simp only [beq_iff_eq]
  exact hl q hq

theorem fk_none {β} (h : String) (l : List (EditKey × β)) (hl : ∀ q ∈ l, q.1.1 ≠ h) : fk h l = [] := by
  unfold fk
  rw [List.filter_eq_nil_iff]
  intro q hq
  simp only [beq_iff_eq]
  exact hl q hq

theorem fk_single_ne {β} (h tn : String) (id : Nat) (v : β) (hne : tn ≠ h) : fk h [((tn, id), v)] = [] :=
  fk_none h _ (by intro q hq; simp only [List.mem_singleton] at hq; subst hq; exact hne)

/-- the parse tree of `h` before any commit rewrote it: the pristine snapshot if there is one, else the installed tree
    (`commit` snapshots every analysed template before it first applies edits; see `origT_commit`) -/
def origT (text : TextSet) (e : Esc) (h : String) : Option Tree :=
  match alookup e.pristine h with
  | some t => some t
  | none =>
    match text.lookup h with
    | some (some t) => some t
    | _ => none

/-! ## the commit: original trees, edits keyed by a name -/

/-! ### the snapshot fold -/

/-- the snapshot step of `commit` -/
def icc_snap (text : TextSet) (derived : List (String × Tree)) (acc : List (String × Tree)) (p : String × Ctx) :
    List (String × Tree) :=
  if (alookup acc p.1).isSome then acc
  else match text.lookup p.1 with
    | some (some t) => acc ++ [(p.1, t)]
    | some none => acc
    | none => match alookup derived p.1 with
      | some t => acc ++ [(p.1, t)]
      | none => acc

def icc_V (text : TextSet) (h : String) : Option Tree :=
  match text.lookup h with
  | some (some t) => some t
  | _ => none

theorem icc_commit_pristine (text : TextSet) (e : Esc) (text2 : TextSet) (e2 : Esc)
    (hc : commit text e = .ok (text2, e2)) :
    e2.pristine = e.output.foldl (icc_snap text e.derived) e.pristine := by
  unfold commit at hc
  simp only [] at hc
  split at hc
  · cases hc
  · obtain ⟨t2, h1, h2⟩ := Analysis.bind_ok hc
    cases h2
    rfl

theorem icc_snap_other (text : TextSet) (derived : List (String × Tree)) (acc : List (String × Tree))
    (p : String × Ctx) (h : String) (hp : ¬ p.1 = h) :
    alookup (icc_snap text derived acc p) h = alookup acc h := by
  have hap : ∀ t, alookup (acc ++ [(p.1, t)]) h = alookup acc h := by
    intro t
    rw [Analysis.alookup_append, Analysis.alookup_cons, if_neg hp, Analysis.alookup_nil]
    cases alookup acc h <;> rfl
  unfold icc_snap
  split
  · rfl
  · split
    · exact hap _
    · rfl
    · split
      · exact hap _
      · rfl

theorem icc_snap_same (text : TextSet) (derived : List (String × Tree)) (acc : List (String × Tree))
    (p : String × Ctx) (hd : alookup derived p.1 = none) :
    alookup (icc_snap text derived acc p) p.1 = match alookup acc p.1 with
      | some t => some t
      | none => icc_V text p.1 := by
  unfold icc_snap icc_V
  cases hacc : alookup acc p.1 with
  | some x =>
    simp only [Option.isSome_some, if_true]
    exact hacc
  | none =>
    simp only [Option.isSome_none, Bool.false_eq_true, if_false]
    cases hl : text.lookup p.1 with
    | some o =>
      cases o with
      | some t =>
        simp only []
        rw [Analysis.alookup_append, hacc, Analysis.alookup_cons, if_pos rfl]
        rfl
      | none => simp only []; exact hacc
    | none =>
      simp only [hd]
      exact hacc

theorem icc_snap_lookup (text : TextSet) (derived : List (String × Tree)) (acc : List (String × Tree))
    (p : String × Ctx) (h : String) (hd : alookup derived h = none) :
    alookup (icc_snap text derived acc p) h = match alookup acc h with
      | some t => some t
      | none => if p.1 = h then icc_V text h else none := by
  by_cases hp : p.1 = h
  · subst hp
    rw [icc_snap_same text derived acc p hd]
    simp only [if_true]
  · rw [icc_snap_other text derived acc p h hp]
    cases alookup acc h with
    | some x => rfl
    | none => simp only [if_neg hp]

theorem icc_snap_fold (text : TextSet) (derived : List (String × Tree)) (h : String)
    (hd : alookup derived h = none) (l : List (String × Ctx)) : ∀ acc : List (String × Tree),
    alookup (l.foldl (icc_snap text derived) acc) h = match alookup acc h with
      | some t => some t
      | none => if (alookup l h).isSome then icc_V text h else none := by
  induction l with
  | nil =>
    intro acc
    rw [List.foldl_nil, Analysis.alookup_nil]
    cases alookup acc h with
    | some x => rfl
    | none => rfl
  | cons p t ih =>
    intro acc
    rw [List.foldl_cons, ih, icc_snap_lookup text derived acc p h hd, Analysis.alookup_cons]
    cases alookup acc h with
    | some x => rfl
    | none =>
      simp only []
      by_cases hp : p.1 = h
      · simp only [if_pos hp, Option.isSome_some, if_true]
        cases icc_V text h with
        | some x => rfl
        | none => simp only [ite_self]
      · simp only [if_neg hp]

/-! ### the edit fold keeps an entry that is not a tree -/

theorem icc_editStep_keep (e : Esc) (ts ts' : TextSet) (n m : String) (h : editStep e ts n = .ok ts')
    (hm : ¬ IsTree (ts.lookup m)) : ts'.lookup m = ts.lookup m := by
  by_cases hmn : m = n
  · subst hmn
    unfold editStep at h
    split at h
    · rename_i tr htr
      exact absurd ⟨tr, htr⟩ hm
    · cases h; rfl
  · exact editStep_lookup_other e ts ts' n m h hmn

theorem icc_edits_keep (e : Esc) (names : List String) : ∀ (ts ts' : TextSet) (m : String),
    names.foldlM (editStep e) ts = .ok ts' → ¬ IsTree (ts.lookup m) → ts'.lookup m = ts.lookup m := by
  induction names with
  | nil => intro ts ts' m h _; cases h; rfl
  | cons n t ih =>
    intro ts ts' m h hm
    rw [List.foldlM_cons] at h
    obtain ⟨ts1, h1, h2⟩ := Analysis.bind_ok h
    have h3 := icc_editStep_keep e ts ts1 n m h1 hm
    rw [ih ts1 ts' m h2 (by rw [h3]; exact hm), h3]

theorem icc_commit_keep_nontree (text : TextSet) (e : Esc) (text2 : TextSet) (e2 : Esc) (h : String)
    (hc : commit text e = .ok (text2, e2)) (hd : ∀ p ∈ e.derived, p.1 ≠ h)
    (hn : ¬ IsTree (text.lookup h)) : text2.lookup h = text.lookup h := by
  obtain ⟨pr, h1, _⟩ := commit_spec text e text2 e2 hc
  have hi : (e.derived.foldl installStep text).lookup h = text.lookup h :=
    install_keeps e.derived text h (fun p hp he => absurd he (hd p hp))
  rw [icc_edits_keep _ _ _ _ h h1 (by rw [hi]; exact hn), hi]

/-! ### edits keyed by a name -/

theorem icc_find_fk {β} (h : String) (id : Nat) (l : List (EditKey × β)) :
    l.find? (fun p => p.1 == (h, id)) = (fk h l).find? (fun p => p.1 == (h, id)) := by
  unfold fk
  induction l with
  | nil => rfl
  | cons q t ih =>
    by_cases hq : q.1 = (h, id)
    · have h1 : (q.1.1 == h) = true := by rw [hq]; simp only [beq_self_eq_true]
      have h2 : (q.1 == (h, id)) = true := by rw [hq]; simp only [beq_self_eq_true]
      simp only [List.filter_cons, h1, if_true, List.find?_cons, h2]
    · have h2 : (q.1 == (h, id)) = false := by simpa using hq
      by_cases h1 : (q.1.1 == h) = true
      · simp only [List.filter_cons, h1, if_true, List.find?_cons, h2]
        exact ih
      · simp only [List.filter_cons, h1, List.find?_cons, h2]
        exact ih

theorem icc_mem_names_fk {β} (h : String) (l : List (EditKey × β)) :
    h ∈ l.map (·.1.1) ↔ h ∈ (fk h l).map (·.1.1) := by
  unfold fk
  constructor
  · intro hm
    obtain ⟨q, hq, he⟩ := List.mem_map.mp hm
    exact List.mem_map.mpr ⟨q, List.mem_filter.mpr ⟨hq, by simp only [he, beq_self_eq_true]⟩, he⟩
  · intro hm
    obtain ⟨q, hq, he⟩ := List.mem_map.mp hm
    exact List.mem_map.mpr ⟨q, (List.mem_filter.mp hq).1, he⟩

theorem icc_mem_editNames_fk (ss e' : Esc) (h : String)
    (ha : fk h e'.actionEdits = ss.actionEdits) (ht : fk h e'.tmplEdits = ss.tmplEdits)
    (hx : fk h e'.textEdits = ss.textEdits) : h ∈ editNames e' ↔ h ∈ editNames ss := by
  unfold editNames
  rw [List.mem_eraseDups, List.mem_eraseDups, List.mem_append, List.mem_append, List.mem_append, List.mem_append,
    ← ha, ← ht, ← hx, ← icc_mem_names_fk h, ← icc_mem_names_fk h, ← icc_mem_names_fk h]

theorem commit_fk (text : TextSet) (ss e' : Esc) (h : String) (t : Tree) (text2 : TextSet) (e2 : Esc)
    (hc : commit text e' = .ok (text2, e2)) (hl : text.lookup h = some (some t)) (hd : ∀ p ∈ e'.derived, p.1 ≠ h)
    (ha : fk h e'.actionEdits = ss.actionEdits) (ht : fk h e'.tmplEdits = ss.tmplEdits)
    (hx : fk h e'.textEdits = ss.textEdits) :
    ∃ T, cfTree h ss t = some T ∧ text2.lookup h = some (some T) :=
  commit_tree text ss e' h t text2 e2 hc hl hd (icc_mem_editNames_fk ss e' h ha ht hx)
    ⟨fun id => by rw [← hx]; exact icc_find_fk h id _, fun id => by rw [← ha]; exact icc_find_fk h id _,
      fun id => by rw [← ht]; exact icc_find_fk h id _⟩

theorem icc_fk_nil_ne {β} (h : String) (l : List (EditKey × β)) (hf : fk h l = []) : ∀ q ∈ l, q.1.1 ≠ h := by
  intro q hq he
  have : q ∈ fk h l := List.mem_filter.mpr ⟨hq, by simp only [he, beq_self_eq_true]⟩
  rw [hf] at this
  cases this

theorem commit_fk_nil (text : TextSet) (e' : Esc) (h : String) (text2 : TextSet) (e2 : Esc)
    (hc : commit text e' = .ok (text2, e2)) (hd : ∀ p ∈ e'.derived, p.1 ≠ h)
    (ha : fk h e'.actionEdits = []) (ht : fk h e'.tmplEdits = []) (hx : fk h e'.textEdits = []) :
    text2.lookup h = text.lookup h := by
  refine commit_keeps text e' text2 e2 h hc ?_ (fun p hp he => absurd he (hd p hp))
  intro hmem
  rcases mem_editNames e' h hmem with ⟨p, hp, he⟩ | ⟨p, hp, he⟩ | ⟨p, hp, he⟩
  · exact icc_fk_nil_ne h _ ha p hp he
  · exact icc_fk_nil_ne h _ ht p hp he
  · exact icc_fk_nil_ne h _ hx p hp he

theorem fk_nil_of_km (e : Esc) (h : String) (hkm : KM e) (hm : ¬ Memo e h) :
    fk h e.actionEdits = [] ∧ fk h e.tmplEdits = [] ∧ fk h e.textEdits = [] := by
  refine ⟨fk_none h _ ?_, fk_none h _ ?_, fk_none h _ ?_⟩
  · intro q hq he
    exact hm (he ▸ hkm q.1 (.inl (List.mem_map.mpr ⟨q, hq, rfl⟩)))
  · intro q hq he
    exact hm (he ▸ hkm q.1 (.inr (.inl (List.mem_map.mpr ⟨q, hq, rfl⟩))))
  · intro q hq he
    exact hm (he ▸ hkm q.1 (.inr (.inr (List.mem_map.mpr ⟨q, hq, rfl⟩))))

theorem origT_commit (text : TextSet) (e : Esc) (text2 : TextSet) (e2 : Esc) (h : String)
    (hc : commit text e = .ok (text2, e2)) (hd : ∀ p ∈ e.derived, p.1 ≠ h) (hkm : KM e) :
    origT text2 e2 h = origT text e h := by
  have hpr := icc_commit_pristine text e text2 e2 hc
  have hdn : alookup e.derived h = none := Analysis.alookup_eq_none.mpr hd
  have hfold := icc_snap_fold text e.derived h hdn e.output e.pristine
  rw [← hpr] at hfold
  unfold origT
  cases hp : alookup e.pristine h with
  | some t =>
    rw [hp] at hfold
    simp only [] at hfold
    rw [hfold]
  | none =>
    rw [hp] at hfold
    simp only [] at hfold
    by_cases hm : Memo e h
    · unfold Memo at hm
      rw [if_pos hm] at hfold
      unfold icc_V at hfold
      cases hl : text.lookup h with
      | some o =>
        cases o with
        | some t =>
          rw [hl] at hfold
          simp only [] at hfold
          rw [hfold]
        | none =>
          rw [hl] at hfold
          simp only [] at hfold
          rw [hfold]
          have hk := icc_commit_keep_nontree text e text2 e2 h hc hd (by
            rw [hl]; rintro ⟨t, ht⟩; cases ht)
          rw [hk, hl]
      | none =>
        rw [hl] at hfold
        simp only [] at hfold
        rw [hfold]
        have hk := icc_commit_keep_nontree text e text2 e2 h hc hd (by
          rw [hl]; rintro ⟨t, ht⟩; cases ht)
        rw [hk, hl]
    · have hm' : ¬ (alookup e.output h).isSome = true := hm
      rw [if_neg hm'] at hfold
      rw [hfold]
      obtain ⟨z1, z2, z3⟩ := fk_nil_of_km e h hkm hm
      have hk := commit_fk_nil text e h text2 e2 hc hd z1 z2 z3
      rw [hk]

theorem commit_fields (text : TextSet) (e : Esc) (text2 : TextSet) (e2 : Esc) (hc : commit text e = .ok (text2, e2)) :
    e2.output = e.output ∧ e2.actionEdits = [] ∧ e2.tmplEdits = [] ∧ e2.textEdits = [] ∧
    (∀ p ∈ e2.derived, ∃ q ∈ e.derived, q.1 = p.1) := by
  obtain ⟨pr, _, rfl⟩ := commit_spec text e text2 e2 hc
  refine ⟨rfl, rfl, rfl, rfl, ?_⟩
  intro p hp
  simp only [List.mem_map] at hp
  obtain ⟨q, hq, rfl⟩ := hp
  exact ⟨q, hq, (relink_fst text2 q).symm⟩

theorem analysis_pristine (env : Env) : ∀ f,
  (∀ tn e c n r, escapeNode env f tn e c n = .ok r → r.1.pristine = e.pristine) ∧
  (∀ tn e c l r, escapeList env f tn e c l = .ok r → r.1.pristine = e.pristine) ∧
  (∀ tn e c t el b r, escapeBranch env f tn e c t el b = .ok r → r.1.pristine = e.pristine) ∧
  (∀ e c name r, escapeTree env f e c name = .ok r → r.1.pristine = e.pristine) ∧
  (∀ e c tname t r, computeOutCtx env f e c tname t = .ok r → r.1.pristine = e.pristine) ∧
  (∀ e c tname t r, escapeTemplateBody env f e c tname t = .ok r → r.1.pristine = e.pristine) := by
  refine Analysis.fuel_induction ⟨?_, ?_, ?_, ?_, ?_, ?_⟩ ?_ ?_ ?_ ?_ ?_ ?_
  · intro _ _ _ _ _ h; rw [Analysis.escapeNode_zero] at h; cases h
  · intro _ _ _ _ _ h; rw [Analysis.escapeList_zero] at h; cases h
  · intro _ _ _ _ _ _ _ h; rw [Analysis.escapeBranch_zero] at h; cases h
  · intro _ _ _ _ h; rw [Analysis.escapeTree_zero] at h; cases h
  · intro _ _ _ _ _ h; rw [Analysis.computeOutCtx_zero] at h; cases h
  · intro _ _ _ _ _ h; rw [Analysis.escapeTemplateBody_zero] at h; cases h
  · intro f hb ht tn e c n r h
    cases n with
    | action id p =>
      rw [Analysis.escapeNode_action] at h
      rcases Analysis.escapeAction_ok h with h1 | ⟨s, h1⟩ <;> rw [h1]
    | text id b =>
      rw [Analysis.escapeNode_text] at h
      rcases Analysis.escapeTextNode_ok h with h1 | ⟨s, h1⟩ <;> rw [h1]
    | ifN id p t el => rw [Analysis.escapeNode_if] at h; exact hb _ _ _ _ _ _ _ h
    | withN id p t el => rw [Analysis.escapeNode_with] at h; exact hb _ _ _ _ _ _ _ h
    | rangeN id p t el => rw [Analysis.escapeNode_range] at h; exact hb _ _ _ _ _ _ _ h
    | tmpl id name p =>
      obtain ⟨e1, d, h1, h2⟩ := Analysis.escapeNode_tmpl_ok h
      have s1 : e1.pristine = e.pristine := ht _ _ _ _ h1
      rcases h2 with ⟨_, h2⟩ | ⟨_, h2⟩
      · rw [h2]; exact s1
      · rw [(Analysis.editTmpl_ok h2).1]; exact s1
    | brk id => rw [Analysis.escapeNode_brk] at h; cases h; rfl
    | cont id => rw [Analysis.escapeNode_cont] at h; cases h; rfl
    | comment id => rw [Analysis.escapeNode_comment] at h; cases h; rfl
  · intro f hn hl tn e c l r h
    cases l with
    | nil => rw [Analysis.escapeList_nil] at h; cases h; rfl
    | cons n ns =>
      obtain ⟨e1, c1, h1, h2⟩ := Analysis.escapeList_cons_ok h
      exact (hl _ _ _ _ _ h2).trans (hn _ _ _ _ _ h1)
  · intro f hl tn e c t el b r h
    obtain ⟨e1, c0, h1, h2⟩ := Analysis.escapeBranch_ok h
    have s1 : e1.pristine = e.pristine := hl _ _ _ _ _ h1
    rcases h2 with ⟨_, es, c1, _, ⟨_, rfl⟩ | ⟨_, e2, c2, h5, rfl⟩⟩ | ⟨_, e2, c2, h3, rfl⟩
    · exact s1
    · exact (hl _ _ _ _ _ h5).trans s1
    · exact (hl _ _ _ _ _ h3).trans s1
  · intro f ho e c name r h
    rcases Analysis.escapeTree_ok h with ⟨_, rfl⟩ | ⟨_, out, _, rfl⟩ | ⟨_, _, _, rfl⟩ | ⟨_, _, tr, e1, c1, _, h1, rfl⟩
    · rfl
    · rfl
    · rfl
    · exact (ho _ _ _ _ _ h1).trans (Analysis.enter_pristine ..)
  · intro f hy e c tname t r h
    obtain ⟨e1, c1, ok1, h1, h2⟩ := Analysis.computeOutCtx_ok h
    have s1 : e1.pristine = e.pristine := hy _ _ _ _ _ h1
    rcases h2 with ⟨_, rfl⟩ | ⟨_, e2, c2, ok2, h3, h4⟩
    · exact s1
    · have s2 : e2.pristine = e.pristine := (hy _ _ _ _ _ h3).trans s1
      rcases h4 with ⟨_, rfl⟩ | ⟨_, _, rfl⟩ | ⟨_, _, rfl⟩ <;> exact s2
  · intro f _ e c tname t r h
    obtain ⟨tr, e1, c1, _, _, h2⟩ := Analysis.escapeTemplateBody_ok h
    rcases h2 with ⟨_, _, _, _, rfl⟩ | ⟨_, rfl⟩ <;> rfl

/-- `CSPCompatible()` is only called on a set that has not been executed yet, or that already is CSP compatible -/
def CspEarly (w : World) : Op → Prop
  | .csp h => ∀ p, w.obj h = some p → (w.ns p.2.ns).escaped = false ∨ (w.ns p.2.ns).csp = true
  | _ => True

/-- reachable by well-formed operations (`OpOK`: parsed trees are parser-shaped) with early `CSPCompatible()` calls -/
inductive ReachableC : World → Prop where
  | init (w : World) (h : Initial w) (hh : w.handles = []) : ReachableC w
  | step (w : World) (op : Op) (h : ReachableC w) (hop : OpOK op) (hcsp : CspEarly w op) : ReachableC (Api.step w op).1

theorem ReachableC.reachableP {w : World} (h : ReachableC w) : ReachableP w := by
  induction h with
  | init w h hh => exact ReachableP.init w h hh
  | step w op _ hop _ ih => exact ReachableP.step w op ih hop

/-! ### the construction operations: validators, fuel, and what the analysis sees of a name space -/

def icw_Rel (w w' : World) : Prop :=
  w'.v = w.v ∧ w'.fuel = w.fuel ∧ ∀ k, CoreSame (w.ns k) (w'.ns k) ∨ (w'.ns k).escaped = false

theorem icw_Rel.refl (w : World) : icw_Rel w w := ⟨rfl, rfl, fun _ => .inl ⟨rfl, rfl, rfl, rfl⟩⟩

theorem icw_Rel.trans {w w1 w2 : World} (h1 : icw_Rel w w1) (h2 : icw_Rel w1 w2) : icw_Rel w w2 := by
  obtain ⟨v1, f1, k1⟩ := h1
  obtain ⟨v2, f2, k2⟩ := h2
  refine ⟨v2.trans v1, f2.trans f1, fun k => ?_⟩
  rcases k2 k with ⟨a, b, c, d⟩ | h
  · rcases k1 k with ⟨a1, b1, c1, d1⟩ | h1
    · exact .inl ⟨a.trans a1, b.trans b1, c.trans c1, d.trans d1⟩
    · exact .inr (d.trans h1)
  · exact .inr h

theorem icw_rel_of_core {w w' : World} (h : CoreRel w w') : icw_Rel w w' :=
  ⟨h.1, h.2.1, fun k => (h.2.2 k).imp_right fun hn => hn.2.2⟩

theorem icw_rel_setNs (w : World) (k : Nat) (n : NS) (h : CoreSame (w.ns k) n ∨ n.escaped = false) :
    icw_Rel w (w.setNs k n) := by
  refine ⟨rfl, rfl, fun j => ?_⟩
  rw [ns_setNs]
  by_cases hj : j = k
  · rw [if_pos hj, hj]; exact h
  · rw [if_neg hj]; exact .inl ⟨rfl, rfl, rfl, rfl⟩

/-- `Parse` is gated by `escaped = false`: the name space it changes is not executed -/
theorem icw_rel_apiParse (w : World) (h : Nat) (defs : List Tree) : icw_Rel w (apiParse w h defs).1 := by
  rcases apiParse_cases w h defs with ⟨_, hc⟩ | ⟨oid, o, text, reg, _, hesc, _, hc⟩ <;> rw [hc]
  · exact icw_Rel.refl w
  · exact (icw_rel_setNs (w.setObj oid { o with registered := reg }) o.ns { w.ns o.ns with text := text }
      (.inr hesc)).trans (icw_rel_of_core (core_parseFold o.ns text _))

/-- `Clone` creates a name space that is not executed -/
theorem icw_rel_apiClone (w : World) (h h' : Nat) : icw_Rel w (apiClone w h h').1 := by
  rcases apiClone_cases w h h' with ⟨_, hc, _⟩ | ⟨oid, o, _, _, hc⟩
  · rw [hc]; exact icw_Rel.refl w
  · have h1 : icw_Rel w ((cloneText w o).foldl (cloneStep w.next) (cloneHead w o.name (cloneText w o))) :=
      (icw_rel_setNs _ w.next _ (.inr rfl)).trans (icw_rel_of_core (core_cloneFold w.next (cloneText w o) _))
    obtain ⟨_, _, hc⟩ := hc
    rw [hc]
    exact h1

theorem icw_rel_apiLookup (w : World) (h : Nat) (name : String) (h' : Nat) :
    icw_Rel w (apiLookup w h name h').1 := by
  unfold apiLookup
  split
  · exact icw_Rel.refl w
  · split
    · exact icw_Rel.refl w
    · split <;> exact icw_Rel.refl w

theorem step_world (w : World) (op : Op) (hcsp : CspEarly w op) :
    icw_Rel w (Api.step w op).1 ∨ (∃ h, (Api.step w op).1 = (critExecute w h).1) ∨
      ∃ h name, (Api.step w op).1 = (critExecuteTemplate w h name).1 := by
  cases op with
  | new h name => exact .inl (icw_rel_of_core (core_newSet w name))
  | assocNew h name h' =>
    left
    simp only [Api.step]
    cases hobj : w.obj h with
    | none => exact icw_Rel.refl w
    | some p => exact icw_rel_of_core (core_assocNew w p.2.ns name)
  | parse h defs => exact .inl (icw_rel_apiParse w h defs)
  | clone h h' => exact .inl (icw_rel_apiClone w h h')
  | lookup h name h' => exact .inl (icw_rel_apiLookup w h name h')
  | templates h => exact .inl (icw_Rel.refl w)
  | csp h =>
    left
    simp only [Api.step]
    cases hobj : w.obj h with
    | none => exact icw_Rel.refl w
    | some p =>
      exact icw_rel_setNs w p.2.ns _ ((hcsp p hobj).imp_right fun h => ⟨rfl, rfl, h.symm, rfl⟩).symm
  | exec h d => exact .inr (.inl ⟨h, by rw [step_exec]⟩)
  | execHTML h d => exact .inr (.inl ⟨h, by rw [step_execHTML]⟩)
  | execT h n d => exact .inr (.inr ⟨h, n, by rw [step_execT]⟩)
  | execTHTML h n d => exact .inr (.inr ⟨h, n, by rw [step_execTHTML]⟩)

theorem step_v_fuel (w : World) (op : Op) (hcsp : CspEarly w op) :
    (Api.step w op).1.v = w.v ∧ (Api.step w op).1.fuel = w.fuel := by
  have htop : ∀ k name w' r, escapeTemplateTop (w.setNs k { w.ns k with escaped := true }) k name = .inr (w', r) →
      w'.v = w.v ∧ w'.fuel = w.fuel := fun k name w' r he => ⟨(fields_top he).2.1, (fields_top he).1⟩
  rcases step_world w op hcsp with h | ⟨h, hw⟩ | ⟨h, name, hw⟩
  · exact ⟨h.1, h.2.1⟩
  · rw [hw]; exact critExecute_ind (fun w' => w'.v = w.v ∧ w'.fuel = w.fuel) w h ⟨rfl, rfl⟩ (fun _ => ⟨rfl, rfl⟩) htop
  · rw [hw]
    exact critExecuteTemplate_ind (fun w' => w'.v = w.v ∧ w'.fuel = w.fuel) w h name ⟨rfl, rfl⟩ (fun _ => ⟨rfl, rfl⟩) htop

/-! ### per-name-space predicates -/

/-- what a per-name-space predicate must satisfy to hold in every reachable world -/
structure NsPred (P : Validators → Nat → NS → Prop) : Prop where
  fresh : ∀ v F (n : NS), n.esc.output = [] → n.esc.derived = [] → n.esc.pristine = [] → n.esc.actionEdits = [] →
    n.esc.tmplEdits = [] → n.esc.textEdits = [] → P v F n
  congr : ∀ v F (n n' : NS), n'.text = n.text → n'.esc = n.esc → n'.csp = n.csp → P v F n → P v F n'
  top : ∀ (w w' : World) (k : Nat) (name : String) (r : Option ErrCode), P w.v w.fuel (w.ns k) → AI (w.ns k) →
    escapeTemplateTop w k name = .inr (w', r) → P w'.v w'.fuel (w'.ns k)

def icw_Holds (P : Validators → Nat → NS → Prop) (w : World) : Prop := ∀ k, P w.v w.fuel (w.ns k)

section
variable {P : Validators → Nat → NS → Prop} (hP : NsPred P)
include hP

/-- construction operations: a name space is unchanged, or not executed and hence (`QE`) has an empty escaper -/
theorem icw_holds_rel {w w' : World} (hr : icw_Rel w w') (hw' : WInv w') (hH : icw_Holds P w) : icw_Holds P w' := by
  intro k
  obtain ⟨hv, hf, hk⟩ := hr
  rw [hv, hf]
  rcases hk k with ⟨a, b, c, _⟩ | he
  · exact hP.congr _ _ _ _ a b c (hH k)
  · obtain ⟨h1, h2, h3, h4, h5, h6⟩ := (hw' k).1 he
    exact hP.fresh _ _ _ h1 h2 h3 h4 h5 h6

/-- marking a name space as executed, then at most one analysis of one of its templates -/
theorem icw_holds_crit {w : World} (hw : WInv w) (hH : icw_Holds P w) :
    (∀ k, icw_Holds P (w.setNs k { w.ns k with escaped := true })) ∧
    ∀ k name w' r, escapeTemplateTop (w.setNs k { w.ns k with escaped := true }) k name = .inr (w', r) →
      icw_Holds P w' := by
  have hE : ∀ k, icw_Holds P (w.setNs k { w.ns k with escaped := true }) := by
    intro k j
    show P w.v w.fuel ((w.setNs k { w.ns k with escaped := true }).ns j)
    rw [ns_setNs]
    split
    · exact hP.congr _ _ (w.ns k) _ rfl rfl rfl (hH k)
    · exact hH j
  refine ⟨hE, fun k name w' r he j => ?_⟩
  obtain ⟨hf, hv, _, _⟩ := fields_top he
  by_cases hj : j = k
  · subst hj
    exact hP.top _ w' j name r (hE j j) (winv_setEscaped w j hw j).2 he
  · rw [ns_top he j hj, hv, hf]; exact hE k j

theorem icw_holds_step (w : World) (op : Op) (hw : WInv w) (hop : OpOK op) (hcsp : CspEarly w op)
    (hH : icw_Holds P w) : icw_Holds P (Api.step w op).1 := by
  obtain ⟨hE, htop⟩ := icw_holds_crit hP hw hH
  rcases step_world w op hcsp with h | ⟨h, hs⟩ | ⟨h, name, hs⟩
  · exact icw_holds_rel hP h (winv_step w op hw hop) hH
  · rw [hs]; exact critExecute_ind (icw_Holds P) w h hH hE htop
  · rw [hs]; exact critExecuteTemplate_ind (icw_Holds P) w h name hH hE htop

theorem nspred_reachable (w : World) (hr : ReachableC w) : ∀ k, P w.v w.fuel (w.ns k) := by
  induction hr with
  | init w h _ =>
    intro k
    have : w.ns k = {} := by unfold World.ns; rw [h.2]; rfl
    rw [this]
    exact hP.fresh _ _ _ rfl rfl rfl rfl rfl rfl
  | step w op h hop hcsp ih =>
    exact icw_holds_step hP w op (winv_reachable w h.reachableP) hop hcsp ih

end

/-- Two worlds, two name spaces; the executed template has the same installed tree in both, and so has every name it
    can (transitively) call: the executions agree. -/
theorem exec_calls (w1 w2 : World) (o1 o2 : TObj) (d : Value) (C : String → Prop) (T : Tree)
    (hreg : o1.registered = o2.registered) (hf : w1.fuel = w2.fuel)
    (hl1 : (w1.ns o1.ns).text.lookup o1.name = some (some T))
    (hl2 : (w2.ns o2.ns).text.lookup o2.name = some (some T))
    (hcalls : listCallsIn C T.root)
    (hC : ∀ h, C h → ∃ Th, (w1.ns o1.ns).text.lookup h = some (some Th) ∧
        (w2.ns o2.ns).text.lookup h = some (some Th) ∧ listCallsIn C Th.root) :
    textExecute w1 o1 d = textExecute w2 o2 d := by
  have hag : ∀ n, C n → (w1.ns o1.ns).text.lookup n = (w2.ns o2.ns).text.lookup n := by
    intro n hn
    obtain ⟨Th, h1, h2, _⟩ := hC n hn
    rw [h1, h2]
  have hcl : Closed C (w1.ns o1.ns).text := by
    intro n hn tr htr
    obtain ⟨Th, h1, _, h3⟩ := hC n hn
    rw [h1] at htr
    cases htr
    exact h3
  have hw := (walk_congr C false (w1.ns o1.ns).text (w2.ns o2.ns).text hag hcl w1.fuel).2.1 0 d d [] T.root hcalls
  unfold textExecute
  simp only [hl1, hl2, ← hreg, ← hf]
  cases o1.registered with
  | false => rfl
  | true =>
    simp only [if_true]
    rw [hw]

theorem applyEdits_calls (C : String → Prop) (tn : String) (e : Esc) (hte : e.tmplEdits = []) :
    NodeCases (fun n => ∀ n', nodeCallsIn C n → Node.applyEdits tn e n = some n' → nodeCallsIn C n')
      (fun l => ∀ l', listCallsIn C l → NodeList.applyEdits tn e l = some l' → listCallsIn C l') where
  text id b n' _ h := by
    simp only [Node.applyEdits, Option.some.injEq] at h
    subst h
    split <;> simp only [nodeCallsIn]
  action id p n' _ h := by
    simp only [Node.applyEdits] at h
    split at h
    · obtain ⟨p', _, rfl⟩ := Option.map_eq_some_iff.mp h
      simp only [nodeCallsIn]
    · cases h; simp only [nodeCallsIn]
  tmpl id name p n' hn h := by
    simp only [Node.applyEdits, hte, List.find?_nil, Option.some.injEq] at h
    subst h
    exact hn
  branch hb t el ht hel n' hn h := by
    rw [hb.applyEdits] at h
    obtain ⟨t', el', h1, h2, rfl⟩ := opt_bind2 h
    obtain ⟨c1, c2⟩ := (hb.callsIn t el C).mp hn
    exact (hb.callsIn t' el' C).mpr ⟨ht t' c1 h1, hel el' c2 h2⟩
  stop hs n' _ h := by rw [hs.applyEdits] at h; cases h; exact hs.callsIn C
  nil l' _ h := by simp only [NodeList.applyEdits, Option.some.injEq] at h; subst h; simp only [listCallsIn]
  cons n ns hn hns l' hl h := by
    simp only [listCallsIn] at hl
    simp only [NodeList.applyEdits] at h
    obtain ⟨n', ns', h1, h2, rfl⟩ := opt_bind2 h
    simp only [listCallsIn]
    exact ⟨hn n' hl.1 h1, hns ns' hl.2 h2⟩

theorem icx_node_applyEdits_calls (C : String → Prop) (tn : String) (e : Esc) (hte : e.tmplEdits = []) :
    ∀ (n n' : Node), nodeCallsIn C n → Node.applyEdits tn e n = some n' → nodeCallsIn C n' :=
  (applyEdits_calls C tn e hte).node

theorem list_applyEdits_calls (C : String → Prop) (tn : String) (e : Esc) (hte : e.tmplEdits = []) :
    ∀ (l l' : NodeList), listCallsIn C l → NodeList.applyEdits tn e l = some l' → listCallsIn C l' :=
  (applyEdits_calls C tn e hte).list

theorem cfTree_calls (C : String → Prop) (name : String) (ss : Esc) (t T : Tree) (hte : ss.tmplEdits = [])
    (hc : listCallsIn C t.root) (h : cfTree name ss t = some T) : listCallsIn C T.root := by
  unfold cfTree at h
  split at h
  · obtain ⟨r, hr, rfl⟩ := Option.map_eq_some_iff.mp h
    exact list_applyEdits_calls C name ss hte t.root r hc hr
  · cases h; exact hc

theorem nocalls_callsIn (C : String → Prop) (l : NodeList) (h : listNoCalls l) : listCallsIn C l :=
  listCallsIn_mono (fun _ hf => hf.elim) l (ncl_callsIn l h)

/-! ## names without `$`, and `mangle` -/

theorem mangle_cases (c : Ctx) (name : String) :
    (mangle c name = name ∧ (c.state == .text && c.elemName == [] && c.elemNames.isEmpty) = true) ∨
    ¬ NoDollar (mangle c name) := by
  unfold mangle
  split
  · rename_i h; exact .inl ⟨rfl, h⟩
  · right
    intro hnd
    apply hnd
    simp only [String.toList_append, List.mem_append]
    left; left; left; left; left; right
    decide

theorem mangle_nodollar (c : Ctx) (name : String) (h : NoDollar (mangle c name)) (hc : CtxInv c) :
    mangle c name = name ∧ c = {} := by
  rcases mangle_cases c name with ⟨h1, h2⟩ | h1
  · refine ⟨h1, ?_⟩
    simp only [Bool.and_eq_true, beq_iff_eq, List.isEmpty_iff] at h2
    exact ci_text_eq c hc h2.1.1 h2.1.2 h2.2
  · exact absurd h h1

theorem mangle_ne_dollar (c : Ctx) (name : String) (h : mangle c name ≠ name) : ¬ NoDollar (mangle c name) := by
  rcases mangle_cases c name with ⟨h1, _⟩ | h1
  · exact absurd h1 h
  · exact h1

/-! ## the analysis invariant: memo correctness for call-free templates without `$` -/

/-- `h` is a *tracked* name: no `$`, original tree `th` (given by `O`), and `th` is call-free -/
def Trk (O : String → Option Tree) (h : String) (th : Tree) : Prop :=
  NoDollar h ∧ O h = some th ∧ listNoCalls th.root

def cEd (env : Env) (F : Nat) (h : String) (th : Tree) : Esc :=
  match cfOut (cenv env.csp env.v) F h {} th.root with
  | .ok (_, ss) => ss
  | _ => {}

def EdSame (h : String) (e e' : Esc) : Prop :=
  fk h e'.actionEdits = fk h e.actionEdits ∧ fk h e'.tmplEdits = fk h e.tmplEdits ∧
  fk h e'.textEdits = fk h e.textEdits

def EdApp (h : String) (e ss e' : Esc) : Prop :=
  fk h e'.actionEdits = fk h e.actionEdits ++ ss.actionEdits ∧ fk h e'.tmplEdits = fk h e.tmplEdits ++ ss.tmplEdits ∧
  fk h e'.textEdits = fk h e.textEdits ++ ss.textEdits

theorem EdSame.refl (h : String) (e : Esc) : EdSame h e e := ⟨rfl, rfl, rfl⟩
theorem EdSame.trans {h : String} {e e1 e2 : Esc} (a : EdSame h e e1) (b : EdSame h e1 e2) : EdSame h e e2 :=
  ⟨b.1.trans a.1, b.2.1.trans a.2.1, b.2.2.trans a.2.2⟩
theorem EdSame.app {h : String} {e e1 e2 ss : Esc} (a : EdSame h e e1) (b : EdApp h e1 ss e2) : EdApp h e ss e2 :=
  ⟨by rw [b.1, a.1], by rw [b.2.1, a.2.1], by rw [b.2.2, a.2.2]⟩
theorem EdApp.same {h : String} {e e1 e2 ss : Esc} (a : EdApp h e ss e1) (b : EdSame h e1 e2) : EdApp h e ss e2 :=
  ⟨by rw [b.1, a.1], by rw [b.2.1, a.2.1], by rw [b.2.2, a.2.2]⟩

/-- the invariant of the escaper during one analysis (`O` = original trees, `F` = the fuel bound) -/
structure MInv (env : Env) (F : Nat) (O : String → Option Tree) (e : Esc) : Prop where
  dd : ∀ p ∈ e.derived, ¬ NoDollar p.1
  lk : ∀ h th, Trk O h th → ¬ Memo e h → env.text.lookup h = some (some th)
  mc : ∀ h th, Trk O h th → ∀ p ∈ e.output, p.1 = h →
    ∃ ss, cfOut (cenv env.csp env.v) F h {} th.root = .ok (p.2, ss)

structure MStep (env : Env) (F : Nat) (O : String → Option Tree) (e e' : Esc) : Prop where
  ext : ∀ n, Memo e n → Memo e' n
  frozen : ∀ h th, Trk O h th → Memo e h → EdSame h e e'
  fresh : ∀ h th, Trk O h th → ¬ Memo e h →
    (¬ Memo e' h ∧ EdSame h e e') ∨ (Memo e' h ∧ EdApp h e (cEd env F h th) e')

def MPost (env : Env) (F : Nat) (O : String → Option Tree) (e e' : Esc) : Prop :=
  MInv env F O e' ∧ MStep env F O e e'

theorem MStep.refl (env : Env) (F : Nat) (O : String → Option Tree) (e : Esc) : MStep env F O e e :=
  ⟨fun _ h => h, fun h _ _ _ => EdSame.refl h e, fun h _ _ hm => .inl ⟨hm, EdSame.refl h e⟩⟩

theorem MStep.trans {env : Env} {F : Nat} {O : String → Option Tree} {e e1 e2 : Esc}
    (a : MStep env F O e e1) (b : MStep env F O e1 e2) : MStep env F O e e2 := by
  refine ⟨fun n h => b.ext n (a.ext n h), fun h th ht hm => (a.frozen h th ht hm).trans (b.frozen h th ht (a.ext h hm)),
    fun h th ht hm => ?_⟩
  rcases a.fresh h th ht hm with ⟨h1, s1⟩ | ⟨h1, s1⟩
  · rcases b.fresh h th ht h1 with ⟨h2, s2⟩ | ⟨h2, s2⟩
    · exact .inl ⟨h2, s1.trans s2⟩
    · exact .inr ⟨h2, s1.app s2⟩
  · exact .inr ⟨b.ext h h1, s1.same (b.frozen h th ht h1)⟩

theorem MPost.trans {env : Env} {F : Nat} {O : String → Option Tree} {e e1 e2 : Esc}
    (a : MPost env F O e e1) (b : MPost env F O e1 e2) : MPost env F O e e2 := ⟨b.1, a.2.trans b.2⟩

theorem mpost_same {env : Env} {F : Nat} {O : String → Option Tree} {e e' : Esc} (hi : MInv env F O e)
    (ho : e'.output = e.output) (hd : ∀ p ∈ e'.derived, ¬ NoDollar p.1)
    (hs : ∀ h th, Trk O h th → EdSame h e e') : MPost env F O e e' := by
  refine ⟨⟨?_, ?_, ?_⟩, ⟨?_, ?_, ?_⟩⟩
  · exact hd
  · intro h th ht hm; exact hi.lk h th ht (by unfold Memo at hm ⊢; rw [← ho]; exact hm)
  · rw [ho]; exact hi.mc
  · intro n hm; unfold Memo at hm ⊢; rw [ho]; exact hm
  · intro h th ht _; exact hs h th ht
  · intro h th ht hm
    exact .inl ⟨by unfold Memo at hm ⊢; rw [ho]; exact hm, hs h th ht⟩

def Untr (O : String → Option Tree) (tn : String) : Prop := ∀ th, ¬ Trk O tn th

theorem trk_ne {O : String → Option Tree} {tn h : String} {th : Tree} (hu : Untr O tn) (ht : Trk O h th) : tn ≠ h := by
  intro he; subst he; exact hu th ht

theorem fk_snoc_ne {β} (h tn : String) (id : Nat) (v : β) (l : List (EditKey × β)) (hne : tn ≠ h) :
    fk h (l ++ [((tn, id), v)]) = fk h l := by
  rw [fk_append, fk_single_ne h tn id v hne, List.append_nil]

section
variable {env' : Env} {F : Nat} {O : String → Option Tree} {tn : String} {e : Esc}

/-! an edit of the untracked template `tn` is invisible to the tracked names -/

theorem escapeAction_mpost {env : Env} {c : Ctx} {id : Nat} {p : Pipe} {r : Esc × Ctx} (hi : MInv env' F O e)
    (hu : Untr O tn) (h : escapeAction env tn e c id p = .ok r) : MPost env' F O e r.1 := by
  rcases Analysis.escapeAction_ok h with h1 | ⟨s, h1⟩ <;> rw [h1]
  · exact ⟨hi, MStep.refl ..⟩
  · exact mpost_same hi rfl hi.dd fun h th ht => ⟨fk_snoc_ne _ _ _ _ _ (trk_ne hu ht), rfl, rfl⟩

theorem escapeTextNode_mpost {env : Env} {c : Ctx} {id : Nat} {b : Bytes} {r : Esc × Ctx} (hi : MInv env' F O e)
    (hu : Untr O tn) (h : escapeTextNode env tn e c id b = .ok r) : MPost env' F O e r.1 := by
  rcases Analysis.escapeTextNode_ok h with h1 | ⟨s, h1⟩ <;> rw [h1]
  · exact ⟨hi, MStep.refl ..⟩
  · exact mpost_same hi rfl hi.dd fun h th ht => ⟨rfl, rfl, fk_snoc_ne _ _ _ _ _ (trk_ne hu ht)⟩

theorem editTmpl_mpost {e1 : Esc} {id : Nat} {v : String} (hi : MInv env' F O e) (hu : Untr O tn)
    (h : e.editTmpl (tn, id) v = .ok e1) : MPost env' F O e e1 := by
  rw [(Analysis.editTmpl_ok h).1]
  exact mpost_same hi rfl hi.dd fun h th ht => ⟨rfl, fk_snoc_ne _ _ _ _ _ (trk_ne hu ht), rfl⟩

end

theorem not_memo_none {e : Esc} {n : String} (h : ¬ Memo e n) : alookup e.output n = none := by
  unfold Memo at h
  cases hv : alookup e.output n with
  | none => rfl
  | some v => rw [hv] at h; exact absurd rfl h

theorem not_memo_of_lookup {e : Esc} {n : String} (h : alookup e.output n = none) : ¬ Memo e n := by
  unfold Memo; rw [h]; exact Bool.false_ne_true

section
variable {env : Env} {F : Nat} {O : String → Option Tree}

theorem minv_scratch {e : Esc} (hi : MInv env F O e) : MInv env F O (Analysis.scratch e) :=
  ⟨fun _ h => (List.not_mem_nil h).elim, hi.lk, hi.mc⟩

theorem mpost_setOut {e e' : Esc} {k : String} {v : Ctx} (hi : MInv env F O e) (hu : Untr O k)
    (ho : e'.output = aset e.output k v) (hd : e'.derived = e.derived) (ha : e'.actionEdits = e.actionEdits)
    (ht : e'.tmplEdits = e.tmplEdits) (hx : e'.textEdits = e.textEdits) : MPost env F O e e' := by
  have hm : ∀ n, Memo e n → Memo e' n := fun n hm => by
    unfold Memo; rw [ho]; exact Analysis.isSome_aset _ _ _ _ hm
  have hm' : ∀ h th, Trk O h th → ¬ Memo e h → ¬ Memo e' h := fun h th htk hm hm' => by
    unfold Memo at hm'
    rw [ho, Analysis.alookup_aset, if_neg (fun he => trk_ne hu htk he.symm)] at hm'
    exact hm hm'
  have hs : ∀ h, EdSame h e e' := fun h => ⟨by rw [ha], by rw [ht], by rw [hx]⟩
  refine ⟨⟨by rw [hd]; exact hi.dd, fun h th htk hn => hi.lk h th htk fun hn' => hn (hm h hn'), ?_⟩,
    ⟨hm, fun h _ _ _ => hs h, fun h th htk hn => .inl ⟨hm' h th htk hn, hs h⟩⟩⟩
  intro h th htk p hp hph
  rw [ho] at hp
  rcases Analysis.mem_aset _ _ _ p hp with h1 | h1
  · exact hi.mc h th htk p h1 hph
  · subst h1; subst hph; exact absurd htk (hu th)

theorem minv_setOut {e : Esc} (hi : MInv env F O e) {k : String} (hu : Untr O k) (v : Ctx) :
    MInv env F O (Analysis.setOut e k v) :=
  (mpost_setOut (e' := Analysis.setOut e k v) hi hu rfl rfl rfl rfl rfl).1

theorem ciall_setOut {e : Esc} (hc : CIall e) (k : String) {v : Ctx} (hv : CtxInv v) : CIall (Analysis.setOut e k v) :=
  Analysis.MemoAll.setOut hc k hv

theorem MStep.congr {e e' e1 : Esc} (ho : e'.output = e.output) (ha : e'.actionEdits = e.actionEdits)
    (ht : e'.tmplEdits = e.tmplEdits) (hx : e'.textEdits = e.textEdits) (s : MStep env F O e' e1) :
    MStep env F O e e1 := by
  have hm : ∀ n, Memo e' n ↔ Memo e n := fun n => by unfold Memo; rw [ho]
  have hs : ∀ h, EdSame h e' e1 → EdSame h e e1 := fun h hs => by unfold EdSame at hs ⊢; rwa [ha, ht, hx] at hs
  refine ⟨fun n h => s.ext n ((hm n).mpr h), fun h th htk h1 => hs h (s.frozen h th htk ((hm h).mpr h1)),
    fun h th htk h1 => ?_⟩
  rcases s.fresh h th htk (fun h2 => h1 ((hm h).mp h2)) with ⟨a, b⟩ | ⟨a, b⟩
  · exact .inl ⟨a, hs h b⟩
  · refine .inr ⟨a, ?_⟩
    unfold EdApp at b ⊢; rwa [ha, ht, hx] at b

theorem isSome_foldl_aset_iff {β} (l base : List (String × β)) (n : String) :
    (alookup (l.foldl (fun a p => aset a p.1 p.2) base) n).isSome = true ↔
      (alookup base n).isSome = true ∨ (alookup l n).isSome = true :=
  ⟨isSome_foldl_aset_inv l base n, fun h =>
    h.elim (Analysis.isSome_foldl_aset l base n) (isSome_foldl_aset_list l base n)⟩

/-- the merge at the end of a successful body run -/
theorem merge_mpost (e s1 em : Esc) (tname : String) (c : Ctx) (hi : MInv env F O e) (hu : Untr O tname)
    (hp : MPost env F O (Analysis.scratch (Analysis.setOut e tname c)) s1)
    (ho : em.output = s1.output.foldl (fun a p => aset a p.1 p.2) (aset e.output tname c))
    (hd : em.derived = s1.derived.foldl (fun a p => aset a p.1 p.2) e.derived)
    (ha : em.actionEdits = e.actionEdits ++ s1.actionEdits) (ht : em.tmplEdits = e.tmplEdits ++ s1.tmplEdits)
    (hx : em.textEdits = e.textEdits ++ s1.textEdits) : MPost env F O e em := by
  obtain ⟨hi1, hs1⟩ := hp
  have hi0 := minv_setOut hi hu c
  have hm0 : ∀ n, Memo e n → Memo (Analysis.scratch (Analysis.setOut e tname c)) n :=
    fun n hm => Analysis.isSome_aset _ _ _ _ hm
  have hmem : ∀ n, Memo e n → Memo em n := fun n hm => by
    unfold Memo; rw [ho]; exact Analysis.isSome_foldl_aset _ _ _ (hm0 n hm)
  -- the edits of a body run from the scratch escaper, put behind those of `e`
  have happ : ∀ h, fk h em.actionEdits = fk h e.actionEdits ++ fk h s1.actionEdits ∧
      fk h em.tmplEdits = fk h e.tmplEdits ++ fk h s1.tmplEdits ∧
      fk h em.textEdits = fk h e.textEdits ++ fk h s1.textEdits :=
    fun h => ⟨by rw [ha, fk_append], by rw [ht, fk_append], by rw [hx, fk_append]⟩
  have hsame : ∀ h, EdSame h (Analysis.scratch (Analysis.setOut e tname c)) s1 → EdSame h e em := fun h hs => by
    obtain ⟨f1, f2, f3⟩ := hs
    obtain ⟨a1, a2, a3⟩ := happ h
    exact ⟨by rw [a1, f1]; exact List.append_nil _, by rw [a2, f2]; exact List.append_nil _,
      by rw [a3, f3]; exact List.append_nil _⟩
  refine ⟨⟨?_, fun h th htk hm => hi.lk h th htk fun hm' => hm (hmem h hm'), ?_⟩,
    ⟨hmem, fun h th htk hm => hsame h (hs1.frozen h th htk (hm0 h hm)), fun h th htk hm => ?_⟩⟩
  · rw [hd]; exact Analysis.forall_mem_foldl_aset hi.dd hi1.dd
  · intro h th htk p hpm hph
    rw [ho] at hpm
    rcases Analysis.mem_foldl_aset _ _ p hpm with h1 | h1
    · exact hi0.mc h th htk p h1 hph
    · exact hi1.mc h th htk p h1 hph
  · have hn0 : ¬ Memo (Analysis.scratch (Analysis.setOut e tname c)) h := fun hm' => by
      unfold Memo at hm'
      rw [show (Analysis.scratch (Analysis.setOut e tname c)).output = aset e.output tname c from rfl,
        Analysis.alookup_aset, if_neg (fun he => trk_ne hu htk he.symm)] at hm'
      exact hm hm'
    rcases hs1.fresh h th htk hn0 with ⟨n1, hs⟩ | ⟨n1, ⟨f1, f2, f3⟩⟩
    · refine .inl ⟨fun hmm => ?_, hsame h hs⟩
      unfold Memo at hmm
      rw [ho] at hmm
      exact ((isSome_foldl_aset_iff _ _ _).mp hmm).elim hn0 n1
    · obtain ⟨a1, a2, a3⟩ := happ h
      refine .inr ⟨?_, by rw [a1, f1]; rfl, by rw [a2, f2]; rfl, by rw [a3, f3]; rfl⟩
      unfold Memo; rw [ho]
      exact (isSome_foldl_aset_iff _ _ _).mpr (.inr n1)

end

/-! ### the memo after the analysis of a call-free body -/

theorem cf_frame {env : Env} {l : NodeList} (hl : listNoCalls l) {f : Nat} {tn : String} {e : Esc} {c : Ctx}
    {r : Esc × Ctx} (h : escapeList env f tn e c l = .ok r) : Independence.Frame e r.1 := by
  have hs := list_sim env env ⟨rfl, rfl⟩ l hl f tn e e c ⟨rfl, rfl, rfl⟩
  rw [h] at hs
  exact hs.1

theorem body_cf_out {env : Env} {f : Nat} {e : Esc} {c : Ctx} {tname : String} {t : Tree} (hnc : listNoCalls t.root)
    {r : Esc × Ctx × Bool} (hr : escapeTemplateBody env (f + 1) e c tname (some t) = .ok r) :
    (∀ p ∈ r.1.output, p ∈ e.output ∨ p.1 = tname) ∧ (∀ n, Memo e n → Memo r.1 n) ∧ r.1.called = e.called := by
  obtain ⟨tr, e1, c1, ht, h1, h2⟩ := Analysis.escapeTemplateBody_ok hr
  cases ht
  have hfr : Independence.Frame _ e1 := cf_frame hnc h1
  have ho : e1.output = aset e.output tname c := by rw [hfr]; rfl
  have hc : e1.called = [] := by rw [hfr]; rfl
  have hk : ∀ p ∈ aset e.output tname c, p ∈ e.output ∨ p.1 = tname := fun p hp =>
    (Analysis.mem_aset _ _ _ p hp).imp_right fun h => by rw [h]
  rcases h2 with ⟨_, _, _, _, rfl⟩ | ⟨_, rfl⟩
  · refine ⟨Analysis.forall_mem_foldl_aset hk (ho ▸ hk),
      fun n hm => Analysis.isSome_foldl_aset _ _ _ (Analysis.isSome_aset _ _ _ _ hm), ?_⟩
    show e1.called.foldl _ e.called = e.called
    rw [hc]; rfl
  · exact ⟨hk, fun n hm => Analysis.isSome_aset _ _ _ _ hm, rfl⟩

theorem mem_aset_sub {β} {l X : List (String × β)} {k : String} (hX : ∀ p ∈ X, p ∈ l ∨ p.1 = k) (v : β) :
    ∀ p ∈ aset X k v, p ∈ l ∨ p = (k, v) := fun p h =>
  (Analysis.mem_aset_cases h).imp_left fun h1 => (hX p h1.1).resolve_right h1.2

theorem out_cf_out {env : Env} {f : Nat} {e : Esc} {c : Ctx} {tname : String} {t : Tree} (hnc : listNoCalls t.root)
    {r : Esc × Ctx} (hr : computeOutCtx env (f + 2) e c tname (some t) = .ok r) :
    (∀ p ∈ r.1.output, p ∈ e.output ∨ p = (tname, r.2)) ∧ (∀ n, Memo e n → Memo r.1 n) ∧ r.1.called = e.called := by
  obtain ⟨e1, c1, ok1, h1, h2⟩ := Analysis.computeOutCtx_ok hr
  obtain ⟨a1, b1, d1⟩ := body_cf_out hnc h1
  rcases h2 with ⟨_, rfl⟩ | ⟨_, e2, c2, ok2, h3, h4⟩
  · exact ⟨mem_aset_sub a1 c1, fun n hm => Analysis.isSome_aset _ _ _ _ (b1 n hm), d1⟩
  · obtain ⟨a2, b2, d2⟩ := body_cf_out hnc h3
    have a12 : ∀ p ∈ e2.output, p ∈ e.output ∨ p.1 = tname := fun p hp => (a2 p hp).elim (a1 p) .inr
    have hfin : ∀ v, (∀ p ∈ (Analysis.setOut e2 tname v).output, p ∈ e.output ∨ p = (tname, v)) ∧
        (∀ n, Memo e n → Memo (Analysis.setOut e2 tname v) n) ∧ (Analysis.setOut e2 tname v).called = e.called :=
      fun v => ⟨mem_aset_sub a12 v, fun n hm => Analysis.isSome_aset _ _ _ _ (b2 n (b1 n hm)), d2.trans d1⟩
    rcases h4 with ⟨_, rfl⟩ | ⟨_, _, rfl⟩ | ⟨_, _, rfl⟩ <;> exact hfin _

/-! ### the analysis invariant -/

theorem edsame_ext {h tn : String} {e ss r : Esc} (hext : EdExt e ss r)
    (hk : (∀ q ∈ ss.actionEdits, q.1.1 = tn) ∧ ss.tmplEdits = [] ∧ (∀ q ∈ ss.textEdits, q.1.1 = tn)) (hne : h ≠ tn) :
    EdSame h e r := by
  obtain ⟨a, b, d⟩ := hext
  refine ⟨?_, ?_, ?_⟩
  · rw [a, fk_append, fk_none h ss.actionEdits (fun q hq he => hne (he.symm.trans (hk.1 q hq))), List.append_nil]
  · rw [b, hk.2.1, List.append_nil]
  · rw [d, fk_append, fk_none h ss.textEdits (fun q hq he => hne (he.symm.trans (hk.2.2 q hq))), List.append_nil]

theorem edapp_ext {tn : String} {e ss r : Esc} (hext : EdExt e ss r)
    (hk : (∀ q ∈ ss.actionEdits, q.1.1 = tn) ∧ ss.tmplEdits = [] ∧ (∀ q ∈ ss.textEdits, q.1.1 = tn)) :
    EdApp tn e ss r := by
  obtain ⟨a, b, d⟩ := hext
  refine ⟨?_, ?_, ?_⟩
  · rw [a, fk_append, fk_all tn ss.actionEdits hk.1]
  · rw [b, hk.2.1, List.append_nil, List.append_nil]
  · rw [d, fk_append, fk_all tn ss.textEdits hk.2.2]

section
variable {env : Env} {F : Nat} {O : String → Option Tree}

/-- entering a template keeps the invariant: a new derived template has a mangled name -/
theorem minv_enter {e : Esc} (c : Ctx) (name : String) (tr : Tree) (hi : MInv env F O e) :
    MInv env F O (Analysis.enter env e c name tr).1 := by
  rcases Analysis.enter_cases env e c name tr with ⟨_, h⟩ | ⟨_, _, _, h⟩ | ⟨hne, _, dt, _, h⟩ <;> rw [h]
  · exact ⟨hi.dd, hi.lk, hi.mc⟩
  · exact ⟨hi.dd, hi.lk, hi.mc⟩
  · exact ⟨Analysis.forall_mem_aset (P := fun p => ¬ NoDollar p.1) hi.dd (mangle_ne_dollar c name hne), hi.lk, hi.mc⟩

/-- the first analysis of a tracked template: its call-free tree is analysed in `{}`, so the memo entry is the
    canonical context and the new edits are the canonical ones -/
theorem out_trk {f : Nat} (hf : f + 1 ≤ F) {e : Esc} {tname : String} {th : Tree} {r : Esc × Ctx}
    (ht : Trk O tname th) (hi : MInv env F O e) (hnm : ¬ Memo e tname)
    (h : computeOutCtx env (f + 1) e {} tname (some th) = .ok r) : MPost env F O e r.1 := by
  cases f with
  | zero => rw [Analysis.computeOutCtx_succ, Analysis.escapeTemplateBody_zero] at h; cases h
  | succ g =>
    obtain ⟨ss, hcf, hext, hder⟩ := out_cf (cenv env.csp env.v) env ⟨rfl, rfl⟩ g e {} tname th ht.2.2 r h
    obtain ⟨hout, hmem, _⟩ := out_cf_out ht.2.2 h
    have hF := cfOut_mono (f' := F) (by omega) ht.2.2 hcf nofun
    have hkeys := cfOut_edit_keys _ g tname {} th.root ht.2.2 r.2 ss hcf
    have hced : cEd env F tname th = ss := by unfold cEd; rw [hF]
    have huniq : ∀ th', Trk O tname th' → th' = th := fun th' ht' => Option.some.inj (ht'.2.1.symm.trans ht.2.1)
    have hback : ∀ n, n ≠ tname → Memo r.1 n → Memo e n := by
      intro n hne hm
      unfold Memo at hm
      cases hv : alookup r.1.output n with
      | none => rw [hv] at hm; cases hm
      | some v =>
        rcases hout _ (Analysis.mem_of_alookup _ _ _ hv) with h1 | h1
        · exact Analysis.alookup_isSome_of_mem _ _ h1
        · exact absurd (congrArg Prod.fst h1) hne
    refine ⟨⟨by rw [hder]; exact hi.dd, fun h' th' ht' hm' => hi.lk h' th' ht' fun hm => hm' (hmem _ hm), ?_⟩,
      ⟨hmem, fun h' th' ht' hm' => edsame_ext hext hkeys fun he => hnm (he ▸ hm'), ?_⟩⟩
    · intro h' th' ht' p hp hph
      rcases hout p hp with h1 | h1
      · exact hi.mc h' th' ht' p h1 hph
      · subst h1; subst hph
        cases huniq th' ht'
        exact ⟨ss, hF⟩
    · intro h' th' ht' hm'
      by_cases hne : h' = tname
      · subst hne
        cases huniq th' ht'
        refine .inr ⟨computeOutCtx_memo env _ e {} h' _ r h, ?_⟩
        rw [hced]; exact edapp_ext hext hkeys
      · exact .inl ⟨fun hm => hm' (hback _ hne hm), edsame_ext hext hkeys hne⟩

/-- **the analysis invariant**: all six mutually recursive functions keep `MInv` and make an `MStep` -/
theorem analysis_m (env : Env) (F : Nat) (O : String → Option Tree) : ∀ f,
    (f ≤ F → ∀ tn e c n r, MInv env F O e → CIall e → CtxInv c → Untr O tn → escapeNode env f tn e c n = .ok r →
      MPost env F O e r.1) ∧
    (f ≤ F → ∀ tn e c l r, MInv env F O e → CIall e → CtxInv c → Untr O tn → escapeList env f tn e c l = .ok r →
      MPost env F O e r.1) ∧
    (f ≤ F → ∀ tn e c t el b r, MInv env F O e → CIall e → CtxInv c → Untr O tn →
      escapeBranch env f tn e c t el b = .ok r → MPost env F O e r.1) ∧
    (f ≤ F → ∀ e c name r, MInv env F O e → CIall e → CtxInv c → escapeTree env f e c name = .ok r →
      MPost env F O e r.1) ∧
    (f ≤ F → ∀ e c tname t r, MInv env F O e → CIall e → CtxInv c → ¬ Memo e tname →
      (∀ th, Trk O tname th → c = {} ∧ t = some th) → computeOutCtx env f e c tname t = .ok r → MPost env F O e r.1) ∧
    (f ≤ F → ∀ e c tname t r, MInv env F O e → CIall e → CtxInv c → Untr O tname →
      escapeTemplateBody env f e c tname t = .ok r → MPost env F O e r.1) := by
  refine Analysis.fuel_induction ⟨?_, ?_, ?_, ?_, ?_, ?_⟩ ?_ ?_ ?_ ?_ ?_ ?_
  · intro _ _ _ _ _ _ _ _ _ _ h; rw [Analysis.escapeNode_zero] at h; cases h
  · intro _ _ _ _ _ _ _ _ _ _ h; rw [Analysis.escapeList_zero] at h; cases h
  · intro _ _ _ _ _ _ _ _ _ _ _ _ h; rw [Analysis.escapeBranch_zero] at h; cases h
  · intro _ _ _ _ _ _ _ _ h; rw [Analysis.escapeTree_zero] at h; cases h
  · intro _ _ _ _ _ _ _ _ _ _ _ h; rw [Analysis.computeOutCtx_zero] at h; cases h
  · intro _ _ _ _ _ _ _ _ _ _ h; rw [Analysis.escapeTemplateBody_zero] at h; cases h
  · intro f hb ht hf tn e c n r hi hci hc hu h
    have hf' : f ≤ F := Nat.le_of_succ_le hf
    cases n with
    | action id p => rw [Analysis.escapeNode_action] at h; exact escapeAction_mpost hi hu h
    | text id b => rw [Analysis.escapeNode_text] at h; exact escapeTextNode_mpost hi hu h
    | ifN id p t el => rw [Analysis.escapeNode_if] at h; exact hb hf' _ _ _ _ _ _ _ hi hci hc hu h
    | withN id p t el => rw [Analysis.escapeNode_with] at h; exact hb hf' _ _ _ _ _ _ _ hi hci hc hu h
    | rangeN id p t el => rw [Analysis.escapeNode_range] at h; exact hb hf' _ _ _ _ _ _ _ hi hci hc hu h
    | tmpl id name p =>
      obtain ⟨e1, d, h1, h2⟩ := Analysis.escapeNode_tmpl_ok h
      have s1 : MPost env F O e e1 := ht hf' _ _ _ _ hi hci hc h1
      rcases h2 with ⟨_, h2⟩ | ⟨_, h2⟩
      · rw [h2]; exact s1
      · exact s1.trans (editTmpl_mpost s1.1 hu h2)
    | brk id => rw [Analysis.escapeNode_brk] at h; cases h; exact ⟨hi, MStep.refl ..⟩
    | cont id => rw [Analysis.escapeNode_cont] at h; cases h; exact ⟨hi, MStep.refl ..⟩
    | comment id => rw [Analysis.escapeNode_comment] at h; cases h; exact ⟨hi, MStep.refl ..⟩
  · intro f hn hl hf tn e c l r hi hci hc hu h
    have hf' : f ≤ F := Nat.le_of_succ_le hf
    cases l with
    | nil => rw [Analysis.escapeList_nil] at h; cases h; exact ⟨hi, MStep.refl ..⟩
    | cons n ns =>
      obtain ⟨e1, c1, h1, h2⟩ := Analysis.escapeList_cons_ok h
      have s1 : MPost env F O e e1 := hn hf' _ _ _ _ _ hi hci hc hu h1
      obtain ⟨k1, k2⟩ := (Analysis.analysis_ctx ctxInv_closed env f).1 _ _ _ _ _ hci hc h1
      exact s1.trans (hl hf' _ _ _ _ _ s1.1 k1 k2 hu h2)
  · intro f hl hf tn e c t el b r hi hci hc hu h
    have hf' : f ≤ F := Nat.le_of_succ_le hf
    obtain ⟨e1, c0, h1, h2⟩ := Analysis.escapeBranch_ok h
    have s1 : MPost env F O e e1 := hl hf' _ _ _ _ _ hi hci hc hu h1
    have k1 : CIall e1 := ((Analysis.analysis_ctx ctxInv_closed env f).2.1 _ _ _ _ _ hci hc h1).1
    rcases h2 with ⟨_, es, c1, _, ⟨_, rfl⟩ | ⟨_, e2, c2, h5, rfl⟩⟩ | ⟨_, e2, c2, h3, rfl⟩
    · exact s1
    · exact s1.trans (hl hf' _ _ _ _ (e2, c2) s1.1 k1 hc hu h5)
    · exact s1.trans (hl hf' _ _ _ _ (e2, c2) s1.1 k1 hc hu h3)
  · intro f ho hf e c name r hi hci hc h
    have hf' : f ≤ F := Nat.le_of_succ_le hf
    rcases Analysis.escapeTree_ok h with ⟨_, rfl⟩ | ⟨_, out, _, rfl⟩ | ⟨_, _, _, rfl⟩ |
      ⟨_, hnone, tr, e1, c1, htmpl, h1, rfl⟩
    · exact ⟨hi, MStep.refl ..⟩
    · exact mpost_same hi rfl hi.dd (fun h _ _ => EdSame.refl h e)
    · exact mpost_same hi rfl hi.dd (fun h _ _ => EdSame.refl h e)
    · have hnm : ¬ Memo (Analysis.enter env e c name tr).1 (mangle c name) := by
        unfold Memo; rw [Analysis.enter_output, hnone]; exact Bool.false_ne_true
      have hci' : CIall (Analysis.enter env e c name tr).1 := by
        unfold CIall; rw [Analysis.enter_output]; exact hci
      have s := ho hf' _ _ _ _ (e1, c1) (minv_enter c name tr hi) hci' hc hnm ?_ h1
      · exact ⟨s.1, s.2.congr (Analysis.enter_output ..) (Analysis.enter_actionEdits ..) (Analysis.enter_tmplEdits ..)
          (Analysis.enter_textEdits ..)⟩
      · -- a tracked name is no mangled name: the context is `{}` and the tree analysed is the installed one
        intro th ht
        obtain ⟨hmn, hc0⟩ := mangle_nodollar c name ht.1 hc
        refine ⟨hc0, ?_⟩
        have hlk := hi.lk _ th ht (not_memo_of_lookup hnone)
        rw [hmn] at hlk
        unfold Esc.template at htmpl
        rw [hlk] at htmpl
        cases htmpl
        rcases Analysis.enter_cases env e c name _ with ⟨_, h⟩ | ⟨hne, _⟩ | ⟨hne, _⟩
        · rw [h]
        · exact absurd hmn hne
        · exact absurd hmn hne
  · intro f hy hf e c tname t r hi hci hc hnm htk h
    have hf' : f ≤ F := Nat.le_of_succ_le hf
    by_cases hT : ∃ th, Trk O tname th
    · obtain ⟨th, ht⟩ := hT
      obtain ⟨rfl, rfl⟩ := htk th ht
      exact out_trk hf ht hi hnm h
    · have hu : Untr O tname := fun th ht => hT ⟨th, ht⟩
      obtain ⟨e1, c1, ok1, h1, h2⟩ := Analysis.computeOutCtx_ok h
      have s1 : MPost env F O e e1 := hy hf' _ _ _ _ _ hi hci hc hu h1
      obtain ⟨k1, k2⟩ := (Analysis.analysis_ctx ctxInv_closed env f).2.2.2.2.2 _ _ _ _ _ hci hc h1
      rcases h2 with ⟨_, rfl⟩ | ⟨_, e2, c2, ok2, h3, h4⟩
      · exact s1.trans (mpost_setOut s1.1 hu rfl rfl rfl rfl rfl)
      · have s2 : MPost env F O e e2 := s1.trans (hy hf' _ _ _ _ _ s1.1 k1 k2 hu h3)
        rcases h4 with ⟨_, rfl⟩ | ⟨_, _, rfl⟩ | ⟨_, _, rfl⟩ <;>
          exact s2.trans (mpost_setOut s2.1 hu rfl rfl rfl rfl rfl)
  · intro f hl hf e c tname t r hi hci hc hu h
    have hf' : f ≤ F := Nat.le_of_succ_le hf
    obtain ⟨tr, e1, c1, _, h1, h2⟩ := Analysis.escapeTemplateBody_ok h
    have s1 : MPost env F O (Analysis.scratch (Analysis.setOut e tname c)) e1 :=
      hl hf' _ _ _ _ _ (minv_scratch (minv_setOut hi hu c)) (ciall_setOut hci tname hc) hc hu h1
    rcases h2 with ⟨_, _, _, _, rfl⟩ | ⟨_, rfl⟩
    · exact merge_mpost e e1 _ tname c hi hu s1 rfl rfl rfl rfl rfl
    · exact mpost_setOut hi hu rfl rfl rfl rfl rfl

end
/-! ## the invariant of a name space between two critical sections -/

def EdIs (h : String) (e ss : Esc) : Prop :=
  fk h e.actionEdits = ss.actionEdits ∧ fk h e.tmplEdits = ss.tmplEdits ∧ fk h e.textEdits = ss.textEdits

/-- the state of the installed tree of a tracked, memoized template: either the original tree with the canonical edits
    still pending (after a failed analysis), or the canonical committed tree with nothing pending -/
def TState (env : Env) (F : Nat) (text : TextSet) (e : Esc) (h : String) (th : Tree) : Prop :=
  (text.lookup h = some (some th) ∧ EdIs h e (cEd env F h th)) ∨
  (∃ T, cfTree h (cEd env F h th) th = some T ∧ text.lookup h = some (some T) ∧ EdIs h e {})

@[reducible] def nsEnv (v : Validators) (n : NS) : Env :=
  { text := n.text, nsHas := fun m => (alookup n.set m).isSome, csp := n.csp, v := v }

/-- **memo correctness in the text context**: every memo entry of a call-free template without `$` is the canonical
    output context, and its installed tree is (or will be after the next commit) the canonical committed tree -/
structure NSInv (v : Validators) (F : Nat) (n : NS) : Prop where
  ci : CIall n.esc
  mi : MInv (nsEnv v n) F (origT n.text n.esc) n.esc
  ts : ∀ h th, Trk (origT n.text n.esc) h th → Memo n.esc h → TState (nsEnv v n) F n.text n.esc h th
  pm : ∀ p ∈ n.esc.pristine, Memo n.esc p.1

theorem snap_keys (text : TextSet) (derived : List (String × Tree)) (l : List (String × Ctx)) :
    ∀ (acc : List (String × Tree)), ∀ q ∈ l.foldl (icc_snap text derived) acc, q ∈ acc ∨ ∃ p ∈ l, p.1 = q.1 := by
  induction l with
  | nil => intro acc q hq; exact .inl hq
  | cons p t ih =>
    intro acc q hq
    rw [List.foldl_cons] at hq
    rcases ih _ q hq with h1 | ⟨p', hp', he⟩
    · unfold icc_snap at h1
      split at h1
      · exact .inl h1
      · split at h1
        · rcases List.mem_append.mp h1 with h2 | h2
          · exact .inl h2
          · right; refine ⟨p, List.mem_cons_self .., ?_⟩
            simp only [List.mem_singleton] at h2; rw [h2]
        · exact .inl h1
        · split at h1
          · rcases List.mem_append.mp h1 with h2 | h2
            · exact .inl h2
            · right; refine ⟨p, List.mem_cons_self .., ?_⟩
              simp only [List.mem_singleton] at h2; rw [h2]
          · exact .inl h1
    · exact .inr ⟨p', List.mem_cons_of_mem _ hp', he⟩

theorem edis_of_same {h : String} {e e' ss : Esc} (hs : EdSame h e e') (hi : EdIs h e ss) : EdIs h e' ss :=
  ⟨hs.1.trans hi.1, hs.2.1.trans hi.2.1, hs.2.2.trans hi.2.2⟩

theorem trk_congr {O O' : String → Option Tree} (hO : ∀ h, NoDollar h → O' h = O h) {h : String} {th : Tree}
    (ht : Trk O' h th) : Trk O h th := ⟨ht.1, (hO h ht.1) ▸ ht.2.1, ht.2.2⟩

theorem nsinv_fresh (v : Validators) (F : Nat) (n : NS) (ho : n.esc.output = []) (hd : n.esc.derived = [])
    (hp : n.esc.pristine = []) : NSInv v F n := by
  refine ⟨?_, ⟨?_, ?_, ?_⟩, ?_, ?_⟩
  · intro p hpm; rw [ho] at hpm; cases hpm
  · intro p hpm; rw [hd] at hpm; cases hpm
  · intro h th ht _
    have := ht.2.1
    unfold origT at this
    rw [hp] at this
    simp only [Analysis.alookup_nil] at this
    split at this
    · cases this; assumption
    · cases this
  · intro h th _ p hpm; rw [ho] at hpm; cases hpm
  · intro h th _ hm; unfold Memo at hm; rw [ho] at hm; cases hm
  · intro p hpm; rw [hp] at hpm; cases hpm

theorem nsinv_congr (v : Validators) (F : Nat) (n n' : NS) (ht : n'.text = n.text) (he : n'.esc = n.esc)
    (hc : n'.csp = n.csp) (hi : NSInv v F n) : NSInv v F n' := by
  obtain ⟨a, b, c, d⟩ := hi
  refine ⟨by rw [he]; exact a, ?_, ?_, by rw [he]; exact d⟩
  · rw [ht, he]
    exact ⟨b.dd, fun h th x y => by show n'.text.lookup h = _; rw [ht]; exact b.lk h th x y,
      fun h th x p y z => by show ∃ ss, cfOut (cenv n'.csp v) F h {} th.root = _; rw [hc]; exact b.mc h th x p y z⟩
  · rw [ht, he]
    intro h th x y
    have hce : cEd (nsEnv v n') F h th = cEd (nsEnv v n) F h th := by
      unfold cEd
      show (match cfOut (cenv n'.csp v) F h {} th.root with | .ok (_, ss) => ss | _ => ({} : Esc)) = _
      rw [hc]
    have := c h th x y
    unfold TState at this ⊢
    rw [hce]
    exact this

theorem nsinv_analysis (v : Validators) (F : Nat) (n : NS) (name : String) (e1 : Esc) (c1 : Ctx) (nm : String)
    (hinv : NSInv v F n) (hsi : SI n.text n.esc)
    (htree : escapeTree (nsEnv v n) F n.esc {} name = .ok (e1, c1, nm)) :
    (NSInv v F { n with esc := e1 } ∧ origT n.text e1 = origT n.text n.esc) ∧
    ∀ text2 e2, commit n.text e1 = .ok (text2, e2) → NSInv v F { n with esc := e2, text := text2 } ∧
      ∀ x, NoDollar x → origT text2 e2 x = origT n.text n.esc x := by
  have hpost := (analysis_m (nsEnv v n) F (origT n.text n.esc) F).2.2.2.1 (Nat.le_refl _) _ _ _ _ hinv.mi hinv.ci
    ctxInv_default htree
  have hci1 := ((Analysis.analysis_ctx ctxInv_closed (nsEnv v n) F).2.2.2.1 _ _ _ _ hinv.ci ctxInv_default htree).1
  have hpr : e1.pristine = n.esc.pristine := (analysis_pristine (nsEnv v n) F).2.2.2.1 _ _ _ _ htree
  have hkm0 : KM n.esc := hsi.2.2.1
  have hkm1 : KM e1 :=
    (((analysis_shared (nsEnv v n) hsi.1 F).2.2.2.1 _ {} name hsi.2.1 hsi.2.2.1 hsi.2.2.2).ok_of htree).2.2.1
  simp only [] at hpost hci1 hkm1
  have hO : origT n.text e1 = origT n.text n.esc := by
    funext h; unfold origT; rw [hpr]
  have hts1 : ∀ h th, Trk (origT n.text n.esc) h th → Memo e1 h →
      TState (nsEnv v n) F n.text e1 h th := by
    intro h th ht hm
    by_cases hm0 : Memo n.esc h
    · have hs := hpost.2.frozen h th ht hm0
      rcases hinv.ts h th ht hm0 with ⟨a, b⟩ | ⟨T, a, b, d⟩
      · exact .inl ⟨a, edis_of_same hs b⟩
      · exact .inr ⟨T, a, b, edis_of_same hs d⟩
    · rcases hpost.2.fresh h th ht hm0 with ⟨n1, _⟩ | ⟨_, happ⟩
      · exact absurd hm n1
      · left
        refine ⟨hinv.mi.lk h th ht hm0, ?_⟩
        obtain ⟨z1, z2, z3⟩ := fk_nil_of_km n.esc h hkm0 hm0
        obtain ⟨y1, y2, y3⟩ := happ
        rw [z1, List.nil_append] at y1
        rw [z2, List.nil_append] at y2
        rw [z3, List.nil_append] at y3
        exact ⟨y1, y2, y3⟩
  refine ⟨⟨⟨hci1, ?_, ?_, ?_⟩, hO⟩, ?_⟩
  · show MInv (nsEnv v n) F (origT n.text e1) e1
    rw [hO]; exact hpost.1
  · show ∀ h th, Trk (origT n.text e1) h th → Memo e1 h → TState (nsEnv v n) F n.text e1 h th
    rw [hO]; exact hts1
  · show ∀ p ∈ e1.pristine, Memo e1 p.1
    rw [hpr]; intro p hp; exact hpost.2.ext _ (hinv.pm p hp)
  · intro text2 e2 hcm
    obtain ⟨f1, f2, f3, f4, f5⟩ := commit_fields n.text e1 text2 e2 hcm
    have hdne : ∀ h, NoDollar h → ∀ p ∈ e1.derived, p.1 ≠ h := by
      intro h hnd p hp he
      exact hpost.1.dd p hp (he ▸ hnd)
    have hO2 : ∀ h, NoDollar h → origT text2 e2 h = origT n.text n.esc h := by
      intro h hnd
      rw [origT_commit n.text e1 text2 e2 h hcm (hdne h hnd) hkm1, hO]
    have hmemo : ∀ h, Memo e2 h ↔ Memo e1 h := by
      intro h; unfold Memo; rw [f1]
    refine ⟨⟨?_, ⟨?_, ?_, ?_⟩, ?_, ?_⟩, hO2⟩
    · show CIall e2
      intro p hp; rw [f1] at hp; exact hci1 p hp
    · intro p hp
      obtain ⟨q, hq, hqp⟩ := f5 p hp
      rw [← hqp]; exact hpost.1.dd q hq
    · intro h th ht hm
      have ht' := trk_congr hO2 ht
      have hm1 : ¬ Memo e1 h := fun x => hm ((hmemo h).mpr x)
      obtain ⟨z1, z2, z3⟩ := fk_nil_of_km e1 h hkm1 hm1
      show text2.lookup h = _
      rw [commit_fk_nil n.text e1 h text2 e2 hcm (hdne h ht.1) z1 z2 z3]
      exact hpost.1.lk h th ht' hm1
    · intro h th ht p hp hph
      rw [f1] at hp
      exact hpost.1.mc h th (trk_congr hO2 ht) p hp hph
    · intro h th ht hm
      have ht' := trk_congr hO2 ht
      have hnil : EdIs h e2 {} := by
        refine ⟨?_, ?_, ?_⟩
        · rw [f2]; rfl
        · rw [f3]; rfl
        · rw [f4]; rfl
      rcases hts1 h th ht' ((hmemo h).mp hm) with ⟨a, b⟩ | ⟨T, a, b, d⟩
      · obtain ⟨T, hT, hl2⟩ := commit_fk n.text (cEd (nsEnv v n) F h th) e1 h th text2 e2 hcm a (hdne h ht.1)
          b.1 b.2.1 b.2.2
        exact .inr ⟨T, hT, hl2, hnil⟩
      · refine .inr ⟨T, a, ?_, hnil⟩
        show text2.lookup h = _
        rw [commit_fk_nil n.text e1 h text2 e2 hcm (hdne h ht.1) d.1 d.2.1 d.2.2]
        exact b
    · show ∀ p ∈ e2.pristine, Memo e2 p.1
      rw [icc_commit_pristine n.text e1 text2 e2 hcm]
      intro q hq
      rw [hmemo]
      rcases snap_keys _ _ _ _ q hq with h1 | ⟨p, hp, he⟩
      · rw [hpr] at h1; exact hpost.2.ext _ (hinv.pm q h1)
      · rw [← he]; exact Analysis.alookup_isSome_of_mem _ _ hp

theorem nsinv_top (w w' : World) (k : Nat) (name : String) (r : Option ErrCode)
    (hinv : NSInv w.v w.fuel (w.ns k)) (hai : AI (w.ns k)) (h : escapeTemplateTop w k name = .inr (w', r)) :
    NSInv w'.v w'.fuel (w'.ns k) ∧
    ∀ x, NoDollar x → origT (w'.ns k).text (w'.ns k).esc x = origT (w.ns k).text (w.ns k).esc x := by
  obtain ⟨hf, hv, _, _⟩ := fields_top h
  rw [hv, hf]
  obtain ⟨e1, c1, d, htree, hr⟩ := top_inr h
  obtain ⟨hfail, hok⟩ := nsinv_analysis w.v w.fuel (w.ns k) name e1 c1 d hinv hai.2.2.2.1 htree
  rcases hr with ⟨code, _, _, rfl⟩ | ⟨t, e', _, hcm, _, rfl⟩
  · rw [ns_markFailed, if_pos rfl]; exact ⟨hfail.1, fun x _ => congrFun hfail.2 x⟩
  · rw [ns_markOk, if_pos rfl]; exact hok t e' hcm

theorem nsinv_pred : NsPred NSInv :=
  ⟨fun v F n ho hd hp _ _ _ => nsinv_fresh v F n ho hd hp, nsinv_congr,
    fun w w' k name r a b c => (nsinv_top w w' k name r a b c).1⟩

theorem nsinv_reachable (w : World) (hr : ReachableC w) (k : Nat) : NSInv w.v w.fuel (w.ns k) :=
  nspred_reachable nsinv_pred w hr k

/-! ## the reference analysis of a template whose `{{template}}` calls are in the plain text context -/

/-- the reference outcome "a `{{template}}` call outside the plain text context, or to an unknown callee" -/
def msgExcl : String := "excluded: template call outside the text context"

/-- the canonical output context of a callee: the analysis of its original (call-free) tree from the empty escaper -/
def calOf (env : Env) (F : Nat) (D : String → Option Tree) (h : String) : Out Ctx :=
  match D h with
  | none => .panic msgExcl
  | some th =>
    match cfOut (cenv env.csp env.v) F h {} th.root with
    | .ok (c, _) => .ok c
    | .panic m => .panic m
    | .fuel => .fuel

mutual
/-- the reference analysis: `escapeNode` without memo; a `{{template "h"}}` node in the context `{}` continues in the
    canonical output context of `h`; in any other (non-error) context the outcome is `msgExcl` -/
def rNode (env : Env) (cal : String → Out Ctx) : Nat → String → Esc → Ctx → Node → Out (Esc × Ctx)
  | 0, _, _, _, _ => .fuel
  | f+1, tn, s, c, n =>
    match n with
    | .action id p => escapeAction env tn s c id p
    | .text id b => escapeTextNode env tn s c id b
    | .ifN _ _ t el => rBranch env cal f tn s c t el false
    | .withN _ _ t el => rBranch env cal f tn s c t el false
    | .rangeN _ _ t el => rBranch env cal f tn s c t el true
    | .tmpl _ h _ =>
      if c.state == .error then .ok (s, c)
      else if c = {} then do
        let ch ← cal h
        pure (s, ch)
      else .panic msgExcl
    | .brk _ => .ok (s, Ctx.errorCtx .escapeAction)
    | .cont _ => .ok (s, Ctx.errorCtx .escapeAction)
    | .comment _ => .ok (s, Ctx.errorCtx .escapeAction)
def rList (env : Env) (cal : String → Out Ctx) : Nat → String → Esc → Ctx → NodeList → Out (Esc × Ctx)
  | 0, _, _, _, _ => .fuel
  | f+1, tn, s, c, l =>
    match l with
    | .nil => .ok (s, c)
    | .cons n ns => do
      let (s, c) ← rNode env cal f tn s c n
      rList env cal f tn s c ns
def rBranch (env : Env) (cal : String → Out Ctx) : Nat → String → Esc → Ctx → NodeList → NodeList → Bool → Out (Esc × Ctx)
  | 0, _, _, _, _, _, _ => .fuel
  | f+1, tn, s, c, t, el, isRange => do
    let (s, c0) ← rList env cal f tn s c t
    let c0r : Out (Option Ctx) :=
      if isRange && c0.state != .error then do
        let (_, c1) ← rList env cal f tn {} c0 t
        let j := join c0 c1
        pure (some j)
      else pure none
    match ← c0r with
    | some j =>
      if j.state == .error then pure (s, j)
      else do
        let (s, c1) ← rList env cal f tn s c el
        pure (s, join j c1)
    | none => do
      let (s, c1) ← rList env cal f tn s c el
      pure (s, join c0 c1)
end

/-- Simulation of a real run `x` by a reference run `y`. Nothing is claimed when the reference run leaves the fragment
    (`msgExcl`: a call outside `{}`), nor when the real run exhausts the fuel: a memo hit costs the real run one unit
    where the reference run pays for the whole callee, so the two need not run out together. -/
def SimG {α β} (R : α → β → Prop) (x : Out α) (y : Out β) : Prop :=
  y = .panic msgExcl ∨
  match x with
  | .ok a => ∃ b, y = .ok b ∧ R a b
  | .panic m => y = .panic m ∨ m = msgShared
  | .fuel => True

theorem simg_bind {α β α' β'} {R : α → β → Prop} {R' : α' → β' → Prop} {x : Out α} {y : Out β}
    {g : α → Out α'} {g' : β → Out β'} (h : SimG R x y)
    (hg : ∀ a b, x = .ok a → R a b → SimG R' (g a) (g' b)) : SimG R' (x >>= g) (y >>= g') := by
  rcases h with h | h
  · left; rw [h]; rfl
  · cases x with
    | ok a =>
      obtain ⟨b, hy, hr⟩ := h
      rw [hy]
      exact hg a b rfl hr
    | panic m =>
      rcases h with h | h
      · right; rw [h]; exact .inl rfl
      · right; exact .inr h
    | fuel => right; trivial

theorem simg_mono {α β} {R R' : α → β → Prop} {x : Out α} {y : Out β} (h : SimG R x y)
    (hr : ∀ a b, x = .ok a → R a b → R' a b) : SimG R' x y := by
  rcases h with h | h
  · exact .inl h
  · right
    cases x with
    | ok a => obtain ⟨b, hy, hr'⟩ := h; exact ⟨b, hy, hr a b rfl hr'⟩
    | panic m => exact h
    | fuel => trivial

def CalledIn (D : String → Option Tree) (e e1 : Esc) : Prop := ∀ z ∈ e1.called, z ∈ e.called ∨ (D z).isSome = true

theorem CalledIn.refl (D : String → Option Tree) (e : Esc) : CalledIn D e e := fun _ h => .inl h
theorem CalledIn.trans {D : String → Option Tree} {e e1 e2 : Esc} (a : CalledIn D e e1) (b : CalledIn D e1 e2) :
    CalledIn D e e2 := by
  intro z hz
  rcases b z hz with h | h
  · exact a z h
  · exact .inr h

def Rr (tn : String) (D : String → Option Tree) (e : Esc) (r r' : Esc × Ctx) : Prop :=
  r'.2 = r.2 ∧ EdIs tn r.1 r'.1 ∧ CalledIn D e r.1

@[reducible] def SimR (tn : String) (D : String → Option Tree) (e : Esc) (x y : Out (Esc × Ctx)) : Prop :=
  SimG (Rr tn D e) x y

theorem simr_same (tn : String) (D : String → Option Tree) (e s : Esc) (c : Ctx) (h : EdIs tn e s) :
    SimR tn D e (.ok (e, c)) (.ok (s, c)) := .inr ⟨(s, c), rfl, rfl, h, CalledIn.refl D e⟩

theorem any_fk {β} (tn : String) (id : Nat) (l : List (EditKey × β)) :
    l.any (fun p => p.1 == (tn, id)) = (fk tn l).any (fun p => p.1 == (tn, id)) := by
  induction l with
  | nil => rfl
  | cons q t ih =>
    unfold fk
    rw [List.any_cons, List.filter_cons]
    by_cases hq : (q.1.1 == tn) = true
    · rw [if_pos hq, List.any_cons, ih]; rfl
    · rw [if_neg hq, ih]
      have : (q.1 == (tn, id)) = false := by
        cases hq' : (q.1 == (tn, id)) with
        | false => rfl
        | true =>
          exfalso; apply hq
          have : q.1 = (tn, id) := by simpa using hq'
          rw [this]; simp
      rw [this, Bool.false_or]; rfl

theorem fk_self_single {β} (tn : String) (id : Nat) (v : β) : fk tn [((tn, id), v)] = [((tn, id), v)] :=
  fk_all tn _ (by intro q hq; simp only [List.mem_singleton] at hq; subst hq; rfl)

theorem escapeAction_simr (env : Env) (D : String → Option Tree) (tn : String) (e s : Esc) (c : Ctx) (id : Nat)
    (p : Pipe) (h : EdIs tn e s) : SimR tn D e (escapeAction env tn e c id p) (escapeAction (cenv env.csp env.v) tn s c id p) := by
  unfold escapeAction
  dsimp only
  split
  · exact simr_same tn D e s c h
  · split
    · exact .inr (.inl rfl)
    · exact simr_same tn D e s _ h
    · split
      · exact simr_same tn D e s _ h
      · split
        · exact simr_same tn D e s _ h
        · rename_i sn _
          unfold Esc.editAction
          rw [any_fk tn id e.actionEdits, h.1]
          split
          · exact .inr (.inl rfl)
          · refine .inr ⟨_, rfl, rfl, ⟨?_, h.2.1, h.2.2⟩, CalledIn.refl D e⟩
            show fk tn (e.actionEdits ++ [((tn, id), sn)]) = s.actionEdits ++ [((tn, id), sn)]
            rw [fk_append, fk_self_single, h.1]

theorem escapeTextNode_simr (env : Env) (D : String → Option Tree) (tn : String) (e s : Esc) (c : Ctx) (id : Nat)
    (b : Bytes) (h : EdIs tn e s) : SimR tn D e (escapeTextNode env tn e c id b) (escapeTextNode (cenv env.csp env.v) tn s c id b) := by
  unfold escapeTextNode
  dsimp only
  split
  · exact .inr (.inl rfl)
  · exact simr_same tn D e s _ h
  · rename_i c' nb _
    unfold Esc.editText
    rw [any_fk tn id e.textEdits, h.2.2]
    split
    · exact .inr (.inl rfl)
    · refine .inr ⟨_, rfl, rfl, ⟨h.1, h.2.1, ?_⟩, CalledIn.refl D e⟩
      show fk tn (e.textEdits ++ [((tn, id), nb)]) = s.textEdits ++ [((tn, id), nb)]
      rw [fk_append, fk_self_single, h.2.2]

/-! ### a call of a tracked template in the context `{}` -/

/-- the side conditions of the simulation: the analysed template `tn` is not tracked and not a callee; every callee
    in `D` is tracked with the tree `D` gives -/
structure SimCtx (O D : String → Option Tree) (tn : String) : Prop where
  untr : Untr O tn
  dtn : D tn = none
  dtrk : ∀ h th, D h = some th → Trk O h th

/-- memo hit or first analysis, the call of a tracked template returns its canonical context; it adds only edits
    keyed by the callee and records only the callee as called -/
theorem tree_trk (env : Env) (F : Nat) (O D : String → Option Tree) (f : Nat) (hF : f ≤ F) (e : Esc) (h : String)
    (th : Tree) (hD : D h = some th) (ht : Trk O h th) (hi : MInv env F O e) :
    SimG (fun (r : Esc × Ctx × String) (ch : Ctx) => ch = r.2.1 ∧ r.2.2 = h ∧ (∀ tn, tn ≠ h → EdSame tn e r.1) ∧
        ∀ z ∈ r.1.called, z ∈ e.called ∨ z = h)
      (escapeTree env f e {} h) (calOf env F D h) := by
  have hcalled : ∀ z ∈ (Analysis.call e h).called, z ∈ e.called ∨ z = h := by
    intro z hz
    unfold Analysis.call at hz
    dsimp only at hz
    split at hz
    · exact .inl hz
    · exact (List.mem_append.mp hz).imp_right fun h1 => by simpa using h1
  have hok : ∀ cc ss, cfOut (cenv env.csp env.v) F h {} th.root = .ok (cc, ss) → calOf env F D h = .ok cc := by
    intro cc ss hcf; unfold calOf; rw [hD]; dsimp only; rw [hcf]
  have hpanic : ∀ m, cfOut (cenv env.csp env.v) F h {} th.root = .panic m → calOf env F D h = .panic m := by
    intro m hcf; unfold calOf; rw [hD]; dsimp only; rw [hcf]
  cases f with
  | zero => rw [Analysis.escapeTree_zero]; exact .inr trivial
  | succ g =>
    cases hm : alookup e.output h with
    | some out =>
      rw [Analysis.escapeTree_succ, if_neg (by decide)]
      simp only [Analysis.mangle_default, hm]
      obtain ⟨ss, hss⟩ := hi.mc h th ht (h, out) (Analysis.mem_of_alookup _ _ _ hm) rfl
      exact .inr ⟨out, hok _ _ hss, rfl, rfl, fun _ _ => ⟨rfl, rfl, rfl⟩, hcalled⟩
    | none =>
      have htm : e.template env h = some (some th) := by
        unfold Esc.template; rw [hi.lk h th ht (not_memo_of_lookup hm)]
      rw [Analysis.escapeTree_text _ _ _ _ hm, htm]
      dsimp only
      match g, hF with
      | 0, _ => rw [Analysis.computeOutCtx_zero]; exact .inr trivial
      | 1, _ => rw [Analysis.computeOutCtx_succ, Analysis.escapeTemplateBody_zero]; exact .inr trivial
      | g' + 2, hF =>
        have hs := out_sim (cenv env.csp env.v) env ⟨rfl, rfl⟩ g' (Analysis.miss e {} h) {} h th ht.2.2
        cases hres : computeOutCtx env (g' + 2) (Analysis.miss e {} h) {} h (some th) with
        | fuel => exact .inr trivial
        | panic m =>
          rcases hs.of_panic hres with h3 | h3
          · exact .inr (.inl (hpanic m (cfOut_mono (f' := F) (by omega) ht.2.2 h3 nofun)))
          · exact .inr (.inr h3)
        | ok b =>
          obtain ⟨⟨cc, ss⟩, hcf, hb, hext, _⟩ := hs.of_ok hres
          have hkeys := cfOut_edit_keys _ g' h {} th.root ht.2.2 _ ss hcf
          obtain ⟨_, _, hcd⟩ := out_cf_out ht.2.2 hres
          refine .inr ⟨cc, hok _ _ (cfOut_mono (f' := F) (by omega) ht.2.2 hcf nofun), hb.symm, rfl,
            fun tn hne => edsame_ext hext hkeys hne, ?_⟩
          show ∀ z ∈ b.1.called, _
          rw [hcd]; exact hcalled

theorem tmpl_simr (env : Env) (F : Nat) (O D : String → Option Tree) (tn : String) (hx : SimCtx O D tn) (f : Nat)
    (hf : f + 1 ≤ F) (e s : Esc) (c : Ctx) (id : Nat) (h : String) (p : Option Pipe) (hi : MInv env F O e)
    (hed : EdIs tn e s) :
    SimR tn D e (escapeNode env (f + 1) tn e c (.tmpl id h p)) (rNode (cenv env.csp env.v) (calOf env F D) (f + 1) tn s c (.tmpl id h p)) := by
  rw [Analysis.escapeNode_tmpl]
  simp only [rNode]
  by_cases hce : (c.state == .error) = true
  · rw [if_pos hce]
    cases f with
    | zero => rw [Analysis.escapeTree_zero]; exact .inr trivial
    | succ g =>
      rw [Analysis.escapeTree_succ, if_pos hce]
      simp only [bind, Out.bind, bne_self_eq_false, Bool.false_eq_true, if_false]
      exact simr_same tn D e s c hed
  · rw [if_neg hce]
    by_cases hc0 : c = {}
    · subst hc0
      rw [if_pos rfl]
      cases hD : D h with
      | none => left; unfold calOf; rw [hD]; rfl
      | some th =>
        have hne : tn ≠ h := by intro he; rw [← he, hx.dtn] at hD; cases hD
        refine simg_bind (tree_trk env F O D f (by omega) e h th hD (hx.dtrk h th hD) hi) ?_
        rintro ⟨e1, c1, nm⟩ ch _ ⟨hc', hnm, hsame, hcalled⟩
        dsimp only at hc' hnm hsame hcalled ⊢
        subst hnm hc'
        simp only [bne_self_eq_false, Bool.false_eq_true, if_false]
        refine .inr ⟨_, rfl, rfl, edis_of_same (hsame tn hne) hed, fun z hz => (hcalled z hz).imp_right fun h1 => ?_⟩
        rw [h1, hD]; rfl
    · rw [if_neg hc0]; exact .inl rfl

theorem simr_weaken {tn : String} {D : String → Option Tree} {e e1 : Esc} {x y : Out (Esc × Ctx)}
    (h : SimR tn D e1 x y) (hc : CalledIn D e e1) : SimR tn D e x y :=
  simg_mono h (fun _ _ _ hr => ⟨hr.1, hr.2.1, hc.trans hr.2.2⟩)

def ListSim (env : Env) (F : Nat) (O D : String → Option Tree) (tn : String) (l : NodeList) : Prop :=
  ∀ f e s c, f ≤ F → MInv env F O e → CIall e → CtxInv c → EdIs tn e s →
    SimR tn D e (escapeList env f tn e c l) (rList (cenv env.csp env.v) (calOf env F D) f tn s c l)

theorem scratch_edis (tn : String) (e : Esc) : EdIs tn (Analysis.scratch e) {} := ⟨rfl, rfl, rfl⟩

theorem branch_simr (env : Env) (F : Nat) (O D : String → Option Tree) (tn : String) (hx : SimCtx O D tn)
    (t el : NodeList) (ht : ListSim env F O D tn t) (hel : ListSim env F O D tn el) :
    ∀ f e s c b, f ≤ F → MInv env F O e → CIall e → CtxInv c → EdIs tn e s →
      SimR tn D e (escapeBranch env f tn e c t el b) (rBranch (cenv env.csp env.v) (calOf env F D) f tn s c t el b) := by
  intro f e s c b hf hi hci hc hed
  cases f with
  | zero => simp only [escapeBranch, rBranch]; exact .inr trivial
  | succ k =>
    have hk : k ≤ F := Nat.le_of_succ_le hf
    simp only [escapeBranch, rBranch]
    apply simg_bind (ht k e s c hk hi hci hc hed)
    intro a a' hxa hR
    obtain ⟨e1, c0⟩ := a
    obtain ⟨s1, c0'⟩ := a'
    obtain ⟨hcc, hed1, hcal1⟩ := hR
    simp only [] at hcc hed1 hcal1
    subst hcc
    have hp1 := (analysis_m env F O k).2.1 hk _ _ _ _ _ hi hci hc hx.untr hxa
    obtain ⟨hci1, hc0⟩ := (Analysis.analysis_ctx ctxInv_closed env k).2.1 _ _ _ _ _ hci hc hxa
    simp only [] at hp1 hci1 hc0
    show SimG (Rr tn D e) (_ >>= _) (_ >>= _)
    apply simg_bind (R := fun (j j' : Option Ctx) => j' = j)
    · dsimp only
      by_cases hb : (b && c0'.state != State.error) = true
      · rw [if_pos hb, if_pos hb]
        apply simg_bind (ht k _ {} c0' hk (minv_scratch hp1.1) (fun p hp => hci1 p hp) hc0 (scratch_edis tn e1))
        intro r r' _ hR2
        obtain ⟨e2, c1⟩ := r
        obtain ⟨s2, c1'⟩ := r'
        have : c1' = c1 := hR2.1
        subst this
        exact .inr ⟨_, rfl, rfl⟩
      · rw [if_neg hb, if_neg hb]
        exact .inr ⟨_, rfl, rfl⟩
    · intro j j' _ hj
      subst hj
      dsimp only
      -- the else-list, joined with the context `j0` reached so far
      have hel1 : ∀ j0 : Ctx, SimG (Rr tn D e)
          (escapeList env k tn e1 c el >>= fun r => pure (r.1, join j0 r.2))
          (rList (cenv env.csp env.v) (calOf env F D) k tn s1 c el >>= fun r => pure (r.1, join j0 r.2)) := by
        intro j0
        apply simg_bind (simr_weaken (hel k e1 s1 c hk hp1.1 hci1 hc hed1) hcal1)
        intro r r' _ hR2
        obtain ⟨e2, c1⟩ := r
        obtain ⟨s2, c1'⟩ := r'
        obtain ⟨hcc2, hed2, hcal2⟩ := hR2
        simp only [] at hcc2 hed2 hcal2
        subst hcc2
        exact .inr ⟨_, rfl, rfl, hed2, hcal2⟩
      cases j' with
      | some jc =>
        dsimp only
        by_cases hjs : (jc.state == State.error) = true
        · rw [if_pos hjs, if_pos hjs]
          exact .inr ⟨(s1, jc), rfl, rfl, hed1, hcal1⟩
        · rw [if_neg hjs, if_neg hjs]
          exact hel1 jc
      | none => exact hel1 c0'

mutual
theorem node_simr (env : Env) (F : Nat) (O D : String → Option Tree) (tn : String) (hx : SimCtx O D tn) :
    ∀ n f e s c, f ≤ F → MInv env F O e → CIall e → CtxInv c → EdIs tn e s →
      SimR tn D e (escapeNode env f tn e c n) (rNode (cenv env.csp env.v) (calOf env F D) f tn s c n)
  | .text id b, f, e, s, c, _, _, _, _, hed => by
    cases f with
    | zero => simp only [escapeNode, rNode]; exact .inr trivial
    | succ g => simp only [escapeNode, rNode]; exact escapeTextNode_simr env D tn e s c id b hed
  | .action id p, f, e, s, c, _, _, _, _, hed => by
    cases f with
    | zero => simp only [escapeNode, rNode]; exact .inr trivial
    | succ g => simp only [escapeNode, rNode]; exact escapeAction_simr env D tn e s c id p hed
  | .tmpl id h p, f, e, s, c, hf, hi, _, _, hed => by
    cases f with
    | zero => simp only [escapeNode, rNode]; exact .inr trivial
    | succ g => exact tmpl_simr env F O D tn hx g hf e s c id h p hi hed
  | .ifN id p t el, f, e, s, c, hf, hi, hci, hc, hed => by
    cases f with
    | zero => simp only [escapeNode, rNode]; exact .inr trivial
    | succ g =>
      simp only [escapeNode, rNode]
      exact branch_simr env F O D tn hx t el (list_simr env F O D tn hx t) (list_simr env F O D tn hx el) g e s c false
        (Nat.le_of_succ_le hf) hi hci hc hed
  | .rangeN id p t el, f, e, s, c, hf, hi, hci, hc, hed => by
    cases f with
    | zero => simp only [escapeNode, rNode]; exact .inr trivial
    | succ g =>
      simp only [escapeNode, rNode]
      exact branch_simr env F O D tn hx t el (list_simr env F O D tn hx t) (list_simr env F O D tn hx el) g e s c true
        (Nat.le_of_succ_le hf) hi hci hc hed
  | .withN id p t el, f, e, s, c, hf, hi, hci, hc, hed => by
    cases f with
    | zero => simp only [escapeNode, rNode]; exact .inr trivial
    | succ g =>
      simp only [escapeNode, rNode]
      exact branch_simr env F O D tn hx t el (list_simr env F O D tn hx t) (list_simr env F O D tn hx el) g e s c false
        (Nat.le_of_succ_le hf) hi hci hc hed
  | .brk id, f, e, s, c, _, _, _, _, hed => by
    cases f with
    | zero => simp only [escapeNode, rNode]; exact .inr trivial
    | succ g => simp only [escapeNode, rNode]; exact simr_same tn D e s _ hed
  | .cont id, f, e, s, c, _, _, _, _, hed => by
    cases f with
    | zero => simp only [escapeNode, rNode]; exact .inr trivial
    | succ g => simp only [escapeNode, rNode]; exact simr_same tn D e s _ hed
  | .comment id, f, e, s, c, _, _, _, _, hed => by
    cases f with
    | zero => simp only [escapeNode, rNode]; exact .inr trivial
    | succ g => simp only [escapeNode, rNode]; exact simr_same tn D e s _ hed
theorem list_simr (env : Env) (F : Nat) (O D : String → Option Tree) (tn : String) (hx : SimCtx O D tn) :
    ∀ l, ListSim env F O D tn l
  | .nil, f, e, s, c, _, _, _, _, hed => by
    cases f with
    | zero => simp only [escapeList, rList]; exact .inr trivial
    | succ g => simp only [escapeList, rList]; exact simr_same tn D e s c hed
  | .cons n ns, f, e, s, c, hf, hi, hci, hc, hed => by
    cases f with
    | zero => simp only [escapeList, rList]; exact .inr trivial
    | succ g =>
      have hg : g ≤ F := Nat.le_of_succ_le hf
      simp only [escapeList, rList]
      apply simg_bind (node_simr env F O D tn hx n g e s c hg hi hci hc hed)
      intro a a' hxa hR
      obtain ⟨e1, c1⟩ := a
      obtain ⟨s1, c1'⟩ := a'
      obtain ⟨hcc, hed1, hcal1⟩ := hR
      simp only [] at hcc hed1 hcal1
      subst hcc
      have hp1 := (analysis_m env F O g).1 hg _ _ _ _ _ hi hci hc hx.untr hxa
      obtain ⟨hci1, hc1⟩ := (Analysis.analysis_ctx ctxInv_closed env g).1 _ _ _ _ _ hci hc hxa
      exact simr_weaken (list_simr env F O D tn hx ns g e1 s1 c1' hg hp1.1 hci1 hc1 hed1) hcal1
end

/-! ### the reference run of a whole body, of `computeOutCtx`, of `escapeTemplateTop` -/

def rBody (env : Env) (cal : String → Out Ctx) (f : Nat) (tn : String) (c : Ctx) (root : NodeList) :
    Out (Ctx × Bool × Esc) :=
  match rList env cal f tn {} c root with
  | .ok (s, c1) => .ok (c1, c1.state != .error, s)
  | .panic m => .panic m
  | .fuel => .fuel

def rOut (env : Env) (cal : String → Out Ctx) (f : Nat) (tn : String) (c : Ctx) (root : NodeList) : Out (Ctx × Esc) :=
  match rBody env cal f tn c root with
  | .panic m => .panic m
  | .fuel => .fuel
  | .ok (c1, true, s) => .ok (c1, s)
  | .ok (c1, false, _) =>
    match rBody env cal f tn c1 root with
    | .panic m => .panic m
    | .fuel => .fuel
    | .ok (c2, true, s2) => .ok (c2, s2)
    | .ok (_, false, _) => .ok (if c1.state != .error then Ctx.errorCtx .outputContext else c1, {})

/-- the reference outcome of `escapeTemplateTop`: a function of the CSP flag, the validators, the fuel, the name, the
    tree and the original trees `D` of the callees only -/
def rTop (csp : Bool) (v : Validators) (F : Nat) (D : String → Option Tree) (name : String) (t : Tree) :
    Out (Option ErrCode × Option Tree) :=
  match rOut (cenv csp v) (calOf (cenv csp v) F D) (F - 3) name {} t.root with
  | .panic m => .panic m
  | .fuel => .fuel
  | .ok (cc, ss) => .ok (finalError cc, cfTree name ss t)

theorem rBody_eq (env : Env) (cal : String → Out Ctx) (f : Nat) (tn : String) (c : Ctx) (root : NodeList) :
    rBody env cal f tn c root = (rList env cal f tn {} c root >>= fun r => .ok (r.2, r.2.state != .error, r.1)) := by
  unfold rBody
  rcases rList env cal f tn {} c root with ⟨s, c1⟩ | m | _ <;> rfl

theorem rOut_eq (env : Env) (cal : String → Out Ctx) (f : Nat) (tn : String) (c : Ctx) (root : NodeList) :
    rOut env cal f tn c root =
      (rBody env cal f tn c root >>= fun a =>
        if a.2.1 then .ok (a.1, a.2.2)
        else rBody env cal f tn a.1 root >>= fun a2 =>
          if a2.2.1 then .ok (a2.1, a2.2.2)
          else .ok (if a.1.state != .error then Ctx.errorCtx .outputContext else a.1, {})) := by
  unfold rOut
  rcases rBody env cal f tn c root with ⟨c1, _ | _, s⟩ | m | _ <;> try rfl
  show _ = (rBody env cal f tn c1 root >>= fun a2 => if a2.2.1 then Out.ok (a2.1, a2.2.2)
    else .ok (if c1.state != .error then Ctx.errorCtx .outputContext else c1, {}))
  dsimp only
  rcases rBody env cal f tn c1 root with ⟨c2, _ | _, s2⟩ | m | _ <;> rfl

theorem edapp_nil {tn : String} {e e' : Esc} (h : EdSame tn e e') : EdApp tn e {} e' :=
  ⟨by rw [h.1]; exact (List.append_nil _).symm, by rw [h.2.1]; exact (List.append_nil _).symm,
    by rw [h.2.2]; exact (List.append_nil _).symm⟩

theorem EdApp.same_of_nil {tn : String} {e e' : Esc} (h : EdApp tn e {} e') : EdSame tn e e' :=
  ⟨h.1.trans (List.append_nil _), h.2.1.trans (List.append_nil _), h.2.2.trans (List.append_nil _)⟩

theorem SimG.of_ok {α β} {R : α → β → Prop} {x : Out α} {y : Out β} {a : α} (h : SimG R x y) (hx : x = .ok a) :
    y = .panic msgExcl ∨ ∃ b, y = .ok b ∧ R a b := by subst hx; exact h

theorem SimG.of_panic {α β} {R : α → β → Prop} {x : Out α} {y : Out β} {m : String} (h : SimG R x y)
    (hx : x = .panic m) : y = .panic msgExcl ∨ y = .panic m ∨ m = msgShared := by subst hx; exact h

theorem simg_map {α α' β} {R : α → β → Prop} {S : α' → β → Prop} {x : Out α} {y : Out β} {k : α → α'}
    (h : SimG R x y) (hk : ∀ a b, R a b → S (k a) b) : SimG S (x >>= fun a => .ok (k a)) y := by
  rcases h with h | h
  · exact .inl h
  · cases x with
    | ok a => obtain ⟨b, hy, hr⟩ := h; exact .inr ⟨b, hy, hk a b hr⟩
    | panic m => exact .inr h
    | fuel => exact .inr trivial

/-- a merge of edit lists in the real run appends, or panics with "node shared between templates" -/
theorem simg_merge {α β γ} {R : α → γ → Prop} (into from_ : List (EditKey × β)) {k : List (EditKey × β) → Out α}
    {y : Out γ} (h : SimG R (k (into ++ from_)) y) : SimG R (mergeEdits into from_ >>= k) y := by
  rcases Analysis.mergeEdits_cases from_ into with h1 | h1 <;> rw [h1]
  · exact h
  · exact .inr (.inr rfl)

section
variable (env : Env) (F : Nat) (O D : String → Option Tree) (tn : String) (hx : SimCtx O D tn)
include hx

/-- `escapeTemplateBody` on the template `tn`: the reference body run ends in the same context and with the same
    verdict; an accepted body puts the edits of the reference run behind those of `e` -/
theorem body_r (f : Nat) (hf : f + 1 ≤ F) (e : Esc) (c : Ctx) (t : Tree) (hi : MInv env F O e) (hci : CIall e)
    (hc : CtxInv c) :
    SimG (fun r r' => r'.1 = r.2.1 ∧ r'.2.1 = r.2.2 ∧ EdApp tn e (bif r.2.2 then r'.2.2 else {}) r.1)
      (escapeTemplateBody env (f + 1) e c tn (some t))
      (rBody (cenv env.csp env.v) (calOf env F D) f tn c t.root) := by
  rw [Analysis.escapeTemplateBody_succ, rBody_eq]
  refine simg_bind (list_simr env F O D tn hx t.root f _ {} c (Nat.le_of_succ_le hf)
    (minv_scratch (minv_setOut hi hx.untr c)) (ciall_setOut hci tn hc) hc ⟨rfl, rfl, rfl⟩) ?_
  rintro ⟨e1, c1r⟩ ⟨s1, c1⟩ _ ⟨hcc, hed, hcal⟩
  dsimp only at hcc hed hcal ⊢
  subst hcc
  -- the body does not call `tn` itself: `tn` is no callee, and the scratch escaper has called nothing
  have hcall : e1.called.contains tn = false := by
    cases hcn : e1.called.contains tn with
    | false => rfl
    | true =>
      rcases hcal tn (by simpa using hcn) with h3 | h3
      · cases h3
      · rw [hx.dtn] at h3; cases h3
  have hok : Analysis.bodyOk tn c e1 c1 = (c1.state != .error) := by
    unfold Analysis.bodyOk; rw [hcall]; exact Bool.and_true _
  rw [hok]
  generalize (c1.state != .error) = ok
  cases ok with
  | true =>
    rw [if_pos rfl]
    refine simg_merge _ _ (simg_merge _ _ (simg_merge _ _ ?_))
    exact .inr ⟨_, rfl, rfl, rfl, by show fk tn (_ ++ _) = _; rw [fk_append, hed.1]; rfl,
      by show fk tn (_ ++ _) = _; rw [fk_append, hed.2.1]; rfl, by show fk tn (_ ++ _) = _; rw [fk_append, hed.2.2]; rfl⟩
  | false =>
    rw [if_neg Bool.false_ne_true]
    exact .inr ⟨_, rfl, rfl, rfl, edapp_nil ⟨rfl, rfl, rfl⟩⟩

theorem out_r (f : Nat) (hf : f + 2 ≤ F) (e : Esc) (c : Ctx) (t : Tree) (hi : MInv env F O e) (hci : CIall e)
    (hc : CtxInv c) :
    SimG (fun r r' => r'.1 = r.2 ∧ EdApp tn e r'.2 r.1) (computeOutCtx env (f + 2) e c tn (some t))
      (rOut (cenv env.csp env.v) (calOf env F D) f tn c t.root) := by
  rw [Analysis.computeOutCtx_succ, rOut_eq]
  refine simg_bind (body_r env F O D tn hx f (by omega) e c t hi hci hc) ?_
  rintro ⟨e1, c1r, ok1r⟩ ⟨c1, ok1, s1⟩ h1 ⟨hc', hok', ha1⟩
  dsimp only at hc' hok'
  subst hc' hok'
  have hp1 := (analysis_m env F O (f + 1)).2.2.2.2.2 (by omega) _ _ _ _ _ hi hci hc hx.untr h1
  obtain ⟨hci1, hc1⟩ := (Analysis.analysis_ctx ctxInv_closed env (f + 1)).2.2.2.2.2 _ _ _ _ _ hci hc h1
  dsimp only at ha1 hp1 hci1 hc1 ⊢
  cases ok1 with
  | true => rw [if_pos rfl, if_pos rfl]; exact .inr ⟨_, rfl, rfl, ha1⟩
  | false =>
    rw [if_neg Bool.false_ne_true, if_neg Bool.false_ne_true]
    have hs1 : EdSame tn e e1 := ha1.same_of_nil
    refine simg_bind (body_r env F O D tn hx f (by omega) e1 c1 t hp1.1 hci1 hc1) ?_
    rintro ⟨e2, c2r, ok2r⟩ ⟨c2, ok2, s2⟩ _ ⟨hc', hok', ha2⟩
    dsimp only at hc' hok'
    subst hc' hok'
    dsimp only at ha2 ⊢
    cases ok2 with
    | true => rw [if_pos rfl, if_pos rfl]; exact .inr ⟨_, rfl, rfl, hs1.app ha2⟩
    | false =>
      rw [if_neg Bool.false_ne_true, if_neg Bool.false_ne_true]
      have hs2 : EdApp tn e {} e2 := edapp_nil (hs1.trans ha2.same_of_nil)
      by_cases hs : (c1.state != .error) = true
      · rw [if_pos hs, if_pos hs]; exact .inr ⟨_, rfl, rfl, hs2⟩
      · rw [if_neg hs, if_neg hs]; exact .inr ⟨_, rfl, rfl, hs2⟩

end

/-- with fuel `F` the tree analysis reaches the body's list with `F - 3` -/
theorem tree_r (env : Env) (F : Nat) (O D : String → Option Tree) (name : String) (hx : SimCtx O D name) (e : Esc)
    (t : Tree) (hl : env.text.lookup name = some (some t)) (hm : alookup e.output name = none)
    (hi : MInv env F O e) (hci : CIall e) :
    SimG (fun r r' => r'.1 = r.2.1 ∧ EdApp name e r'.2 r.1) (escapeTree env F e {} name)
      (rOut (cenv env.csp env.v) (calOf env F D) (F - 3) name {} t.root) := by
  have ht : e.template env name = some (some t) := by unfold Esc.template; rw [hl]
  match F, hi with
  | 0, _ => rw [Analysis.escapeTree_zero]; exact .inr trivial
  | 1, _ => rw [Analysis.escapeTree_text _ _ _ _ hm, ht]; dsimp only; rw [Analysis.computeOutCtx_zero]; exact .inr trivial
  | 2, _ =>
    rw [Analysis.escapeTree_text _ _ _ _ hm, ht]; dsimp only
    rw [Analysis.computeOutCtx_succ, Analysis.escapeTemplateBody_zero]; exact .inr trivial
  | f + 3, hi =>
    rw [Analysis.escapeTree_text _ _ _ _ hm, ht]
    exact simg_map (k := fun r => (r.1, r.2, name)) (S := fun r r' => r'.1 = r.2.1 ∧ EdApp name e r'.2 r.1)
      (out_r env (f + 3) O D name hx f (by omega) (Analysis.miss e {} name) {} t ⟨hi.dd, hi.lk, hi.mc⟩
        (fun p hp => hci p hp) ctxInv_default) fun _ _ h => h


/-! ### the reference analysis never creates a template edit -/

theorem r_tmplEdits (env : Env) (cal : String → Out Ctx) : ∀ f,
    (∀ n tn s c (r : Esc × Ctx), rNode env cal f tn s c n = .ok r → r.1.tmplEdits = s.tmplEdits) ∧
    (∀ l tn s c (r : Esc × Ctx), rList env cal f tn s c l = .ok r → r.1.tmplEdits = s.tmplEdits) ∧
    (∀ t el tn s c b (r : Esc × Ctx), rBranch env cal f tn s c t el b = .ok r → r.1.tmplEdits = s.tmplEdits) := by
  intro f
  induction f with
  | zero =>
    refine ⟨fun _ _ _ _ _ h => ?_, fun _ _ _ _ _ h => ?_, fun _ _ _ _ _ _ _ h => ?_⟩
    · simp only [rNode] at h; cases h
    · simp only [rList] at h; cases h
    · simp only [rBranch] at h; cases h
  | succ f ih =>
    obtain ⟨hn, hl, hb⟩ := ih
    refine ⟨fun n tn s c r h => ?_, fun l tn s c r h => ?_, fun t el tn s c b r h => ?_⟩
    · cases n with
      | text id b => simp only [rNode] at h; exact (escapeTextNode_ek h).2.1
      | action id p => simp only [rNode] at h; exact (escapeAction_ek h).2.1
      | tmpl id name p =>
        simp only [rNode] at h
        split at h
        · cases h; rfl
        · split at h
          · obtain ⟨ch, _, h2⟩ := Analysis.bind_ok h
            cases h2; rfl
          · cases h
      | ifN id p t el => simp only [rNode] at h; exact hb t el tn s c false r h
      | rangeN id p t el => simp only [rNode] at h; exact hb t el tn s c true r h
      | withN id p t el => simp only [rNode] at h; exact hb t el tn s c false r h
      | brk id => simp only [rNode] at h; cases h; rfl
      | cont id => simp only [rNode] at h; cases h; rfl
      | comment id => simp only [rNode] at h; cases h; rfl
    · cases l with
      | nil => simp only [rList] at h; cases h; rfl
      | cons n ns =>
        simp only [rList] at h
        obtain ⟨⟨s1, c1⟩, h1, h2⟩ := Analysis.bind_ok h
        exact (hl ns tn s1 c1 r h2).trans (hn n tn s c _ h1)
    · simp only [rBranch] at h
      obtain ⟨⟨s1, c0⟩, h1, h2⟩ := Analysis.bind_ok h
      have hk1 := hl t tn s c _ h1
      simp only [] at hk1 h2
      obtain ⟨j, _, h3⟩ := Analysis.bind_ok h2
      cases j with
      | some jc =>
        simp only [] at h3
        split at h3
        · cases h3; exact hk1
        · obtain ⟨⟨s2, c1⟩, h4, h5⟩ := Analysis.bind_ok h3
          cases h5
          exact (hl el tn s1 c (s2, c1) h4).trans hk1
      | none =>
        simp only [] at h3
        obtain ⟨⟨s2, c1⟩, h4, h5⟩ := Analysis.bind_ok h3
        cases h5
        exact (hl el tn s1 c (s2, c1) h4).trans hk1

theorem icr_rNode_tmplEdits (env : Env) (cal : String → Out Ctx) : ∀ (n : Node) (f : Nat) (tn : String) (s : Esc)
    (c : Ctx) (r : Esc × Ctx), rNode env cal f tn s c n = .ok r → r.1.tmplEdits = s.tmplEdits :=
  fun n f => (r_tmplEdits env cal f).1 n

theorem rList_tmplEdits (env : Env) (cal : String → Out Ctx) : ∀ (l : NodeList) (f : Nat) (tn : String) (s : Esc) (c : Ctx)
    (r : Esc × Ctx), rList env cal f tn s c l = .ok r → r.1.tmplEdits = s.tmplEdits :=
  fun l f => (r_tmplEdits env cal f).2.1 l
theorem icr_rBody_tmplEdits (env : Env) (cal : String → Out Ctx) (f : Nat) (tn : String) (c : Ctx) (root : NodeList)
    (c1 : Ctx) (b : Bool) (s : Esc) (h : rBody env cal f tn c root = .ok (c1, b, s)) : s.tmplEdits = [] := by
  unfold rBody at h
  cases hS : rList env cal f tn {} c root with
  | fuel => rw [hS] at h; cases h
  | panic m => rw [hS] at h; cases h
  | ok a =>
    obtain ⟨s', c'⟩ := a
    rw [hS] at h
    cases h
    exact rList_tmplEdits env cal root f tn {} c _ hS

theorem rOut_tmplEdits (env : Env) (cal : String → Out Ctx) (f : Nat) (tn : String) (c : Ctx) (root : NodeList)
    (c' : Ctx) (ss : Esc) (h : rOut env cal f tn c root = .ok (c', ss)) : ss.tmplEdits = [] := by
  unfold rOut at h
  cases hB : rBody env cal f tn c root with
  | fuel => rw [hB] at h; cases h
  | panic m => rw [hB] at h; cases h
  | ok a =>
    obtain ⟨c1, b, s⟩ := a
    rw [hB] at h
    cases b with
    | true =>
      cases h
      exact icr_rBody_tmplEdits env cal f tn c root _ _ _ hB
    | false =>
      simp only [] at h
      cases hB2 : rBody env cal f tn c1 root with
      | fuel => rw [hB2] at h; cases h
      | panic m => rw [hB2] at h; cases h
      | ok a2 =>
        obtain ⟨c2, b2, s2⟩ := a2
        rw [hB2] at h
        cases b2 with
        | true =>
          cases h
          exact icr_rBody_tmplEdits env cal f tn c1 root _ _ _ hB2
        | false =>
          cases h
          rfl

/-! ### conjunction of two call-set predicates -/

theorem callsIn_and (A B : String → Prop) :
    NodeCases (fun n => nodeCallsIn A n → nodeCallsIn B n → nodeCallsIn (fun h => A h ∧ B h) n)
      (fun l => listCallsIn A l → listCallsIn B l → listCallsIn (fun h => A h ∧ B h) l) where
  text _ _ _ _ := by simp only [nodeCallsIn]
  action _ _ _ _ := by simp only [nodeCallsIn]
  tmpl _ name _ ha hb := by simp only [nodeCallsIn] at ha hb ⊢; exact ⟨ha, hb⟩
  branch hb t el ht hel ha hb' :=
    (hb.callsIn t el _).mpr ⟨ht ((hb.callsIn t el A).mp ha).1 ((hb.callsIn t el B).mp hb').1,
      hel ((hb.callsIn t el A).mp ha).2 ((hb.callsIn t el B).mp hb').2⟩
  stop hs _ _ := hs.callsIn _
  nil _ _ := by simp only [listCallsIn]
  cons n ns hn hns ha hb := by
    simp only [listCallsIn] at ha hb ⊢
    exact ⟨hn ha.1 hb.1, hns ha.2 hb.2⟩

theorem icr_nodeCallsIn_and (A B : String → Prop) : ∀ n : Node, nodeCallsIn A n → nodeCallsIn B n →
    nodeCallsIn (fun h => A h ∧ B h) n :=
  (callsIn_and A B).node

theorem listCallsIn_and (A B : String → Prop) : ∀ l : NodeList, listCallsIn A l → listCallsIn B l →
    listCallsIn (fun h => A h ∧ B h) l :=
  (callsIn_and A B).list

/-! ### `escapeTemplateTop` on a template with text-context calls is determined by the reference run -/

theorem calOf_cenv (env : Env) (F : Nat) (D : String → Option Tree) :
    calOf env F D = calOf (cenv env.csp env.v) F D := rfl

theorem top_r (w : World) (n : Nat) (name : String) (t : Tree) (D : String → Option Tree)
    (hinv : NSInv w.v w.fuel (w.ns n)) (hai : AI (w.ns n))
    (hx : SimCtx (origT (w.ns n).text (w.ns n).esc) D name) (hnd : NoDollar name)
    (hl : (w.ns n).text.lookup name = some (some t)) (hm : alookup (w.ns n).esc.output name = none)
    (w' : World) (code : Option ErrCode) (h : escapeTemplateTop w n name = .inr (w', code)) :
    rTop (w.ns n).csp w.v w.fuel D name t = .panic msgExcl ∨
    ∃ T, rTop (w.ns n).csp w.v w.fuel D name t = .ok (code, T) ∧
      (code = none → ∃ T', T = some T' ∧ (w'.ns n).text.lookup name = some (some T')) := by
  obtain ⟨e1, c1, nm, htree, hr⟩ := top_inr h
  have htree : escapeTree (nsEnv w.v (w.ns n)) w.fuel (w.ns n).esc {} name = .ok (e1, c1, nm) := htree
  have hpost := (analysis_m (nsEnv w.v (w.ns n)) w.fuel _ w.fuel).2.2.2.1 (Nat.le_refl _) _ _ _ _ hinv.mi hinv.ci
    ctxInv_default htree
  unfold rTop
  rcases (tree_r (nsEnv w.v (w.ns n)) w.fuel _ D name hx (w.ns n).esc t hl hm hinv.mi hinv.ci).of_ok htree with
    hex | ⟨⟨cc, ss⟩, hout, hcc, happ⟩
  · left
    rw [calOf_cenv] at hex
    rw [hex]
  · right
    rw [calOf_cenv] at hout
    dsimp only at hcc
    subst hcc
    simp only [] at hout happ hpost
    rw [hout]
    rcases hr with ⟨cd, hfe, rfl, _⟩ | ⟨text2, e2, hfe, hcm, rfl, rfl⟩
    · exact ⟨cfTree name ss t, (by dsimp only; rw [hfe]), (by intro hc; cases hc)⟩
    · obtain ⟨z1, z2, z3⟩ := fk_nil_of_km (w.ns n).esc name hai.2.2.2.1.2.2.1 (not_memo_of_lookup hm)
      obtain ⟨y1, y2, y3⟩ := happ
      rw [z1, List.nil_append] at y1
      rw [z2, List.nil_append] at y2
      rw [z3, List.nil_append] at y3
      obtain ⟨T, hT, hl2⟩ := commit_fk (w.ns n).text ss e1 name t text2 e2 hcm hl
        (fun p hp he => hpost.1.dd p hp (he ▸ hnd)) y1 y2 y3
      refine ⟨cfTree name ss t, (by dsimp only; rw [hfe]), fun _ => ⟨T, hT, ?_⟩⟩
      rw [ns_markOk, if_pos rfl]
      exact hl2

theorem top_r_panic (w : World) (n : Nat) (name : String) (t : Tree) (D : String → Option Tree)
    (hinv : NSInv w.v w.fuel (w.ns n))
    (hx : SimCtx (origT (w.ns n).text (w.ns n).esc) D name)
    (hl : (w.ns n).text.lookup name = some (some t)) (hm : alookup (w.ns n).esc.output name = none)
    (m : String) (h : escapeTemplateTop w n name = .inl (.panic m)) :
    rTop (w.ns n).csp w.v w.fuel D name t = .panic msgExcl ∨
    rTop (w.ns n).csp w.v w.fuel D name t = .panic m ∨ m = msgShared ∨ m = msgArgs ∨ m = msgCommit := by
  unfold rTop
  rcases top_inl h with ⟨_, hx⟩ | ⟨m', htree, hx⟩ | ⟨e1, c1, d, _, _, ⟨_, hx⟩ | ⟨m', hcm, hx⟩⟩
  · cases hx
  · cases hx
    rcases (tree_r (nsEnv w.v (w.ns n)) w.fuel _ D name hx (w.ns n).esc t hl hm hinv.mi hinv.ci).of_panic htree with
      h1 | h1 | h1
    · left; rw [calOf_cenv] at h1; rw [h1]
    · right; left; rw [calOf_cenv] at h1; rw [h1]
    · exact .inr (.inr (.inl h1))
  · cases hx
  · cases hx
    exact .inr (.inr (.inr (commit_panic hcm).symm))

theorem top_r_cls (w : World) (n : Nat) (name : String) (t : Tree) (D : String → Option Tree)
    (hinv : NSInv w.v w.fuel (w.ns n)) (hai : AI (w.ns n))
    (hx : SimCtx (origT (w.ns n).text (w.ns n).esc) D name) (hnd : NoDollar name)
    (hl : (w.ns n).text.lookup name = some (some t)) (hm : alookup (w.ns n).esc.output name = none)
    (hex : rTop (w.ns n).csp w.v w.fuel D name t ≠ .panic msgExcl)
    (hnf : escapeTemplateTop w n name ≠ .inl .fuel) (hc08 : NoC08 (escapeTemplateTop w n name)) :
    cls (escapeTemplateTop w n name) = cfCls (rTop (w.ns n).csp w.v w.fuel D name t) := by
  cases hres : escapeTemplateTop w n name with
  | inr p =>
    obtain ⟨w', code⟩ := p
    rcases top_r w n name t D hinv hai hx hnd hl hm w' code hres with h1 | ⟨T, hT, _⟩
    · exact absurd h1 hex
    · rw [hT]; rfl
  | inl r =>
    rcases top_inl_res hres with rfl | ⟨m, rfl⟩
    · exact absurd hres hnf
    · obtain ⟨h1, h2, h3⟩ := hc08 m hres
      rcases top_r_panic w n name t D hinv hx hl hm m hres with h | h | h | h | h
      · exact absurd h hex
      · rw [h]; rfl
      · exact absurd h h1
      · exact absurd h h2
      · exact absurd h h3

/-! ## history independence of the first analysis of a template with text-context calls -/

theorem cEd_cenv (env : Env) (F : Nat) (h : String) (th : Tree) :
    cEd env F h th = cEd (cenv env.csp env.v) F h th := rfl

theorem tstate_tree (env : Env) (F : Nat) (text : TextSet) (e : Esc) (h : String) (th : Tree)
    (hts : TState env F text e h th) (ha : e.actionEdits = []) (ht : e.tmplEdits = []) (hx : e.textEdits = []) :
    ∃ T, cfTree h (cEd env F h th) th = some T ∧ text.lookup h = some (some T) := by
  rcases hts with ⟨hl, h1, h2, h3⟩ | ⟨T, hT, hl, _⟩
  · refine ⟨th, ?_, hl⟩
    rw [ha] at h1; rw [ht] at h2; rw [hx] at h3
    unfold cfTree editNames
    rw [← h1, ← h2, ← h3]
    simp [fk_nil]
  · exact ⟨T, hT, hl⟩

theorem top_ok_fields (w w' : World) (n : Nat) (name : String) (h : escapeTemplateTop w n name = .inr (w', none)) :
    (w'.ns n).esc.actionEdits = [] ∧ (w'.ns n).esc.tmplEdits = [] ∧ (w'.ns n).esc.textEdits = [] ∧
    (w'.ns n).csp = (w.ns n).csp := by
  obtain ⟨env, e1, c, d, _, _, hr⟩ := escapeTemplateTop_spec_env w n name w' none h
  rcases hr with ⟨code, hc, _⟩ | ⟨text2, e2, _, _, hc, hns⟩
  · cases hc
  · obtain ⟨_, a, b, c', _⟩ := commit_post _ _ _ _ hc
    rw [hns]
    exact ⟨a, b, c', rfl⟩

theorem callee_tree (w w' : World) (n : Nat) (name : String) (hinv : NSInv w.v w.fuel (w.ns n)) (hai : AI (w.ns n))
    (h : escapeTemplateTop w n name = .inr (w', none)) (x : String) (th : Tree) (hnd : NoDollar x)
    (ho : origT (w.ns n).text (w.ns n).esc x = some th) (hnc : listNoCalls th.root) (hm : Memo (w'.ns n).esc x) :
    ∃ T, cfTree x (cEd (cenv (w.ns n).csp w.v) w.fuel x th) th = some T ∧
      (w'.ns n).text.lookup x = some (some T) := by
  have hinv' := (nsinv_top w w' n name none hinv hai h).1
  obtain ⟨hf, hv, _, _⟩ := fields_top h
  obtain ⟨a, b, c, hcsp⟩ := top_ok_fields w w' n name h
  have ht : Trk (origT (w'.ns n).text (w'.ns n).esc) x th :=
    ⟨hnd, by rw [(nsinv_top w w' n name none hinv hai h).2 x hnd]; exact ho, hnc⟩
  obtain ⟨T, hT, hl⟩ := tstate_tree _ _ _ _ x th (hinv'.ts x th ht hm) a b c
  refine ⟨T, ?_, hl⟩
  rw [cEd_cenv] at hT
  simp only [] at hT
  rw [hv, hf, hcsp] at hT
  exact hT

/-- the callees `D` (name ↦ original tree): call-free templates without `$` whose original tree in name space `n` of
    `w` is the one `D` gives -/
def CalleesOK (D : String → Option Tree) (w : World) (n : Nat) : Prop :=
  ∀ h th, D h = some th → NoDollar h ∧ listNoCalls th.root ∧ origT (w.ns n).text (w.ns n).esc h = some th

theorem origT_unmemo (v : Validators) (F : Nat) (n : NS) (hinv : NSInv v F n) (name : String) (t : Tree)
    (hm : alookup n.esc.output name = none) (hl : n.text.lookup name = some (some t)) :
    origT n.text n.esc name = some t := by
  unfold origT
  cases hp : alookup n.esc.pristine name with
  | some p =>
    have := hinv.pm _ (Analysis.mem_of_alookup _ _ _ hp)
    unfold Memo at this
    simp only [] at this
    rw [hm] at this
    cases this
  | none => simp only [hl]

theorem simctx_of (v : Validators) (F : Nat) (n : NS) (hinv : NSInv v F n) (name : String) (t : Tree)
    (D : String → Option Tree) (hm : alookup n.esc.output name = none) (hl : n.text.lookup name = some (some t))
    (hnc : ¬ listNoCalls t.root) (hDn : D name = none)
    (hD : ∀ h th, D h = some th → NoDollar h ∧ listNoCalls th.root ∧ origT n.text n.esc h = some th) :
    SimCtx (origT n.text n.esc) D name := by
  refine ⟨?_, hDn, fun h th hd => ⟨(hD h th hd).1, (hD h th hd).2.2, (hD h th hd).2.1⟩⟩
  intro th ht
  have h1 := ht.2.1
  rw [origT_unmemo v F n hinv name t hm hl] at h1
  cases h1
  exact hnc ht.2.2

/-- **C06, first half, for templates whose `{{template}}` calls are in the plain text context and whose callees are
    call-free** (abstract hypotheses: the invariants of reachable worlds). -/
theorem C06_textcalls_independent (w1 w2 : World) (n1 n2 : Nat) (name : String) (t : Tree) (D : String → Option Tree)
    (hinv1 : NSInv w1.v w1.fuel (w1.ns n1)) (hinv2 : NSInv w2.v w2.fuel (w2.ns n2))
    (hai1 : AI (w1.ns n1)) (hai2 : AI (w2.ns n2)) (hg1 : GoodNs (w1.ns n1)) (hg2 : GoodNs (w2.ns n2))
    (hl1 : (w1.ns n1).text.lookup name = some (some t)) (hl2 : (w2.ns n2).text.lookup name = some (some t))
    (hm1 : alookup (w1.ns n1).esc.output name = none) (hm2 : alookup (w2.ns n2).esc.output name = none)
    (hnd : NoDollar name) (hDn : D name = none) (hnc : ¬ listNoCalls t.root)
    (hD1 : CalleesOK D w1 n1) (hD2 : CalleesOK D w2 n2)
    (hcallees : listCallsIn (fun h => (D h).isSome = true) t.root)
    (hf : w1.fuel = w2.fuel) (hv : w1.v = w2.v) (hcsp : (w1.ns n1).csp = (w2.ns n2).csp)
    (hex : rTop (w1.ns n1).csp w1.v w1.fuel D name t ≠ .panic msgExcl)
    (hnf1 : escapeTemplateTop w1 n1 name ≠ .inl .fuel) (hnf2 : escapeTemplateTop w2 n2 name ≠ .inl .fuel)
    (hx1 : NoC08 (escapeTemplateTop w1 n1 name)) (hx2 : NoC08 (escapeTemplateTop w2 n2 name)) :
    cls (escapeTemplateTop w1 n1 name) = cls (escapeTemplateTop w2 n2 name) ∧
    ∀ w1' w2', escapeTemplateTop w1 n1 name = .inr (w1', none) → escapeTemplateTop w2 n2 name = .inr (w2', none) →
      ∀ (o1 o2 : TObj) (d : Value), o1.ns = n1 → o1.name = name → o2.ns = n2 → o2.name = name →
        o1.registered = o2.registered → textExecute w1' o1 d = textExecute w2' o2 d := by
  have hs1 := simctx_of _ _ _ hinv1 name t D hm1 hl1 hnc hDn hD1
  have hs2 := simctx_of _ _ _ hinv2 name t D hm2 hl2 hnc hDn hD2
  have hex2 : rTop (w2.ns n2).csp w2.v w2.fuel D name t ≠ .panic msgExcl := by rw [← hcsp, ← hv, ← hf]; exact hex
  refine ⟨?_, ?_⟩
  · rw [top_r_cls w1 n1 name t D hinv1 hai1 hs1 hnd hl1 hm1 hex hnf1 hx1,
      top_r_cls w2 n2 name t D hinv2 hai2 hs2 hnd hl2 hm2 hex2 hnf2 hx2, hf, hv, hcsp]
  · intro w1' w2' h1 h2 o1 o2 d ho1 hn1 ho2 hn2 hreg
    rcases top_r w1 n1 name t D hinv1 hai1 hs1 hnd hl1 hm1 w1' none h1 with he | ⟨T1, hT1, hk1⟩
    · exact absurd he hex
    rcases top_r w2 n2 name t D hinv2 hai2 hs2 hnd hl2 hm2 w2' none h2 with he | ⟨T2, hT2, hk2⟩
    · exact absurd he hex2
    rw [hf, hv, hcsp, hT2] at hT1
    simp only [Out.ok.injEq, Prod.mk.injEq, true_and] at hT1
    subst hT1
    obtain ⟨T', hT', hlk1⟩ := hk1 rfl
    obtain ⟨T'', hT'', hlk2⟩ := hk2 rfl
    rw [hT'] at hT''
    cases hT''
    -- the committed tree calls only callees in `D`
    have hcT : listCallsIn (fun h => (D h).isSome = true) T'.root := by
      unfold rTop at hT2
      split at hT2
      · cases hT2
      · cases hT2
      · rename_i cc ss hro
        simp only [Out.ok.injEq, Prod.mk.injEq] at hT2
        exact cfTree_calls _ name ss t T' (rOut_tmplEdits _ _ _ _ _ _ cc ss hro) hcallees (hT2.2.trans hT')
    -- and, in both worlds, only memoized names
    have hst1 := settled_after_own_analysis w1 w1' n1 hg1 { ns := n1, name := name } rfl h1
    have hst2 := settled_after_own_analysis w2 w2' n2 hg2 { ns := n2, name := name } rfl h2
    have hc1 : listCallsIn (MemoOk (w1'.ns n1).esc) T'.root := hst1.2.1 name hst1.2.2 T' hlk1
    have hc2 : listCallsIn (MemoOk (w2'.ns n2).esc) T'.root := hst2.2.1 name hst2.2.2 T' hlk2
    have hcC := listCallsIn_and _ _ _ (listCallsIn_and _ _ _ hcT hc1) hc2
    obtain ⟨hf1, _⟩ := fields_top h1
    obtain ⟨hf2, _⟩ := fields_top h2
    subst ho1 ho2
    refine exec_calls w1' w2' o1 o2 d _ T' hreg (by rw [hf1, hf2, hf]) (by rw [hn1]; exact hlk1)
      (by rw [hn2]; exact hlk2) hcC ?_
    intro h hC
    obtain ⟨⟨hd, hmm1⟩, hmm2⟩ := hC
    cases hDh : D h with
    | none => rw [hDh] at hd; cases hd
    | some th =>
      obtain ⟨a1, b1, c1⟩ := hD1 h th hDh
      obtain ⟨_, _, c2⟩ := hD2 h th hDh
      obtain ⟨Th1, hTh1, hlh1⟩ := callee_tree w1 w1' o1.ns name hinv1 hai1 h1 h th a1 c1 b1 hmm1.memo
      obtain ⟨Th2, hTh2, hlh2⟩ := callee_tree w2 w2' o2.ns name hinv2 hai2 h2 h th a1 c2 b1 hmm2.memo
      rw [hcsp, hv, hf, hTh2] at hTh1
      have hTT : Th2 = Th1 := by injection hTh1
      subst hTT
      exact ⟨Th2, hlh1, hlh2, nocalls_callsIn _ _ (cfTree_nc h _ th Th2 b1 hTh2)⟩

/-- **C06, first half, calls in the plain text context, reachable worlds.** `w1`, `w2`: any two worlds built by well-formed operations
    (`ReachableC`: parsed trees parser-shaped, `CSPCompatible()` only before the first execution). `name` has the same
    installed tree `t` in name space `n1` of `w1` and `n2` of `w2` and has been analysed in neither; every
    `{{template}}` node of `t` calls a name in `D`; every callee in `D` has no `$` in its name and the same call-free
    ORIGINAL tree in both worlds (`origT`: the tree before any commit rewrote it) — whether or not it has already
    been analysed (memo hit) in either world; the reference analysis `rTop` of `t` does not report `msgExcl`, i.e. all
    calls happen in the plain text context `{}`; neither analysis runs out of model fuel. Then `escapeTemplate`
    reports the same outcome class in both worlds, and after a success `name` executes identically on every input. -/
theorem C06_textcalls_reachable (w1 w2 : World) (hr1 : ReachableC w1) (hr2 : ReachableC w2) (n1 n2 : Nat)
    (name : String) (t : Tree) (D : String → Option Tree)
    (hl1 : (w1.ns n1).text.lookup name = some (some t)) (hl2 : (w2.ns n2).text.lookup name = some (some t))
    (hm1 : alookup (w1.ns n1).esc.output name = none) (hm2 : alookup (w2.ns n2).esc.output name = none)
    (hnd : NoDollar name) (hDn : D name = none)
    (hD1 : CalleesOK D w1 n1) (hD2 : CalleesOK D w2 n2)
    (hcallees : listCallsIn (fun h => (D h).isSome = true) t.root)
    (hf : w1.fuel = w2.fuel) (hv : w1.v = w2.v) (hcsp : (w1.ns n1).csp = (w2.ns n2).csp)
    (hex : rTop (w1.ns n1).csp w1.v w1.fuel D name t ≠ .panic msgExcl)
    (hnf1 : escapeTemplateTop w1 n1 name ≠ .inl .fuel) (hnf2 : escapeTemplateTop w2 n2 name ≠ .inl .fuel) :
    cls (escapeTemplateTop w1 n1 name) = cls (escapeTemplateTop w2 n2 name) ∧
    ∀ w1' w2', escapeTemplateTop w1 n1 name = .inr (w1', none) → escapeTemplateTop w2 n2 name = .inr (w2', none) →
      ∀ (o1 o2 : TObj) (d : Value), o1.ns = n1 → o1.name = name → o2.ns = n2 → o2.name = name →
        o1.registered = o2.registered → textExecute w1' o1 d = textExecute w2' o2 d := by
  by_cases hnc : listNoCalls t.root
  · exact C06_callfree_reachable w1 w2 hr1.reachableP hr2.reachableP n1 n2 name t hl1 hl2 hnc hm1 hm2 hf hv hcsp
  · exact C06_textcalls_independent w1 w2 n1 n2 name t D (nsinv_reachable w1 hr1 n1) (nsinv_reachable w2 hr2 n2)
      (winv_reachable w1 hr1.reachableP n1).2 (winv_reachable w2 hr2.reachableP n2).2
      ((invR_reachable w1 hr1.reachableP.reachable0.reachable).1.1 n1)
      ((invR_reachable w2 hr2.reachableP.reachable0.reachable).1.1 n2)
      hl1 hl2 hm1 hm2 hnd hDn hnc hD1 hD2 hcallees hf hv hcsp hex hnf1 hnf2
      (noC08_reachable w1 hr1.reachableP n1 name) (noC08_reachable w2 hr2.reachableP n2 name)

/-! ## history independence at the level of `Api.step` (`ExecuteTemplate`) -/

/-- handle `h` denotes an object of name space `n`, in which `name` is a registered template object that has not been
    executed -/
structure ExecReady (w : World) (h : Nat) (n : Nat) (name : String) : Prop where
  obj : ∃ id o, w.obj h = some (id, o) ∧ o.ns = n
  tmpl : ∃ tid t, alookup (w.ns n).set name = some tid ∧ nlookup w.objs tid = some t ∧ t.status = .unset ∧
    t.registered = true ∧ t.ns = n ∧ t.name = name

/-- the world in which `ExecuteTemplate` runs the analysis: the `escaped` flag of the name space is set -/
def ics_wE (w : World) (n : Nat) : World := w.setNs n { w.ns n with escaped := true }

theorem ics_ns (w : World) (n : Nat) : (ics_wE w n).ns n = { w.ns n with escaped := true } :=
  ns_setNs_same _ _ _

/-- `C06_textcalls_reachable` for the two flag-set worlds -/
theorem ics_top (w1 w2 : World) (hr1 : ReachableC w1) (hr2 : ReachableC w2) (n1 n2 : Nat)
    (name : String) (t : Tree) (D : String → Option Tree)
    (hl1 : (w1.ns n1).text.lookup name = some (some t)) (hl2 : (w2.ns n2).text.lookup name = some (some t))
    (hm1 : alookup (w1.ns n1).esc.output name = none) (hm2 : alookup (w2.ns n2).esc.output name = none)
    (hnd : NoDollar name) (hDn : D name = none)
    (hD1 : CalleesOK D w1 n1) (hD2 : CalleesOK D w2 n2)
    (hcallees : listCallsIn (fun h => (D h).isSome = true) t.root)
    (hf : w1.fuel = w2.fuel) (hv : w1.v = w2.v) (hcsp : (w1.ns n1).csp = (w2.ns n2).csp)
    (hex : rTop (w1.ns n1).csp w1.v w1.fuel D name t ≠ .panic msgExcl)
    (hnf1 : escapeTemplateTop (ics_wE w1 n1) n1 name ≠ .inl .fuel)
    (hnf2 : escapeTemplateTop (ics_wE w2 n2) n2 name ≠ .inl .fuel) :
    cls (escapeTemplateTop (ics_wE w1 n1) n1 name) = cls (escapeTemplateTop (ics_wE w2 n2) n2 name) ∧
    ∀ w1' w2', escapeTemplateTop (ics_wE w1 n1) n1 name = .inr (w1', none) →
      escapeTemplateTop (ics_wE w2 n2) n2 name = .inr (w2', none) →
      ∀ (o1 o2 : TObj) (d : Value), o1.ns = n1 → o1.name = name → o2.ns = n2 → o2.name = name →
        o1.registered = o2.registered → textExecute w1' o1 d = textExecute w2' o2 d := by
  have hw1 : WInv (ics_wE w1 n1) := winv_setEscaped w1 n1 (winv_reachable w1 hr1.reachableP)
  have hw2 : WInv (ics_wE w2 n2) := winv_setEscaped w2 n2 (winv_reachable w2 hr2.reachableP)
  have hn1 := ics_ns w1 n1
  have hn2 := ics_ns w2 n2
  have hx1 : NoC08 (escapeTemplateTop (ics_wE w1 n1) n1 name) := noC08_of_winv hw1 n1 name
  have hx2 : NoC08 (escapeTemplateTop (ics_wE w2 n2) n2 name) := noC08_of_winv hw2 n2 name
  have hg1 : GoodNs ((ics_wE w1 n1).ns n1) := by
    rw [hn1]; exact (invR_reachable w1 hr1.reachableP.reachable0.reachable).1.1 n1
  have hg2 : GoodNs ((ics_wE w2 n2).ns n2) := by
    rw [hn2]; exact (invR_reachable w2 hr2.reachableP.reachable0.reachable).1.1 n2
  have hl1' : ((ics_wE w1 n1).ns n1).text.lookup name = some (some t) := by rw [hn1]; exact hl1
  have hl2' : ((ics_wE w2 n2).ns n2).text.lookup name = some (some t) := by rw [hn2]; exact hl2
  have hm1' : alookup ((ics_wE w1 n1).ns n1).esc.output name = none := by rw [hn1]; exact hm1
  have hm2' : alookup ((ics_wE w2 n2).ns n2).esc.output name = none := by rw [hn2]; exact hm2
  have hcsp' : ((ics_wE w1 n1).ns n1).csp = ((ics_wE w2 n2).ns n2).csp := by rw [hn1, hn2]; exact hcsp
  by_cases hnc : listNoCalls t.root
  · exact C06_callfree_independent (ics_wE w1 n1) (ics_wE w2 n2) n1 n2 name t hl1' hl2' hnc
      (quiet_of _ name hm1' ((hw1 n1).2.2.2.2.1.2.2.1) hg1.2.1)
      (quiet_of _ name hm2' ((hw2 n2).2.2.2.2.1.2.2.1) hg2.2.1) hf hv hcsp' hx1 hx2
  · have hinv1 : NSInv (ics_wE w1 n1).v (ics_wE w1 n1).fuel ((ics_wE w1 n1).ns n1) :=
      nsinv_congr w1.v w1.fuel (w1.ns n1) _ (by rw [hn1]) (by rw [hn1]) (by rw [hn1]) (nsinv_reachable w1 hr1 n1)
    have hinv2 : NSInv (ics_wE w2 n2).v (ics_wE w2 n2).fuel ((ics_wE w2 n2).ns n2) :=
      nsinv_congr w2.v w2.fuel (w2.ns n2) _ (by rw [hn2]) (by rw [hn2]) (by rw [hn2]) (nsinv_reachable w2 hr2 n2)
    have hD1' : CalleesOK D (ics_wE w1 n1) n1 := by unfold CalleesOK; rw [hn1]; exact hD1
    have hD2' : CalleesOK D (ics_wE w2 n2) n2 := by unfold CalleesOK; rw [hn2]; exact hD2
    have hex' : rTop ((ics_wE w1 n1).ns n1).csp (ics_wE w1 n1).v (ics_wE w1 n1).fuel D name t ≠ .panic msgExcl := by
      rw [hn1]; exact hex
    exact C06_textcalls_independent (ics_wE w1 n1) (ics_wE w2 n2) n1 n2 name t D hinv1 hinv2 (hw1 n1).2 (hw2 n2).2
      hg1 hg2 hl1' hl2' hm1' hm2' hnd hDn hnc hD1' hD2' hcallees hf hv hcsp' hex' hnf1 hnf2 hx1 hx2

theorem ics_step (w : World) (h n : Nat) (name : String) (t : Tree) (d : Value) (he : ExecReady w h n name)
    (hl : (w.ns n).text.lookup name = some (some t)) :
    ∃ tid t0, alookup (w.ns n).set name = some tid ∧ nlookup w.objs tid = some t0 ∧ t0.registered = true ∧
      t0.ns = n ∧ t0.name = name ∧
      (Api.step w (.execT h name d)).2 = .exec (match escapeTemplateTop (ics_wE w n) n name with
        | .inl r => r
        | .inr (_, some code) => .err (analysisCls code) []
        | .inr (w', none) =>
          match nlookup w'.objs tid with
          | some t' => textExecute w' t' d
          | none => .unsupported) := by
  obtain ⟨⟨id, o, ho, hon⟩, tid, t0, hs, ht0, hst, hreg, htn, htname⟩ := he
  refine ⟨tid, t0, hs, ht0, hreg, htn, htname, ?_⟩
  subst hon
  have hb : okTreeNil t0 name (w.ns o.ns).text = false := by
    unfold okTreeNil; rw [hreg, if_pos rfl, hl]
  rw [step_execT, critExecuteTemplate_unset ho hs ht0 hst hb]
  show Ret.exec _ = Ret.exec _
  congr 1
  unfold ics_wE
  generalize escapeTemplateTop _ _ _ = x
  rcases x with r | ⟨w', _ | code⟩
  · rfl
  · dsimp only
    cases nlookup w'.objs tid <;> rfl
  · rfl

theorem ics_markOk_obj (w : World) (n : Nat) (name : String) (text : TextSet) (e : Esc) (tid : Nat) (t0 : TObj)
    (h0 : nlookup w.objs tid = some t0) :
    ∃ t', nlookup (markOk w n name text e).objs tid = some t' ∧ t'.ns = t0.ns ∧ t'.name = t0.name ∧
      t'.registered = t0.registered := by
  rcases objs_markOk w n name text e tid with h | ⟨o, _, ho, h⟩
  · exact ⟨t0, h.trans h0, rfl, rfl, rfl⟩
  · rw [h0] at ho; cases ho; exact ⟨_, h, rfl, rfl, rfl⟩

/-- **C06, first half, at the level of `Api.step`.** `w1`, `w2`: any two reachable worlds; `ExecuteTemplate(name)` is
    called through a handle of name space `n1` of `w1` / `n2` of `w2`, where `name` is a registered, not yet executed
    template object with the same installed tree `t`, analysed in neither world; the hypotheses on the callees are
    those of `C06_textcalls_reachable`. If neither call runs out of model fuel, both calls return the same result:
    the same bytes, the same error class, or the same panic. -/
theorem C06_textcalls_step (w1 w2 : World) (hr1 : ReachableC w1) (hr2 : ReachableC w2) (h1 h2 n1 n2 : Nat)
    (name : String) (t : Tree) (D : String → Option Tree) (d : Value)
    (he1 : ExecReady w1 h1 n1 name) (he2 : ExecReady w2 h2 n2 name)
    (hl1 : (w1.ns n1).text.lookup name = some (some t)) (hl2 : (w2.ns n2).text.lookup name = some (some t))
    (hm1 : alookup (w1.ns n1).esc.output name = none) (hm2 : alookup (w2.ns n2).esc.output name = none)
    (hnd : NoDollar name) (hDn : D name = none)
    (hD1 : CalleesOK D w1 n1) (hD2 : CalleesOK D w2 n2)
    (hcallees : listCallsIn (fun h => (D h).isSome = true) t.root)
    (hf : w1.fuel = w2.fuel) (hv : w1.v = w2.v) (hcsp : (w1.ns n1).csp = (w2.ns n2).csp)
    (hex : rTop (w1.ns n1).csp w1.v w1.fuel D name t ≠ .panic msgExcl)
    (hnf1 : (Api.step w1 (.execT h1 name d)).2 ≠ .exec .fuel) (hnf2 : (Api.step w2 (.execT h2 name d)).2 ≠ .exec .fuel) :
    (Api.step w1 (.execT h1 name d)).2 = (Api.step w2 (.execT h2 name d)).2 := by
  obtain ⟨tid1, t1, _, ht1, hreg1, htn1, htnm1, hstep1⟩ := ics_step w1 h1 n1 name t d he1 hl1
  obtain ⟨tid2, t2, _, ht2, hreg2, htn2, htnm2, hstep2⟩ := ics_step w2 h2 n2 name t d he2 hl2
  have hnfa1 : escapeTemplateTop (ics_wE w1 n1) n1 name ≠ .inl .fuel := by
    intro hc; rw [hc] at hstep1; exact hnf1 hstep1
  have hnfa2 : escapeTemplateTop (ics_wE w2 n2) n2 name ≠ .inl .fuel := by
    intro hc; rw [hc] at hstep2; exact hnf2 hstep2
  obtain ⟨hcls, hexec⟩ := ics_top w1 w2 hr1 hr2 n1 n2 name t D hl1 hl2 hm1 hm2 hnd hDn hD1 hD2 hcallees hf hv hcsp hex
    hnfa1 hnfa2
  cases hres1 : escapeTemplateTop (ics_wE w1 n1) n1 name with
  | inl r1 =>
    cases hres2 : escapeTemplateTop (ics_wE w2 n2) n2 name with
    | inl r2 =>
      rw [hres1, hres2] at hcls
      rw [hres1] at hstep1
      rw [hres2] at hstep2
      have : r1 = r2 := by injection hcls
      rw [hstep1, hstep2, this]
    | inr p2 =>
      rw [hres1, hres2] at hcls
      cases hcls
  | inr p1 =>
    obtain ⟨w1', c1⟩ := p1
    cases hres2 : escapeTemplateTop (ics_wE w2 n2) n2 name with
    | inl r2 =>
      rw [hres1, hres2] at hcls
      cases hcls
    | inr p2 =>
      obtain ⟨w2', c2⟩ := p2
      rw [hres1, hres2] at hcls
      have hc : c1 = c2 := by injection hcls
      subst hc
      rw [hres1] at hstep1
      rw [hres2] at hstep2
      cases c1 with
      | some code => rw [hstep1, hstep2]
      | none =>
        obtain ⟨tx1, e1, hw1⟩ := escapeTemplateTop_none_ok _ _ _ _ hres1
        obtain ⟨tx2, e2, hw2⟩ := escapeTemplateTop_none_ok _ _ _ _ hres2
        obtain ⟨t1', hk1, ha1, hb1, hc1⟩ := ics_markOk_obj (ics_wE w1 n1) n1 name tx1 e1 tid1 t1 ht1
        obtain ⟨t2', hk2, ha2, hb2, hc2⟩ := ics_markOk_obj (ics_wE w2 n2) n2 name tx2 e2 tid2 t2 ht2
        rw [← hw1] at hk1
        rw [← hw2] at hk2
        simp only [hk1] at hstep1
        simp only [hk2] at hstep2
        rw [hstep1, hstep2, hexec w1' w2' hres1 hres2 t1' t2' d (ha1.trans htn1) (hb1.trans htnm1) (ha2.trans htn2)
          (hb2.trans htnm2) (by rw [hc1, hc2, hreg1, hreg2])]

namespace Ex

def dotPipe : Pipe := { cmds := [{ args := [.dot] }] }

def rootTree : Tree := { name := "root", root := .cons (.text 0 (B "root")) .nil }
def cellTree : Tree := { name := "cell", root := .cons (.action 0 dotPipe) .nil }
def pageTree : Tree :=
  { name := "page", root := .cons (.text 0 (B "Hello ")) (.cons (.tmpl 1 "cell" (some dotPipe))
      (.cons (.text 2 (B "!")) .nil)) }

def defs : List Tree := [rootTree, cellTree, pageTree]

def wInit : World := { v := liteValidators, fuel := 60 }

def w2 : World := Api.run wInit [ .new 0 "root", .parse 0 defs ]

def w1 : World := (Api.step w2 (.execT 0 "cell" (.str (B "x")))).1

def D : String → Option Tree := fun h => if h = "cell" then some cellTree else none

theorem defs_ok : DefsOK defs := by
  intro tr htr
  simp only [defs, List.mem_cons, List.not_mem_nil, or_false] at htr
  rcases htr with rfl | rfl | rfl
  · refine ⟨?_, ?_⟩
    · simp only [rootTree, listWF, nodeWF, and_self]
    · unfold IdsDistinct; decide
  · refine ⟨?_, ?_⟩
    · simp only [cellTree, listWF, nodeWF, and_true]
      intro c hc
      simp only [dotPipe, List.mem_cons, List.not_mem_nil, or_false] at hc
      subst hc
      simp
    · unfold IdsDistinct; decide
  · refine ⟨?_, ?_⟩
    · simp only [pageTree, listWF, nodeWF, and_self]
    · unfold IdsDistinct; decide

theorem wInit_reachable : ReachableC wInit := ReachableC.init wInit ⟨rfl, rfl⟩ rfl

theorem w2_reachable : ReachableC w2 := by
  have h1 := ReachableC.step wInit (.new 0 "root") wInit_reachable trivial trivial
  exact ReachableC.step _ (.parse 0 defs) h1 defs_ok trivial

theorem w1_reachable : ReachableC w1 :=
  ReachableC.step w2 (.execT 0 "cell" (.str (B "x"))) w2_reachable trivial trivial

theorem cell_memoized_in_w1 : (alookup (w1.ns 0).esc.output "cell").isSome = true := by decide +kernel
theorem cell_not_memoized_in_w2 : alookup (w2.ns 0).esc.output "cell" = none := by decide +kernel

/-! ### the hypotheses of `C06_textcalls_reachable`

`Tree` has no `DecidableEq` instance in the model; it is derived here so that statements about installed trees are
decided in the kernel. -/

deriving instance DecidableEq for Node, NodeList
deriving instance DecidableEq for Tree

theorem hl1 : (w1.ns 0).text.lookup "page" = some (some pageTree) := by decide +kernel
theorem hl2 : (w2.ns 0).text.lookup "page" = some (some pageTree) := by decide +kernel

theorem hm1 : alookup (w1.ns 0).esc.output "page" = none := by decide +kernel
theorem hm2 : alookup (w2.ns 0).esc.output "page" = none := by decide +kernel

/-- in `w1` the installed tree of `cell` is the REWRITTEN one (the commit inserted the sanitizer into `{{.}}`) … -/
theorem cell_rewritten_in_w1 : (w1.ns 0).text.lookup "cell" ≠ some (some cellTree) := by decide +kernel
/-- … the pristine snapshot taken by the commit is the parsed tree -/
theorem cell_pristine_in_w1 : alookup (w1.ns 0).esc.pristine "cell" = some cellTree := by decide +kernel

theorem orig1 : origT (w1.ns 0).text (w1.ns 0).esc "cell" = some cellTree := by decide +kernel
theorem orig2 : origT (w2.ns 0).text (w2.ns 0).esc "cell" = some cellTree := by decide +kernel

theorem calleesOK (w : World) (h : origT (w.ns 0).text (w.ns 0).esc "cell" = some cellTree) : CalleesOK D w 0 := by
  intro h th hD
  unfold D at hD
  split at hD
  · rename_i hh
    subst hh
    cases hD
    refine ⟨by decide, ?_, h⟩
    simp only [cellTree, listNoCalls, nodeNoCalls, and_self]
  · cases hD

theorem hD1 : CalleesOK D w1 0 := calleesOK w1 orig1
theorem hD2 : CalleesOK D w2 0 := calleesOK w2 orig2

theorem hcallees : listCallsIn (fun h => (D h).isSome = true) pageTree.root := by
  simp only [pageTree, listCallsIn, nodeCallsIn, true_and, and_true]
  decide

theorem hf : w1.fuel = w2.fuel := by
  unfold w1
  exact (step_v_fuel w2 (.execT 0 "cell" (.str (B "x"))) trivial).2

theorem hv : w1.v = w2.v := by
  unfold w1
  exact (step_v_fuel w2 (.execT 0 "cell" (.str (B "x"))) trivial).1

theorem hcsp : (w1.ns 0).csp = (w2.ns 0).csp := by decide +kernel

def outIsOk {α} : Out α → Bool
  | .ok _ => true
  | _ => false

theorem rTop_ok : outIsOk (rTop (w1.ns 0).csp w1.v w1.fuel D "page" pageTree) = true := by decide +kernel

theorem hex : rTop (w1.ns 0).csp w1.v w1.fuel D "page" pageTree ≠ .panic msgExcl := by
  intro h
  have := rTop_ok
  rw [h] at this
  cases this

def isOk : Res ⊕ (World × Option ErrCode) → Bool
  | .inr (_, none) => true
  | _ => false

/-- both analyses of `page` SUCCEED (so the second half of the conclusion is not vacuous either) -/
theorem top1_ok : isOk (escapeTemplateTop w1 0 "page") = true := by decide +kernel
theorem top2_ok : isOk (escapeTemplateTop w2 0 "page") = true := by decide +kernel

theorem hnf1 : escapeTemplateTop w1 0 "page" ≠ .inl .fuel := by
  intro h; have := top1_ok; rw [h] at this; cases this
theorem hnf2 : escapeTemplateTop w2 0 "page" ≠ .inl .fuel := by
  intro h; have := top2_ok; rw [h] at this; cases this

/-- all hypotheses of `C06_textcalls_reachable` hold for `page` in `w1` (callee memoized) and `w2` (callee not
    memoized) -/
theorem page_independent :
    cls (escapeTemplateTop w1 0 "page") = cls (escapeTemplateTop w2 0 "page") ∧
    ∀ w1' w2', escapeTemplateTop w1 0 "page" = .inr (w1', none) → escapeTemplateTop w2 0 "page" = .inr (w2', none) →
      ∀ (o1 o2 : TObj) (d : Value), o1.ns = 0 → o1.name = "page" → o2.ns = 0 → o2.name = "page" →
        o1.registered = o2.registered → textExecute w1' o1 d = textExecute w2' o2 d :=
  C06_textcalls_reachable w1 w2 w1_reachable w2_reachable 0 0 "page" pageTree D hl1 hl2 hm1 hm2 (by decide) rfl
    hD1 hD2 hcallees hf hv hcsp hex hnf1 hnf2

theorem page_analysed_in_both : ∃ w1' w2', escapeTemplateTop w1 0 "page" = .inr (w1', none) ∧
    escapeTemplateTop w2 0 "page" = .inr (w2', none) := by
  have h1 := top1_ok
  have h2 := top2_ok
  unfold isOk at h1 h2
  split at h1
  · rename_i w1' e1
    split at h2
    · rename_i w2' e2
      exact ⟨w1', w2', e1, e2⟩
    · cases h2
  · cases h1

/-- a concrete execution after the two analyses: `Hello &lt;b&gt;!` in both -/
theorem page_output_same : (Api.step w1 (.execT 0 "page" (.str (B "<b>")))).2.str =
    (Api.step w2 (.execT 0 "page" (.str (B "<b>")))).2.str ∧
    (Api.step w2 (.execT 0 "page" (.str (B "<b>")))).2.str = "ok 48656c6c6f20266c743b622667743b21" := by
  decide +kernel

end Ex

/-! # Kernel-checked counterexamples: the analysis of a helper is NOT independent of the history

## 1. memo-ignores-attr-prefix

The memo key of an analysed helper (`mangle c name`) leaves out the static prefix of the attribute value.

* `cell` = `{{.}}`
* `A`    = `<a href="{{template "cell" .}}">x</a>`            (helper at the START of a URL attribute value)
* `B`    = `<a href="/search?q={{template "cell" .}}">x</a>`  (helper inside the query part)

Both calls are redirected to `cell$htmltemplate_StateAttr_DelimDoubleQuote_attrHref_elementA`; whichever of `A`, `B`
is executed first decides the sanitizer chain of `{{.}}` in that copy — for BOTH callers.

## 2. mangled-name-collision

A user template literally named `cell$htmltemplate_StateText_elementP` is taken for the derived copy of `cell`
in `<p>…</p>`: `P` = `<p>{{template "cell" .}}</p>` outputs the body of that template, not `cell`'s. -/
namespace Cex

def dotPipe : Pipe := { cmds := [{ args := [.dot] }] }

/-! ### memo-ignores-attr-prefix -/

def defs : List Tree :=
  [ { name := "root", root := .cons (.text 0 (B "root")) .nil },
    { name := "cell", root := .cons (.action 0 dotPipe) .nil },
    { name := "A", root := .cons (.text 0 (B "<a href=\"")) (.cons (.tmpl 1 "cell" (some dotPipe))
        (.cons (.text 2 (B "\">x</a>")) .nil)) },
    { name := "B", root := .cons (.text 0 (B "<a href=\"/search?q=")) (.cons (.tmpl 1 "cell" (some dotPipe))
        (.cons (.text 2 (B "\">x</a>")) .nil)) } ]

def w0 : World := Api.run { v := liteValidators, fuel := 60 } [ .new 0 "root", .parse 0 defs ]

def d0 : Value := .str (B "x")

def w1 : World := (Api.step w0 (.execT 0 "A" d0)).1

def w2 : World := (Api.step w0 (.execT 0 "B" d0)).1

/-- the value on which the two chains differ -/
def d : Value := .str (B "javascript:alert(1)")

/-- the first execution of `A` succeeds: `<a href="x">x</a>` -/
theorem A_first_ok : (Api.step w0 (.execT 0 "A" d0)).2.str = "ok 3c6120687265663d2278223e783c2f613e" := by
  decide +kernel

/-- the first execution of `B` succeeds: `<a href="/search?q=x">x</a>` -/
theorem B_first_ok :
    (Api.step w0 (.execT 0 "B" d0)).2.str = "ok 3c6120687265663d222f7365617263683f713d78223e783c2f613e" := by
  decide +kernel

/-- both histories install the SAME derived name -/
theorem same_mangled_name :
    ((w1.ns 0).text.map (·.1)) =
      ["root", "cell", "A", "B", "cell$htmltemplate_StateAttr_DelimDoubleQuote_attrHref_elementA"] ∧
    ((w2.ns 0).text.map (·.1)) =
      ["root", "cell", "A", "B", "cell$htmltemplate_StateAttr_DelimDoubleQuote_attrHref_elementA"] := by
  decide +kernel

/-- `B` on a fresh set: the value is query-escaped,
    `<a href="/search?q=javascript%3aalert%281%29">x</a>` -/
theorem B_fresh : (Api.step w0 (.execT 0 "B" d)).2.str =
    "ok 3c6120687265663d222f7365617263683f713d6a617661736372697074253361616c65727425323831253239223e783c2f613e" := by
  decide +kernel

/-- `B` after `A`: the value goes through the URL validator of the attribute START,
    `<a href="/search?q=about:invalid#zGoSafez">x</a>` -/
theorem B_after_A : (Api.step w1 (.execT 0 "B" d)).2.str =
    "ok 3c6120687265663d222f7365617263683f713d61626f75743a696e76616c6964237a476f536166657a223e783c2f613e" := by
  decide +kernel

/-- the output of `B` depends on whether `A` was executed before -/
theorem memo_prefix_dependence :
    (Api.step w0 (.execT 0 "B" d)).2.str ≠ (Api.step w1 (.execT 0 "B" d)).2.str := by
  rw [B_fresh, B_after_A]; decide

/-- `A` on a fresh set: the value is validated as a URL, `<a href="about:invalid#zGoSafez">x</a>` -/
theorem A_fresh : (Api.step w0 (.execT 0 "A" d)).2.str =
    "ok 3c6120687265663d2261626f75743a696e76616c6964237a476f536166657a223e783c2f613e" := by
  decide +kernel

/-- `A` after `B`: the URL validator at the attribute start is GONE, the value is only query-escaped,
    `<a href="javascript%3aalert%281%29">x</a>` -/
theorem A_after_B : (Api.step w2 (.execT 0 "A" d)).2.str =
    "ok 3c6120687265663d226a617661736372697074253361616c65727425323831253239223e783c2f613e" := by
  decide +kernel

theorem memo_prefix_dependence_rev :
    (Api.step w0 (.execT 0 "A" d)).2.str ≠ (Api.step w2 (.execT 0 "A" d)).2.str := by
  rw [A_fresh, A_after_B]; decide

/-- a second value: a path with a query. After `B`, `A` percent-encodes `/`, `?`, `=`:
    `<a href="a/b?c=d">` (fresh) vs `<a href="a%2fb%3fc%3dd">` (after `B`) -/
def d' : Value := .str (B "a/b?c=d")

theorem A_fresh' : (Api.step w0 (.execT 0 "A" d')).2.str = "ok 3c6120687265663d22612f623f633d64223e783c2f613e" := by
  decide +kernel

theorem A_after_B' : (Api.step w2 (.execT 0 "A" d')).2.str =
    "ok 3c6120687265663d2261253266622533666325336464223e783c2f613e" := by
  decide +kernel

/-! ### mangled-name-collision -/

def mangledP : String := "cell$htmltemplate_StateText_elementP"

/-- `cell` = `{{.}}`, `P` = `<p>{{template "cell" .}}</p>`, and optionally a user template named `mangledP` -/
def defsc (extra : List Tree) : List Tree :=
  [ { name := "root", root := .cons (.text 0 (B "root")) .nil },
    { name := "cell", root := .cons (.action 0 dotPipe) .nil },
    { name := "P", root := .cons (.text 0 (B "<p>")) (.cons (.tmpl 1 "cell" (some dotPipe))
        (.cons (.text 2 (B "</p>")) .nil)) } ] ++ extra

/-- the user template `cell$htmltemplate_StateText_elementP` = `EVIL` -/
def evil : Tree := { name := mangledP, root := .cons (.text 0 (B "EVIL")) .nil }

/-- the user template `cell$htmltemplate_StateText_elementP` = `<b>{{.}}</b>` -/
def bold : Tree :=
  { name := mangledP, root := .cons (.text 0 (B "<b>")) (.cons (.action 1 dotPipe) (.cons (.text 2 (B "</b>")) .nil)) }

def wc (extra : List Tree) : World :=
  Api.run { v := liteValidators, fuel := 60 } [ .new 0 "root", .parse 0 (defsc extra) ]

def w0n : World := wc []
def w0c : World := wc [evil]
def w0b : World := wc [bold]

def dc : Value := .str (B "<hi>")

/-- reference: `<p>&lt;hi&gt;</p>` -/
theorem no_collision : (Api.step w0n (.execT 0 "P" dc)).2.str = "ok 3c703e266c743b68692667743b3c2f703e" := by
  decide +kernel

/-- the derived copy is installed under the name the user template has in the other worlds -/
theorem no_collision_names :
    (((Api.step w0n (.execT 0 "P" dc)).1.ns 0).text.map (·.1)) = ["root", "cell", "P", mangledP] := by
  decide +kernel

/-- `P` outputs the body of the user template instead of `cell`'s: `<p>EVIL</p>` -/
theorem mangled_collision : (Api.step w0c (.execT 0 "P" dc)).2.str = "ok 3c703e4556494c3c2f703e" := by
  decide +kernel

/-- the same with `<b>{{.}}</b>`: `<p><b>&lt;hi&gt;</b></p>` -/
theorem mangled_collision_bold :
    (Api.step w0b (.execT 0 "P" dc)).2.str = "ok 3c703e3c623e266c743b68692667743b3c2f623e3c2f703e" := by
  decide +kernel

theorem mangled_collision_differs :
    (Api.step w0c (.execT 0 "P" dc)).2.str ≠ (Api.step w0n (.execT 0 "P" dc)).2.str := by
  rw [mangled_collision, no_collision]; decide

end Cex

/-!
**The hypotheses of `C06_textcalls_reachable`, and what is known about each.**
* calls in the context `{}` only (`rTop … ≠ .panic msgExcl`): for a call inside an attribute value the memo key
  `mangle c h` leaves out `attrValue`/`ambiguous` (`Cex.memo_prefix_dependence`), and for a call inside `<p>` the derived
  name can be that of a user template (`Cex.mangled_collision`). Contexts where the key does determine the analysis
  (element content, quoted non-URL attributes) are NOT covered — they need injectivity of `mangle` and an invariant for
  derived copies.
* `NoDollar` for `name` and the callees: the proof uses it (a name without `$` is memoized only under itself,
  `mangle_nodollar`). No example is given in which this hypothesis alone fails: in both examples of `Cex` the call is
  outside `{}` as well.
* callees call-free: nested calls are NOT covered (they need the reference analysis as canonical function of a second
  tier of tracked names, i.e. `analysis_m` once more over `rOut`).
* `ReachableC` instead of `ReachableP`: a `CSPCompatible()` call between two executions changes the analysis of later
  templates but not the memo entries computed before; with it the statement is false.
* no run out of model fuel: a memo hit costs one unit of fuel, a miss the whole analysis of the callee; fuel is a
  device of the model, not of the Go code.
* same fuel, validators, CSP flag in both worlds: parameters of the analysis.
-/

end SafeHtml.Proofs.IndependenceCalls
