/-
C01 for later executions of one template with `if` / `with` / `range` (`C01_api_branch_template_repeat`) and of a main
template plus a helper called from text context (`C01_api_main_plus_helper_repeat`): the worlds after `New`, `Parse`
satisfy the hypotheses of `Layer3Repeat.fixedFrom_unset`, so `first_of_later` reduces both to the theorems about first
executions in `Layer3Helpers`.
-/
import SafeHtml.Proofs.Layer3Helpers
import SafeHtml.Proofs.Layer3Repeat
set_option linter.unusedSimpArgs false
namespace SafeHtml.Proofs.Layer3Repeat2
open SafeHtml SafeHtml.Model SafeHtml.Model.Tmpl SafeHtml.Spec SafeHtml.Spec.HtmlTok SafeHtml.Generated.Policy
open SafeHtml.Props.C01 (InertPos run_nil run_cons run_append)
open SafeHtml.Props.C02 (Untrusted)
open SafeHtml.Proofs.HtmlTokSim
open SafeHtml.Proofs.Layer3 SafeHtml.Proofs.Layer3E2E SafeHtml.Proofs.Layer3Branch SafeHtml.Proofs.Layer3Calls
open SafeHtml.Proofs.Layer3Helpers SafeHtml.Proofs.Layer3Repeat

/-! ### one template with branches -/

/-- C01 for a single template with `if` / `with` / `range` through the API state machine, later executions. As
    `Layer3Helpers.C01_api_branch_template`, but each of the two executions compared comes after an arbitrary list of
    earlier `Execute` calls on the same template object (`pre1`, `pre2`: any data, no hypothesis — they may take other
    control paths, print trusted values, fail with an execution error, or be absent; the lists need not have the same
    length). -/
theorem C01_api_branch_template_repeat (v : Validators) (fuel : Nat) (name : String) (tr : Tree) (tps : TPs) (cf : Ctx)
    (es : ERs) (hn : tr.name = name) (hroot : tr.root = nodesTL 0 tps) (hok : ArgsOKL tps)
    (hs : SimpleRL v {} (eraseL tps)) (ha : analyseRL v {} (eraseL tps) = some (cf, es))
    (hfin : finalError cf = none) (hf : fuelRL (eraseL tps) + 3 ≤ fuel) (pre1 pre2 : List Value) (d1 d2 : Value)
    (hpath : pathL tps d1 d1 = pathL tps d2 d2)
    (hu1 : ∀ x ∈ valsL tps d1 d1, Untrusted x) (hu2 : ∀ x ∈ valsL tps d2 d2, Untrusted x)
    (o1 o2 : Bytes) (w1 w2 : World)
    (h1 : Api.step (execs (setup v fuel name tr) pre1) (.exec 0 d1) = (w1, .exec (.ok o1)))
    (h2 : Api.step (execs (setup v fuel name tr) pre2) (.exec 0 d2) = (w2, .exec (.ok o2))) :
    skeleton (HtmlTok.tokenize o1).tokens = skeleton (HtmlTok.tokenize o2).tokens ∧
    (HtmlTok.tokenize o1).final = .data ∧ (HtmlTok.tokenize o2).final = .data :=
  C01_api_branch_template v fuel name tr tps cf es hn hroot hok hs ha hfin hf d1 d2 hpath hu1 hu2 o1 o2 _ _
    (first_of_later _ (fixedFrom_setup v fuel name tr hn) pre1 d1 w1 _ h1)
    (first_of_later _ (fixedFrom_setup v fuel name tr hn) pre2 d2 w2 _ h2)

/-! ### non-vacuity: `{{range .Items}}<b>{{.}}</b>{{else}}-{{end}}`, third execution after a FAILED one (`.Items` of a
`Value.str`: execution error) and a successful two-item one -/

example : retOk (Api.step (execs (setup v0 100 "t" exLoopTree) [.str [1], loopData [34] [62]])
    (.exec 0 (loopData [60] [38]))).2 = true := by
  decide +kernel

theorem ex_api_loop_repeat (pre1 pre2 : List Value) (a1 a2 b1 b2 o1 o2 : Bytes) (w1 w2 : World)
    (h1 : Api.step (execs (setup v0 100 "t" exLoopTree) pre1) (.exec 0 (loopData a1 a2)) = (w1, .exec (.ok o1)))
    (h2 : Api.step (execs (setup v0 100 "t" exLoopTree) pre2) (.exec 0 (loopData b1 b2)) = (w2, .exec (.ok o2))) :
    skeleton (HtmlTok.tokenize o1).tokens = skeleton (HtmlTok.tokenize o2).tokens ∧
    (HtmlTok.tokenize o1).final = .data ∧ (HtmlTok.tokenize o2).final = .data :=
  C01_api_branch_template_repeat v0 100 "t" exLoopTree exLoopT {} exLoopOut rfl rfl
    ⟨⟨⟨trivial, Or.inl rfl, trivial, trivial⟩, trivial, trivial⟩, trivial⟩ r_simple r_analyse (by decide) (by decide)
    pre1 pre2 _ _
    (by rw [loopData_path, loopData_path])
    (by rw [loopData_vals]; intro x hx; simp at hx; rcases hx with rfl | rfl <;> (intro t y h; simp [Value.indirect] at h))
    (by rw [loopData_vals]; intro x hx; simp at hx; rcases hx with rfl | rfl <;> (intro t y h; simp [Value.indirect] at h))
    o1 o2 w1 w2 h1 h2

/-! ### main template plus helper -/

/-- the world after the first `Execute` of the main template: both committed trees, escaper `E`, the main object
    marked `ok` (the helper's object is not marked) -/
def worldF2 (v : Validators) (fuel : Nat) (m h : String) (T : TextSet) (E : Esc) : World :=
  { objs := [(1, { ns := 0, name := m, registered := true, treeNil := false, status := .ok }),
             (2, { ns := 0, name := h, registered := true, treeNil := false })],
    nss := [(0, { set := [(m, 1), (h, 2)], text := T, escaped := true, esc := E })],
    handles := [(0, 1)], next := 3, fuel := fuel, v := v }

/-- for ARBITRARY trees: no grammar / analysis hypothesis -/
theorem fixedFrom_setupW2 (v : Validators) (fuel : Nat) (m h : String) (trm trh : Tree) :
    FixedFrom (setupW2 v fuel m h trm trh) :=
  fixedFrom_unset _ 1 _ (setupW2_obj v fuel m h trm trh) (by simp [setupW2, World.ns, nlookup, alookup])

/-- C06 for the world after `New`, `Parse` of two templates, whatever their trees: the result of `Execute(d)` of the
    first (successful or not) does not depend on the earlier executions -/
theorem history_independent_setupW2 (v : Validators) (fuel : Nat) (m h : String) (trm trh : Tree)
    (pre1 pre2 : List Value) (d : Value) :
    (Api.step (execs (setupW2 v fuel m h trm trh) pre1) (.exec 0 d)).2 =
      (Api.step (execs (setupW2 v fuel m h trm trh) pre2) (.exec 0 d)).2 :=
  history_independent (fixedFrom_setupW2 v fuel m h trm trh) pre1 pre2 d

theorem fixedFrom_setup2 (v : Validators) (fuel : Nat) (m h : String) (hmh : m ≠ h) (trm trh : Tree)
    (hnm : trm.name = m) (hnh : trh.name = h) : FixedFrom (setup2 v fuel m trm trh) := by
  rw [setup2_eq v fuel m h hmh trm trh hnm hnh]; exact fixedFrom_setupW2 v fuel m h trm trh

set_option linter.unusedVariables false in
theorem execs2_fixed (v : Validators) (fuel : Nat) (m h : String) (hmh : m ≠ h) (trm trh trm' trh' : Tree) (cf : Ctx)
    (E E' : Esc)
    (het : escapeTree ⟨[(m, some trm), (h, some trh)], fun n => (alookup [(m, 1), (h, 2)] n).isSome, false, v⟩ fuel {} {}
      m = .ok (E, cf, m))
    (hfin : finalError cf = none)
    (hc : commit [(m, some trm), (h, some trh)] E = .ok ([(m, some trm'), (h, some trh')], E'))
    (d0 : Value) (pre : List Value) :
    execs (setupW2 v fuel m h trm trh) (d0 :: pre) = worldF2 v fuel m h [(m, some trm'), (h, some trh')] E' := by
  have hns := setupW2_ns v fuel m h trm trh
  rw [execs_cons (fixedFrom_setupW2 v fuel m h trm trh),
    apiExecute_first (setupW2_obj v fuel m h trm trh) rfl rfl (by rw [hns]; simp [alookup])
      (by rw [analysisEnv, hns]; exact het) hfin (by rw [hns]; exact hc) d0]
  simp [markOk, setupW2, worldF2, World.setNs, World.setObj, World.ns, nset, nlookup, alookup, TextSet.lookup, hmh,
    Ne.symm hmh]
  rfl

/-- C01 for a main template plus a helper through the API state machine, later executions. As
    `Layer3Helpers.C01_api_main_plus_helper`, but each of the two executions compared comes after an arbitrary list of
    earlier `Execute` calls on the main template object (`pre1`, `pre2`: any data, no hypothesis — they may print
    trusted values, fail with an execution error, or be absent; the lists need not have the same length).
    Not covered: earlier `ExecuteTemplate` calls by name (the setup binds no handle to the helper's object, so
    `Execute` on the helper is not expressible in this world; `ExecuteTemplate(h)` after the first execution
    re-enters the analysis with the committed escaper and needs the memo-hit machinery). -/
theorem C01_api_main_plus_helper_repeat (v : Validators) (fuel : Nat) (m h : String) (hmh : m ≠ h) (trm trh : Tree)
    (ms : List MP) (hps : List Piece) (asH : List Arg) (cf : Ctx) (es : List EM) (esH : List EPiece)
    (hnm : trm.name = m) (hnh : trh.name = h)
    (hrootM : trm.root = NodeList.ofList (nodesM h 0 ms))
    (hrootH : trh.root = NodeList.ofList (toNodesA 0 hps asH))
    (hokM : ArgsOKM ms) (hasH : ∀ a ∈ asH, ActArg a) (hcall : MP.call ∈ ms)
    (hH : analyse v {} hps = some ({}, esH)) (hM : analyseM v {} ms = some (cf, es))
    (hs : SimpleAll v {} (inlineP hps ms))
    (hfin : finalError cf = none) (hf : ms.length + hps.length + 9 ≤ fuel) (pre1 pre2 : List Value) (d1 d2 : Value)
    (hu1 : ∀ vs, valsM d1 esH asH es = some vs → ∀ x ∈ vs, Untrusted x)
    (hu2 : ∀ vs, valsM d2 esH asH es = some vs → ∀ x ∈ vs, Untrusted x)
    (o1 o2 : Bytes) (w1 w2 : World)
    (h1 : Api.step (execs (setup2 v fuel m trm trh) pre1) (.exec 0 d1) = (w1, .exec (.ok o1)))
    (h2 : Api.step (execs (setup2 v fuel m trm trh) pre2) (.exec 0 d2) = (w2, .exec (.ok o2))) :
    skeleton (HtmlTok.tokenize o1).tokens = skeleton (HtmlTok.tokenize o2).tokens ∧
    (HtmlTok.tokenize o1).final = .data ∧ (HtmlTok.tokenize o2).final = .data :=
  C01_api_main_plus_helper v fuel m h hmh trm trh ms hps asH cf es esH hnm hnh hrootM hrootH hokM hasH hcall hH hM hs
    hfin hf d1 d2 hu1 hu2 o1 o2 _ _
    (first_of_later _ (fixedFrom_setup2 v fuel m h hmh trm trh hnm hnh) pre1 d1 w1 _ h1)
    (first_of_later _ (fixedFrom_setup2 v fuel m h hmh trm trh hnm hnh) pre2 d2 w2 _ h2)

/-- `C01_api_main_plus_helper_repeat` with the grammar hypothesis stated separately for the two templates -/
theorem C01_api_main_plus_helper_repeat' (v : Validators) (fuel : Nat) (m h : String) (hmh : m ≠ h) (trm trh : Tree)
    (ms : List MP) (hps : List Piece) (asH : List Arg) (cf : Ctx) (es : List EM) (esH : List EPiece)
    (hnm : trm.name = m) (hnh : trh.name = h)
    (hrootM : trm.root = NodeList.ofList (nodesM h 0 ms))
    (hrootH : trh.root = NodeList.ofList (toNodesA 0 hps asH))
    (hokM : ArgsOKM ms) (hasH : ∀ a ∈ asH, ActArg a) (hcall : MP.call ∈ ms)
    (hH : analyse v {} hps = some ({}, esH)) (hM : analyseM v {} ms = some (cf, es))
    (hsH : SimpleAll v {} hps) (hsM : SimpleM v {} ms)
    (hfin : finalError cf = none) (hf : ms.length + hps.length + 9 ≤ fuel) (pre1 pre2 : List Value) (d1 d2 : Value)
    (hu1 : ∀ vs, valsM d1 esH asH es = some vs → ∀ x ∈ vs, Untrusted x)
    (hu2 : ∀ vs, valsM d2 esH asH es = some vs → ∀ x ∈ vs, Untrusted x)
    (o1 o2 : Bytes) (w1 w2 : World)
    (h1 : Api.step (execs (setup2 v fuel m trm trh) pre1) (.exec 0 d1) = (w1, .exec (.ok o1)))
    (h2 : Api.step (execs (setup2 v fuel m trm trh) pre2) (.exec 0 d2) = (w2, .exec (.ok o2))) :
    skeleton (HtmlTok.tokenize o1).tokens = skeleton (HtmlTok.tokenize o2).tokens ∧
    (HtmlTok.tokenize o1).final = .data ∧ (HtmlTok.tokenize o2).final = .data :=
  C01_api_main_plus_helper' v fuel m h hmh trm trh ms hps asH cf es esH hnm hnh hrootM hrootH hokM hasH hcall hH hM hsH
    hsM hfin hf d1 d2 hu1 hu2 o1 o2 _ _
    (first_of_later _ (fixedFrom_setup2 v fuel m h hmh trm trh hnm hnh) pre1 d1 w1 _ h1)
    (first_of_later _ (fixedFrom_setup2 v fuel m h hmh trm trh hnm hnh) pre2 d2 w2 _ h2)

/-! ### non-vacuity: the main + helper example, third execution after a successful one and a FAILED one -/

example : retOk (Api.step (execs (setup2 v0 100 "main" exMainTree exHelperTree) [exData [34, 62, 60], .str [1]])
    (.exec 0 (exData [60, 38]))).2 = true := by
  decide +kernel

/-- the second of the earlier executions really fails -/
example : retOk (Api.step (execs (setup2 v0 100 "main" exMainTree exHelperTree) [exData [34, 62, 60]])
    (.exec 0 (.str [1]))).2 = false := by
  decide +kernel

theorem ex_api_helper_repeat (pre1 pre2 : List Value) (b1 b2 o1 o2 : Bytes) (w1 w2 : World)
    (h1 : Api.step (execs (setup2 v0 100 "main" exMainTree exHelperTree) pre1) (.exec 0 (exData b1)) =
      (w1, .exec (.ok o1)))
    (h2 : Api.step (execs (setup2 v0 100 "main" exMainTree exHelperTree) pre2) (.exec 0 (exData b2)) =
      (w2, .exec (.ok o2))) :
    skeleton (HtmlTok.tokenize o1).tokens = skeleton (HtmlTok.tokenize o2).tokens ∧
    (HtmlTok.tokenize o1).final = .data ∧ (HtmlTok.tokenize o2).final = .data :=
  C01_api_main_plus_helper_repeat' v0 100 "main" "h" (by decide) exMainTree exHelperTree exMain exTemplate exArgs {}
    exMainOut exOut rfl rfl rfl rfl ⟨Or.inr ⟨_, rfl⟩, trivial⟩
    (by intro a ha; simp [exArgs] at ha; subst ha; exact Or.inr ⟨_, rfl⟩) (by simp [exMain])
    ex_analyse exMain_analyse ex_simpleAll exMain_simple (by decide) (by decide) pre1 pre2 _ _
    (by rw [exMain_vals]; intro vs hv x hx; cases hv; simp at hx; subst hx; intro t y h; simp [Value.indirect] at h)
    (by rw [exMain_vals]; intro vs hv x hx; cases hv; simp at hx; subst hx; intro t y h; simp [Value.indirect] at h)
    o1 o2 w1 w2 h1 h2

#print axioms C01_api_branch_template_repeat
#print axioms C01_api_main_plus_helper_repeat
#print axioms C01_api_main_plus_helper_repeat'
#print axioms ex_api_loop_repeat
#print axioms ex_api_helper_repeat

end SafeHtml.Proofs.Layer3Repeat2
