/-
C13 helper lemmas: `ReplaceAllStringFunc` with the regenerated marker regex is the spec's
left-to-right marker scanner (`Spec.TruUrl.pieces`), and what `trustedResourceURLFormat` returns.
-/
import SafeHtml.Model.Tru
import SafeHtml.Spec.TruUrl
import SafeHtml.Proofs.RxSeq
import SafeHtml.Proofs.C13Escape
namespace SafeHtml.Proofs.C13
open SafeHtml SafeHtml.Rx SafeHtml.Model SafeHtml.Spec.Rfc3986 SafeHtml.Spec.TruUrl
open SafeHtml.Generated.Regexes

def wordCls : List (Nat × Nat) := [(48, 57), (65, 90), (95, 95), (97, 122)]

theorem inCls_word : inCls wordCls = isWord := by
  funext b
  simp only [inCls, wordCls, List.any, isWord, isAlnum, isDigit, isAlpha, isLowerAlpha, isUpperAlpha, Bool.or_false]
  rw [Bool.eq_iff_iff]; simp; omega

theorem lensB_marker (s : Bytes) :
    lensB markerRe s =
      if matchSeq [[(37, 37)], [(123, 123)]] s then
        (if 1 ≤ spanB wordCls (s.drop 2) && headIn [(125, 125)] ((s.drop 2).drop (spanB wordCls (s.drop 2)))
          then [2 + (spanB wordCls (s.drop 2) + 1)] else [])
      else [] := by
  -- obligation: this `rfl` breaks when the marker regex in trustedresourceurl.go is edited
  have hre : markerRe = .cat (.cat (.cls [(37, 37)]) (.cls [(123, 123)]))
      (.cat (Re.plus (.cls wordCls) true) (.cls [(125, 125)])) := rfl
  rw [hre]
  have h1 := lensB_clsSeq (.cat (.cls [(37, 37)]) (.cls [(123, 123)])) [[(37, 37)], [(123, 123)]] rfl s
  rw [lensB_cat_single _ _ s _ 2 h1]
  have hd : ∀ b, inCls [(125, 125)] b = true → inCls wordCls b = false := by
    intro b hb
    simp only [inCls, List.any, Bool.or_false, Bool.and_eq_true, decide_eq_true_eq] at hb
    simp only [inCls, wordCls, List.any, Bool.or_false]
    rw [Bool.eq_false_iff]; simp; omega
  rw [lensB_plus_then _ _ hd]
  by_cases c1 : matchSeq [[(37, 37)], [(123, 123)]] s = true
  · rw [if_pos c1, if_pos c1]
    split <;> rfl
  · rw [if_neg c1, if_neg c1]

theorem markerAt_none_of_ne (c : Nat) (t : Bytes) (h : c ≠ 37) : markerAt (c :: t) = none := by
  unfold markerAt
  split
  · rename_i heq; simp only [List.cons.injEq] at heq; omega
  · rfl

theorem markerAt_none_of_ne2 (b : Nat) (t : Bytes) (h : b ≠ 123) : markerAt (37 :: b :: t) = none := by
  unfold markerAt
  split
  · rename_i heq; simp only [List.cons.injEq, true_and] at heq; omega
  · rfl

theorem markerAt_lens (s : Bytes) :
    (lensB markerRe s).head? = (markerAt s).map (fun p => p.1.length + 3) := by
  rw [lensB_marker]
  match s with
  | [] => simp [matchSeq, markerAt]
  | [a] => simp [matchSeq, markerAt]
  | a :: b :: t =>
    simp only [matchSeq, inCls, List.any, Bool.or_false, Bool.and_true, List.drop_succ_cons, List.drop_zero]
    by_cases ha : a = 37
    · by_cases hb : b = 123
      · subst ha; subst hb
        simp only [Nat.le_refl, Bool.and_self, decide_true, if_true, markerAt]
        rw [spanB_eq_takeWhile, inCls_word]
        generalize hw : List.takeWhile isWord t = w
        cases hd : t.drop w.length with
        | nil => simp [headIn]
        | cons c rest =>
          by_cases hc : c = 125
          · subst hc
            cases w with
            | nil => simp [headIn, inCls]
            | cons x xs => simp [headIn, inCls]; omega
          · have : headIn [(125, 125)] (c :: rest) = false := by
              simp [headIn, inCls]; omega
            simp only [this, Bool.and_false]
            simp
            split <;> simp_all
      · subst ha
        have hm := markerAt_none_of_ne2 b t hb
        have hc : (decide (123 ≤ b) && decide (b ≤ 123)) = false := by
          rw [Bool.eq_false_iff]; simp; omega
        simp [hm, hc]
    · have hm := markerAt_none_of_ne a (b :: t) ha
      have hc : (decide (37 ≤ a) && decide (a ≤ 37)) = false := by
        rw [Bool.eq_false_iff]; simp; omega
      simp [hm, hc]

theorem drop_takeWhile_length (p : Nat → Bool) (l : List Nat) :
    l = l.takeWhile p ++ l.drop (l.takeWhile p).length := by
  conv => rhs; arg 2; arg 2; rw [← List.takeWhile_append_dropWhile (p := p) (l := l)]
  rw [List.drop_left, List.takeWhile_append_dropWhile]

theorem markerAt_shape (s lab rest : Bytes) (h : markerAt s = some (lab, rest)) :
    s = 37 :: 123 :: (lab ++ 125 :: rest) ∧ s.take (lab.length + 3) = 37 :: 123 :: (lab ++ [125]) ∧
      s.drop (lab.length + 3) = rest := by
  unfold markerAt at h
  split at h
  · rename_i t
    simp only at h
    have ht := drop_takeWhile_length isWord t
    generalize List.takeWhile isWord t = w at h ht
    split at h
    · rename_i r hd
      rw [hd] at ht
      split at h
      · simp at h
      · simp only [Option.some.injEq, Prod.mk.injEq] at h
        obtain ⟨h1, h2⟩ := h
        subst h1; subst h2
        subst ht
        refine ⟨rfl, ?_, ?_⟩
        · show List.take (w.length + 1 + 2) _ = _
          simp only [List.take_succ_cons, List.take_length_add_append, List.take_zero]
        · show List.drop (w.length + 1 + 2) _ = _
          simp only [List.drop_succ_cons, List.drop_length_add_append, List.drop_zero]
    · simp at h
  · simp at h

/-- does the closure set `err` for this label? -/
def labelBad (args : Args) (l : Bytes) : Bool :=
  match args.lookup l with
  | none => true
  | some v => urlContainsDoubleDotSegment v

def markerBytes (l : Bytes) : Bytes := 37 :: 123 :: (l ++ [125])

theorem markerLabel_markerBytes (l : Bytes) : markerLabel (markerBytes l) = l := by
  simp [markerLabel, markerBytes]

def pieceOut (f : Bytes → Bytes) : Piece → Bytes
  | .lit b => [b]
  | .marker l => f l

theorem subst_eq (f : Bytes → Bytes) (fmt : Bytes) : subst f fmt = (pieces fmt).flatMap (pieceOut f) := by
  unfold subst
  congr 1

theorem replBytes_pieces (repl : Bytes → Bytes) : ∀ (n : Nat) (s : Bytes), s.length ≤ n →
    replBytes markerRe repl n s = (piecesAux n s).flatMap (pieceOut (fun l => repl (markerBytes l))) := by
  intro n
  induction n with
  | zero =>
    intro s hs
    have : s = [] := List.eq_nil_of_length_eq_zero (by omega)
    subst this
    simp [replBytes, piecesAux]
  | succ n ih =>
    intro s hs
    cases s with
    | nil => simp [replBytes, piecesAux]
    | cons c t =>
      simp only [replBytes, piecesAux]
      rw [markerAt_lens]
      cases hm : markerAt (c :: t) with
      | none =>
        simp only [Option.map_none, List.flatMap_cons, pieceOut]
        rw [ih t (by simp at hs; omega)]
        rfl
      | some p =>
        obtain ⟨lab, rest⟩ := p
        obtain ⟨h1, h2, h3⟩ := markerAt_shape _ _ _ hm
        simp only [Option.map_some, List.flatMap_cons, pieceOut]
        have hlen : rest.length ≤ n := by
          have : (c :: t).length = (37 :: 123 :: (lab ++ 125 :: rest)).length := by rw [← h1]
          simp at this hs ⊢; omega
        rw [h2, h3, ih rest hlen]
        rfl

theorem replaceAllFunc_marker (fmt : Bytes) (repl : Bytes → Bytes) :
    Rx.replaceAllFunc markerRe fmt repl = subst (fun l => repl (markerBytes l)) fmt := by
  rw [replaceAllFunc_ascii markerRe (by decide) (by decide) (by decide), replBytes_pieces repl _ _ (Nat.le_refl _),
    subst_eq]
  rfl

def pieceLabel : Piece → Option Bytes
  | .marker l => some l
  | .lit _ => none

theorem flag_length (bad : Bytes → Bool) (ps : List Piece) :
    (ps.flatMap (pieceOut (fun l => if bad l then [33] else []))).length =
      (ps.flatMap (pieceOut (fun _ => []))).length + ((ps.filterMap pieceLabel).filter bad).length := by
  induction ps with
  | nil => simp
  | cons p ps ih =>
    cases p with
    | lit b => simp only [List.flatMap_cons, pieceOut, List.length_append, ih, List.filterMap_cons, pieceLabel]; omega
    | marker l =>
      simp only [List.flatMap_cons, pieceOut, List.length_append, ih, List.filterMap_cons, pieceLabel, List.filter_cons]
      cases bad l <;> simp <;> omega

theorem flag_same (bad : Bytes → Bool) (ps : List Piece) (h : (ps.filterMap pieceLabel).any bad = false) :
    ps.flatMap (pieceOut (fun l => if bad l then [33] else [])) = ps.flatMap (pieceOut (fun _ => [])) := by
  induction ps with
  | nil => simp
  | cons p ps ih =>
    cases p with
    | lit b =>
      simp only [List.filterMap_cons, pieceLabel] at h
      simp only [List.flatMap_cons, pieceOut, ih h]
    | marker l =>
      simp only [List.filterMap_cons, pieceLabel, List.any_cons, Bool.or_eq_false_iff] at h
      simp only [List.flatMap_cons, pieceOut, ih h.2, h.1]
      rfl

theorem labels_eq (fmt : Bytes) : labels fmt = (pieces fmt).filterMap pieceLabel := by
  unfold labels; congr 1

theorem formatErr_eq (fmt : Bytes) (args : Args) :
    formatErr fmt args = (labels fmt).any (labelBad args) := by
  unfold formatErr
  rw [replaceAllFunc_marker, replaceAllFunc_marker, subst_eq, subst_eq, labels_eq]
  have hb : (fun l => if argBad args (markerBytes l) = true then [33] else ([] : Bytes)) =
      (fun l => if labelBad args l = true then [33] else []) := by
    funext l
    have : argBad args (markerBytes l) = labelBad args l := by
      simp only [argBad, labelBad, markerLabel_markerBytes]
      cases List.lookup l args <;> rfl
    rw [this]
  rw [hb]
  cases hany : ((pieces fmt).filterMap pieceLabel).any (labelBad args) with
  | false =>
    rw [flag_same _ _ hany]
    simp
  | true =>
    have hl := flag_length (labelBad args) (pieces fmt)
    have hpos : 1 ≤ (((pieces fmt).filterMap pieceLabel).filter (labelBad args)).length := by
      rw [List.any_eq_true] at hany
      obtain ⟨x, hx, hbx⟩ := hany
      have : x ∈ ((pieces fmt).filterMap pieceLabel).filter (labelBad args) := List.mem_filter.mpr ⟨hx, hbx⟩
      exact List.length_pos_of_mem this
    rw [bne_iff_ne]
    intro heq
    rw [heq] at hl
    omega

theorem subst_congr (f g : Bytes → Bytes) (fmt : Bytes) (h : ∀ l ∈ labels fmt, f l = g l) :
    subst f fmt = subst g fmt := by
  rw [subst_eq, subst_eq]
  rw [labels_eq] at h
  generalize pieces fmt = ps at h
  induction ps with
  | nil => rfl
  | cons p ps ih =>
    cases p with
    | lit b =>
      simp only [List.filterMap_cons, pieceLabel] at h
      simp only [List.flatMap_cons, pieceOut, ih h]
    | marker l =>
      simp only [List.filterMap_cons, pieceLabel, List.mem_cons] at h
      simp only [List.flatMap_cons, pieceOut]
      rw [h l (Or.inl rfl), ih (fun x hx => h x (Or.inr hx))]

theorem format_some (fmt : Bytes) (args : Args) (r : Bytes) (h : trustedResourceURLFormat fmt args = some r) :
    isSafeTrustedResourceURLPrefix fmt = true ∧
    (∀ l ∈ labels fmt, ∃ v, args.lookup l = some v ∧ urlContainsDoubleDotSegment v = false) ∧
    r = subst (fun l => pctEncodeAll ((args.lookup l).getD [])) fmt ∧
    urlContainsDoubleDotSegment r = false ∧
    (([47, 47] : Bytes).isPrefixOf fmt = false →
      ([47, 47] : Bytes).isPrefixOf r = false ∧ ([47, 92] : Bytes).isPrefixOf r = false) := by
  unfold trustedResourceURLFormat at h
  rw [formatErr_eq, replaceAllFunc_marker] at h
  cases hp : isSafeTrustedResourceURLPrefix fmt
  · simp [hp] at h
  cases he : (labels fmt).any (labelBad args)
  case true => simp [hp, he] at h
  simp only [hp, he, Bool.not_true, Bool.false_eq_true, if_false] at h
  have hlab : ∀ l ∈ labels fmt, ∃ v, args.lookup l = some v ∧ urlContainsDoubleDotSegment v = false := by
    intro l hl
    have : labelBad args l = false := by
      cases hb : labelBad args l with
      | false => rfl
      | true =>
        have : (labels fmt).any (labelBad args) = true := List.any_eq_true.mpr ⟨l, hl, hb⟩
        rw [he] at this; cases this
    unfold labelBad at this
    cases hlk : args.lookup l with
    | none => simp [hlk] at this
    | some v => exact ⟨v, rfl, by simpa [hlk] using this⟩
  have hsub : subst (fun l => markerRepl args (markerBytes l)) fmt =
      subst (fun l => pctEncodeAll ((args.lookup l).getD [])) fmt := by
    apply subst_congr
    intro l hl
    obtain ⟨v, hv, hd⟩ := hlab l hl
    simp only [markerRepl, markerLabel_markerBytes, hv, hd, Bool.false_eq_true, if_false, Option.getD_some,
      queryEscapeURL_eq]
  rw [hsub] at h
  generalize subst (fun l => pctEncodeAll ((args.lookup l).getD [])) fmt = ret at h
  cases hdd : urlContainsDoubleDotSegment ret
  case true => simp [hdd] at h
  simp only [hdd, Bool.false_eq_true, if_false] at h
  split at h
  · cases h
  · rename_i hnp
    simp only [Option.some.injEq] at h
    subst h
    refine ⟨rfl, hlab, rfl, hdd, ?_⟩
    intro hf
    simp only [hf, Bool.not_false, Bool.true_and, Bool.or_eq_true, not_or, Bool.not_eq_true] at hnp
    exact hnp

theorem piecesAux_lit_prefix (p rest : Bytes) (k : Nat) (hp : ∀ b ∈ p, b ≠ 37) :
    piecesAux (p.length + k) (p ++ rest) = p.map Piece.lit ++ piecesAux k rest := by
  induction p with
  | nil => simp
  | cons c t ih =>
    have hc : c ≠ 37 := hp c (by simp)
    have : (c :: t).length + k = (t.length + k) + 1 := by simp; omega
    rw [this]
    simp only [List.cons_append, piecesAux, markerAt_none_of_ne c _ hc, List.map_cons]
    rw [ih (fun b hb => hp b (by simp [hb]))]

theorem subst_lit_prefix (f : Bytes → Bytes) (p rest : Bytes) (hp : ∀ b ∈ p, b ≠ 37) :
    subst f (p ++ rest) = p ++ subst f rest := by
  rw [subst_eq, subst_eq]
  unfold pieces
  rw [List.length_append, piecesAux_lit_prefix p rest _ hp, List.flatMap_append]
  congr 1
  induction p with
  | nil => rfl
  | cons c t ih =>
    simp only [List.map_cons, List.flatMap_cons, pieceOut]
    rw [ih (fun b hb => hp b (by simp [hb]))]
    rfl

theorem skeleton_subst (f : Bytes → Bytes) (fmt : Bytes) (h : ∀ l, skeleton (f l) = []) :
    skeleton (subst f fmt) = skeleton (subst (fun _ => []) fmt) := by
  rw [subst_eq, subst_eq]
  generalize pieces fmt = ps
  induction ps with
  | nil => rfl
  | cons p ps ih =>
    cases p with
    | lit b =>
      simp only [List.flatMap_cons, pieceOut, skeleton, List.filter_append] at ih ⊢
      rw [ih]
    | marker l =>
      simp only [List.flatMap_cons, pieceOut, skeleton, List.filter_append, List.nil_append] at ih ⊢
      have := h l
      simp only [skeleton] at this
      rw [this, ih]
      rfl

end SafeHtml.Proofs.C13
