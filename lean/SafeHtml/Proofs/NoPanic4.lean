/-
C08: the no-progress guard of `escapeText` (a `panic` in the Go code, which has no fuel) does not fire in a call that
starts from a `CtxOK` context (`guard_dead`, `escapeText_no_guard`); `CtxOK` is carried through the analysis for runs
that return a result (`mo_top`); a fuel bound for sets without template calls. NOT shown, which is why `C08_step_panics`
keeps `msgLoop`: that a run ending in `.panic msgLoop` met only `CtxOK` contexts; that the model's own fuel `2·|s|+2` of
`escapeTextLoop`, which shares the message, suffices (see `StepOK`); a fuel bound with `{{template}}` calls.
-/
import SafeHtml.Proofs.NoPanic3
namespace SafeHtml.Proofs.NoPanic4
open SafeHtml SafeHtml.Model.Tmpl SafeHtml.Generated.Policy SafeHtml.Proofs.Analysis SafeHtml.Proofs.Frozen
  SafeHtml.Proofs.ConcApi SafeHtml.Proofs.NoPanic2 SafeHtml.Proofs.NoPanic3

/-! ### 1. how many bytes the scanners consume -/

/-- the three index functions are one search: the first suffix that `hit`s, which then has at least `k` bytes -/
theorem index_le {f : Bytes → Option Nat} {hit : Bytes → Bool} {k : Nat} (hk : ∀ s, hit s = true → k ≤ s.length)
    (hnil : ∀ n, f [] = some n → n + k ≤ 0)
    (hcons : ∀ c t, f (c :: t) = if hit (c :: t) then some 0 else (f t).map (· + 1)) :
    ∀ s n, f s = some n → n + k ≤ s.length := by
  intro s
  induction s with
  | nil => exact hnil
  | cons c t ih =>
    intro n h
    rw [hcons] at h
    split at h
    · rename_i hh; cases h; have := hk _ hh; omega
    · cases hi : f t with
      | none => rw [hi] at h; cases h
      | some m =>
        rw [hi] at h; cases h
        have := ih m hi
        simp only [List.length_cons]; omega

theorem indexByte_lt (b : Nat) (s : Bytes) (n : Nat) (h : indexByte b s = some n) : n < s.length :=
  index_le (hit := fun s => s.head? == some b) (k := 1)
    (fun s hs => by cases s with | nil => cases hs | cons _ _ => simp) (fun _ h => by cases h)
    (fun c t => by simp [indexByte]) s n h

theorem indexAny_lt (set : List Nat) (s : Bytes) (n : Nat) (h : indexAny set s = some n) : n < s.length :=
  index_le (hit := fun s => match s with | c :: _ => set.contains c | [] => false) (k := 1)
    (fun s hs => by cases s with | nil => cases hs | cons _ _ => simp) (fun _ h => by cases h)
    (fun c t => rfl) s n h

theorem isPrefixOf_len (p s : Bytes) (h : p.isPrefixOf s = true) : p.length ≤ s.length := by
  rw [List.isPrefixOf_iff_prefix] at h
  exact h.length_le

theorem indexSub_le (needle : Bytes) (s : Bytes) (n : Nat) (h : indexSub needle s = some n) :
    n + needle.length ≤ s.length :=
  index_le (hit := needle.isPrefixOf) (isPrefixOf_len needle)
    (fun n h => by
      simp only [indexSub] at h
      split at h
      · rename_i he; cases h; simp only [List.isEmpty_iff] at he; rw [he]; simp
      · cases h)
    (fun c t => rfl) s n h

theorem eatWhiteSpace_le : ∀ (s : Bytes), eatWhiteSpace s ≤ s.length := by
  intro s
  induction s with
  | nil => simp [eatWhiteSpace]
  | cons c t ih =>
    simp only [eatWhiteSpace]
    split
    · simp only [List.length_cons]; omega
    · omega

theorem eatAttrName_le : ∀ (s : Bytes) (n : Nat), eatAttrName s = some n → n ≤ s.length := by
  intro s
  induction s with
  | nil => intro n h; simp only [eatAttrName] at h; cases h; simp
  | cons c t ih =>
    intro n h
    simp only [eatAttrName] at h
    split at h
    · cases h; omega
    · split at h
      · cases h
      · cases hi : eatAttrName t with
        | none => rw [hi] at h; cases h
        | some k =>
          rw [hi] at h
          simp only [Option.map_some, Option.some.injEq] at h
          have := ih k hi
          simp only [List.length_cons]; omega

theorem eatTagNameRest_le : ∀ (f : Nat) (t : Bytes), eatTagNameRest f t ≤ t.length := by
  intro f
  induction f with
  | zero => intro t; simp [eatTagNameRest]
  | succ f ih =>
    intro t
    cases t with
    | nil => simp [eatTagNameRest]
    | cons x t =>
      simp only [eatTagNameRest]
      split
      · have := ih t; simp only [List.length_cons]; omega
      · split
        · split
          · rename_i y t'
            split
            · have := ih t'; simp only [List.length_cons]; omega
            · omega
          · omega
        · omega

theorem eatTagName_le (s : Bytes) : (eatTagName s).1 ≤ s.length := by
  unfold eatTagName
  split
  · simp
  · rename_i c t
    split
    · simp
    · simp only []
      have := eatTagNameRest_le t.length t
      simp only [List.length_cons]; omega


/-! ### 2. every transition reads at most |s| bytes, and at least one byte or changes the state -/

/-- how many zero-byte steps a state can still take before bytes must be consumed -/
def zS : State → Nat
  | .attrName => 2
  | .beforeValue => 2
  | .afterName => 1
  | .attr => 1
  | .specialBody => 1
  | _ => 0

/-- a step from context `c` on `r` remaining bytes: at most `r` bytes are read, and unless everything is read the
    potential `2·remaining + zS state` strictly decreases. This is the step property a bound on the loop's own fuel
    `2·|s|+2` would need; it is NOT proved of `transition`: it fails for the zero-byte return of `tSpecialTagEnd` with
    a special element name, and giving that step a bonus makes the initial potential exceed the fuel by one (an exact
    argument needs a potential that looks at the remaining input). `transition_step` shows the weaker `StepLite`. -/
def StepOK (c : Ctx) (r : Nat) (res : Ctx × Nat) : Prop :=
  res.2 ≤ r ∧ (res.2 = r ∨ zS res.1.state + 1 ≤ 2 * res.2 + zS c.state)

theorem tTextGo_bound (c : Ctx) : ∀ (f off : Nat) (s : Bytes),
    (tTextGo c f off s).2 ≤ off + s.length ∧
    ((tTextGo c f off s).2 = off + s.length ∨ off + 1 ≤ (tTextGo c f off s).2) := by
  intro f
  induction f with
  | zero => intro off s; simp [tTextGo]
  | succ f ih =>
    intro off s
    simp only [tTextGo]
    cases hn : indexByte 60 s with
    | none => exact ⟨Nat.le_refl _, .inl rfl⟩
    | some n =>
      simp only []
      have hlt := indexByte_lt 60 s n hn
      by_cases hre : (s.drop (n + 1)).isEmpty = true
      · rw [if_pos hre]; exact ⟨Nat.le_refl _, .inl rfl⟩
      · rw [if_neg hre]
        have hrlen : (s.drop (n + 1)).length = s.length - (n + 1) := List.length_drop
        have hrpos : 0 < (s.drop (n + 1)).length := by
          cases hd : s.drop (n + 1) with
          | nil => rw [hd] at hre; simp at hre
          | cons x t => simp
        by_cases hcs : commentStart.isPrefixOf (s.drop n) = true
        · rw [if_pos hcs]
          have := isPrefixOf_len _ _ hcs
          have hl : (s.drop n).length = s.length - n := List.length_drop
          have h4 : commentStart.length = 4 := rfl
          exact ⟨by simp only []; omega, .inr (by simp only []; omega)⟩
        · rw [if_neg hcs]
          generalize hr' : (if ((s.drop (n + 1)).head? == some 47) = true then (s.drop (n + 1)).drop 1
            else s.drop (n + 1)) = r'
          generalize hsk : (if ((s.drop (n + 1)).head? == some 47) = true then 2 else 1) = skip
          have hlen' : skip + r'.length = s.length - n := by
            by_cases hE : ((s.drop (n + 1)).head? == some 47) = true
            · rw [if_pos hE] at hr' hsk
              subst hr' hsk
              rw [List.length_drop]; omega
            · rw [if_neg hE] at hr' hsk
              subst hr' hsk
              omega
          have hskpos : 1 ≤ skip := by
            by_cases hE : ((s.drop (n + 1)).head? == some 47) = true
            · rw [if_pos hE] at hsk; omega
            · rw [if_neg hE] at hsk; omega
          split
          · exact ⟨Nat.le_refl _, .inl rfl⟩
          · have hm := eatTagName_le r'
            split
            · rename_i hm0
              have hmpos : (eatTagName r').1 ≠ 0 := by simpa using hm0
              exact ⟨by simp only []; omega, .inr (by simp only []; omega)⟩
            · obtain ⟨i1, i2⟩ := ih (off + n + skip) r'
              refine ⟨by omega, ?_⟩
              rcases i2 with h | h
              · exact .inl (by omega)
              · exact .inr (by omega)


theorem indexTagEndGo_le (tag : Bytes) : ∀ (f res : Nat) (s : Bytes) (k : Nat),
    indexTagEndGo tag f res s = some k → k ≤ res + s.length := by
  intro f
  induction f with
  | zero => intro res s k h; simp only [indexTagEndGo] at h; cases h
  | succ f ih =>
    intro res s k h
    simp only [indexTagEndGo] at h
    split at h
    · cases h
    · cases hi : indexSub specialTagEndPrefix s with
      | none => rw [hi] at h; cases h
      | some i =>
        rw [hi] at h
        simp only [] at h
        have hle := indexSub_le _ s i hi
        have h2 : specialTagEndPrefix.length = 2 := rfl
        have hl1 : (s.drop (i + specialTagEndPrefix.length)).length = s.length - (i + 2) := by
          rw [List.length_drop, h2]
        split at h
        · rename_i hcond
          have htl : tag.length ≤ (s.drop (i + specialTagEndPrefix.length)).length := by
            simp only [Bool.and_eq_true, decide_eq_true_eq] at hcond; exact hcond.1
          have hl2 : ((s.drop (i + specialTagEndPrefix.length)).drop tag.length).length =
              s.length - (i + 2) - tag.length := by rw [List.length_drop, hl1]
          split at h
          · split at h
            · cases h; omega
            · have := ih _ _ _ h
              rw [hl2] at this; rw [h2] at this; omega
          · have := ih _ _ _ h
            rw [hl2] at this; rw [h2] at this; omega
        · have := ih _ _ _ h
          rw [hl1] at this; rw [h2] at this; omega

theorem indexTagEnd_le (s tag : Bytes) (k : Nat) (h : indexTagEnd s tag = some k) : k ≤ s.length := by
  have := indexTagEndGo_le tag _ 0 s k h
  omega

def StepLite (c : Ctx) (r : Nat) (res : Ctx × Nat) : Prop :=
  res.2 ≤ r ∧ (1 ≤ res.2 ∨ res.1.state ≠ c.state)

theorem transition_step (c : Ctx) (s : Bytes) (hs : s ≠ []) : StepLite c s.length (transition c s) := by
  have hpos : 0 < s.length := by cases s with | nil => exact absurd rfl hs | cons x t => simp
  unfold transition
  split
  · -- text
    rename_i hst
    obtain ⟨h1, h2⟩ := tTextGo_bound c (s.length + 1) 0 s
    unfold tText
    refine ⟨by omega, .inl ?_⟩
    rcases h2 with h | h <;> omega
  · -- specialBody
    rename_i hst
    unfold tSpecialTagEnd
    split
    · split
      · rename_i i hi
        exact ⟨indexTagEnd_le _ _ _ hi, .inr (by rw [hst]; simp)⟩
      · exact ⟨Nat.le_refl _, .inl hpos⟩
    · exact ⟨Nat.le_refl _, .inl hpos⟩
  · -- tag
    rename_i hst
    unfold tTag
    simp only []
    have hws := eatWhiteSpace_le s
    split
    · exact ⟨Nat.le_refl _, .inl hpos⟩
    · rename_i hne
      have hlt : eatWhiteSpace s < s.length := by
        have : eatWhiteSpace s ≠ s.length := by simpa using hne
        omega
      have hdl : (s.drop (eatWhiteSpace s)).length = s.length - eatWhiteSpace s := List.length_drop
      split
      · exact ⟨by simp only []; omega, .inl (by simp only []; omega)⟩
      · split
        · exact ⟨Nat.le_refl _, .inl hpos⟩
        · rename_i n hn
          have := eatAttrName_le _ n hn
          split
          · exact ⟨Nat.le_refl _, .inl hpos⟩
          · rename_i hn0
            have : n ≠ 0 := by simpa using hn0
            exact ⟨by simp only []; omega, .inl (by simp only []; omega)⟩
  · -- attrName
    rename_i hst
    unfold tAttrName
    split
    · exact ⟨Nat.le_refl _, .inl hpos⟩
    · rename_i i hi
      have := eatAttrName_le _ i hi
      split
      · exact ⟨this, .inr (by rw [hst]; simp)⟩
      · rename_i he
        have : i = s.length := by simpa using he
        exact ⟨by simp only []; omega, .inl (by simp only []; omega)⟩
  · -- afterName
    rename_i hst
    unfold tAfterName
    simp only []
    have hws := eatWhiteSpace_le s
    split
    · exact ⟨Nat.le_refl _, .inl hpos⟩
    · rename_i hne
      have hlt : eatWhiteSpace s < s.length := by
        have : eatWhiteSpace s ≠ s.length := by simpa using hne
        omega
      split
      · exact ⟨hws, .inr (by rw [hst]; simp)⟩
      · exact ⟨by simp only []; omega, .inl (by simp only []; omega)⟩
  · -- beforeValue
    rename_i hst
    unfold tBeforeValue
    simp only []
    have hws := eatWhiteSpace_le s
    split
    · exact ⟨Nat.le_refl _, .inl hpos⟩
    · rename_i hne
      have hlt : eatWhiteSpace s < s.length := by
        have : eatWhiteSpace s ≠ s.length := by simpa using hne
        omega
      split
      · exact ⟨by simp only []; omega, .inl (by simp only []; omega)⟩
      · exact ⟨by simp only []; omega, .inl (by simp only []; omega)⟩
      · exact ⟨hws, .inr (by rw [hst]; simp)⟩
  · -- htmlCmt
    rename_i hst
    unfold tHTMLCmt
    split
    · rename_i i hi
      have := indexSub_le _ s i hi
      have h3 : commentEnd.length = 3 := rfl
      exact ⟨by simp only []; omega, .inl (by simp only []; omega)⟩
    · exact ⟨Nat.le_refl _, .inl hpos⟩
  · exact ⟨Nat.le_refl _, .inl hpos⟩
  · exact ⟨Nat.le_refl _, .inl hpos⟩



/-! ### 3. the second context invariant: a delimiter is only set inside an attribute value -/

def DI (c : Ctx) : Prop := c.delim ≠ .none → c.state = .attr
def CtxOK (c : Ctx) : Prop := CI c ∧ DI c

theorem di_of_none {c : Ctx} (h : c.delim = .none) : DI c := fun h' => absurd h h'

theorem di_none_of_state {c : Ctx} (h : DI c) (hs : c.state ≠ .attr) : c.delim = .none :=
  Decidable.not_not.mp fun hd => hs (h hd)

/-- every step either builds a context without delimiter, or leaves a state other than `attr` (where there is none),
    or enters `attr`, or keeps state and delimiter -/
theorem di_textClosed : TextClosed DI where
  err _ := di_of_none rfl
  step := by
    intro c c' hs hc
    cases hs with
    | afterName h => have hn := di_none_of_state hc (by rw [h]; simp); exact di_of_none hn
    | tag h => have hn := di_none_of_state hc (by rw [h]; simp); exact di_of_none hn
    | beforeValue h => have hn := di_none_of_state hc (by rw [h]; simp); exact di_of_none hn
    | attr d h hd => exact fun _ => rfl
    | value s hd => exact hc
    | _ => exact di_of_none rfl

theorem di_attrName {c : Ctx} (h : c.state = .tag ∨ c.state = .afterName) (hc : DI c) :
    DI { c with state := .attrName } := by
  have hn := di_none_of_state hc (by rcases h with h | h <;> rw [h] <;> simp)
  exact di_of_none hn

theorem di_nudge (c : Ctx) (hc : DI c) : DI (nudge c) := by
  unfold nudge
  split
  · rename_i hs; exact di_attrName (.inl hs) hc
  · exact fun _ => rfl
  · rename_i hs; exact di_attrName (.inr hs) hc
  · exact hc

/-- `join` returns one of its arguments, an error, or a context with the state and delimiter of its first argument,
    nudged or not -/
theorem di_closed : CtxClosed DI where
  toTextClosed := di_textClosed
  attrName := di_attrName
  join := by
    intro a b ha hb
    rcases join_cases a b with h | h | h | ⟨a0, b0, h0, _, _, h, _⟩ <;> rw [h]
    · exact ha
    · exact hb
    · exact di_of_none rfl
    · rcases h0 with ⟨rfl, _⟩ | ⟨rfl, _⟩
      · exact ha
      · exact di_nudge (named a b) ha

theorem ctxOK_closed : CtxClosed CtxOK where
  err code := ⟨ci_closed.err code, di_closed.err code⟩
  step hs h := ⟨ci_closed.step hs h.1, di_closed.step hs h.2⟩
  attrName hs h := ⟨ci_closed.attrName hs h.1, di_closed.attrName hs h.2⟩
  join ha hb := ⟨ci_closed.join ha.1 hb.1, di_closed.join ha.2 hb.2⟩

theorem ctxOK_default : CtxOK {} := ⟨ci_default, di_of_none rfl⟩

theorem tSpecialTagEnd_le (c : Ctx) (s : Bytes) : (tSpecialTagEnd c s).2 ≤ s.length := by
  unfold tSpecialTagEnd
  split
  · split
    · rename_i i hi; exact indexTagEnd_le _ _ _ hi
    · exact Nat.le_refl _
  · exact Nat.le_refl _

theorem contextAfterText_step (c : Ctx) (s : Bytes) (hc : CtxOK c) (hs : s ≠ []) :
    StepLite c s.length (contextAfterText c s) := by
  have hpos : 0 < s.length := by cases s with | nil => exact absurd rfl hs | cons x t => simp
  unfold contextAfterText
  split
  · -- no delimiter
    simp only []
    have hle := tSpecialTagEnd_le c s
    split
    · rename_i h0
      have h0' : (tSpecialTagEnd c s).2 = 0 := by simpa using h0
      exact ⟨Nat.zero_le _, .inr (special_zero_progress c s hc.1 hs h0')⟩
    · rename_i h0
      have hne : (tSpecialTagEnd c s).2 ≠ 0 := by simpa using h0
      have htk : s.take (tSpecialTagEnd c s).2 ≠ [] := by
        intro he
        have := congrArg List.length he
        rw [List.length_take] at this
        simp only [List.length_nil] at this
        omega
      obtain ⟨a, b⟩ := transition_step c _ htk
      rw [List.length_take] at a
      exact ⟨by omega, b⟩
  · -- inside a delimited attribute value
    rename_i hdel
    have hst : c.state = .attr := hc.2 (by intro h; rw [h] at hdel; simp at hdel)
    simp only []
    have hi : (indexAny (delimEnds c.delim) s).getD s.length ≤ s.length := by
      cases h : indexAny (delimEnds c.delim) s with
      | none => simp
      | some k => have := indexAny_lt _ s k h; simp; omega
    split
    · exact ⟨Nat.le_refl _, .inl hpos⟩
    · split
      · exact ⟨Nat.le_refl _, .inl hpos⟩
      · rename_i hne
        have hlt : (indexAny (delimEnds c.delim) s).getD s.length < s.length := by
          have : (indexAny (delimEnds c.delim) s).getD s.length ≠ s.length := by simpa using hne
          omega
        refine ⟨?_, ?_⟩
        · simp only []; split <;> omega
        · right
          dsimp only
          rw [hst]
          split <;> split <;> exact fun h => nomatch h


/-! ### 4. the no-progress guard is dead code -/

/-- `escapeTextLoop` WITHOUT the no-progress guard (everything else verbatim) -/
def escapeTextLoopNG (csp : Bool) (s : Bytes) : Nat → ETState → Option ETState ⊕ ETResult
  | 0, _ => .inr .panic
  | f+1, st =>
    if st.i == s.length then .inl (some st)
    else if csp && onPrefix.isPrefixOf st.c.attrName then .inr (.done (Ctx.errorCtx .cspCompatibility) none)
    else
      let c := st.c
      let (c1, nread) := contextAfterText c (s.drop st.i)
      let i1 := st.i + nread
      let rcdata := lookupSC elementContent c.elemName == some SC.RCDATA
      let (b, written) :=
        if c.state == .text || rcdata then
          let e := if c1.state != c.state then lastLt s st.i i1 else i1
          ltLoop s (s.length + 1) st.i e st.b st.written
        else if isComment c.state && c.delim == .none then (st.b, i1)
        else (st.b, st.written)
      if c.state == .specialBody && c.elemName == scriptName && !isJsTemplateBalanced s then
        .inr (.done (Ctx.errorCtx .unbalancedJsTemplate) none)
      else
        let (b, written) :=
          if c.state != c1.state && isComment c1.state && c1.delim == .none then
            let cs := if c1.state == .htmlCmt then i1 - 4 else i1 - 2
            (b ++ (s.take cs).drop written, i1)
          else (b, written)
        escapeTextLoopNG csp s f { c := c1, i := i1, written := written, b := b }

theorem escapeTextLoopNG_succ (csp : Bool) (s : Bytes) (f : Nat) (st : ETState) :
    escapeTextLoopNG csp s (f + 1) st =
      if st.i == s.length then .inl (some st)
      else if csp && onPrefix.isPrefixOf st.c.attrName then .inr (.done (Ctx.errorCtx .cspCompatibility) none)
      else if st.c.state == .specialBody && st.c.elemName == scriptName && !isJsTemplateBalanced s then
        .inr (.done (Ctx.errorCtx .unbalancedJsTemplate) none)
      else escapeTextLoopNG csp s f (etNext s st) := rfl

/-- **The guard `i == i1 && c.state == c1.state` does not fire from a `CtxOK` context**: the loop with the guard IS the
    loop without it. (Both still answer `.panic` when the model's fuel `2·|s|+2` runs out, which has no counterpart in
    the Go code.) -/
theorem guard_dead (csp : Bool) (s : Bytes) : ∀ (f : Nat) (st : ETState), CtxOK st.c → st.i ≤ s.length →
    escapeTextLoop csp s f st = escapeTextLoopNG csp s f st := by
  intro f
  induction f with
  | zero => intro st _ _; rfl
  | succ f ih =>
    intro st hc hi
    rw [escapeTextLoop_succ, escapeTextLoopNG_succ]
    split
    · rfl
    · rename_i hne
      have hne : st.i ≠ s.length := by simpa using hne
      have hrest : s.drop st.i ≠ [] := by
        intro he
        have := congrArg List.length he
        rw [List.length_drop, List.length_nil] at this
        omega
      obtain ⟨hle, hprog⟩ := contextAfterText_step st.c (s.drop st.i) hc hrest
      rw [List.length_drop] at hle
      have hg : (st.i == (etNext s st).i && st.c.state == (etNext s st).c.state) = false := by
        rw [etNext_i, etNext_c]
        rcases hprog with h | h
        · rw [show (st.i == st.i + (contextAfterText st.c (s.drop st.i)).2) = false by
            simp only [beq_eq_false_iff_ne]; omega]
          rfl
        · rw [show (st.c.state == (contextAfterText st.c (s.drop st.i)).1.state) = false by
            simp only [beq_eq_false_iff_ne]; exact fun h' => h h'.symm]
          exact Bool.and_false _
      rw [hg, if_neg Bool.false_ne_true]
      split
      · rfl
      · split
        · rfl
        · refine ih _ ?_ ?_
          · rw [etNext_c]; exact contextAfterText_closed ctxOK_closed.toTextClosed _ _ hc
          · rw [etNext_i]; omega

def escapeTextNG (csp : Bool) (c : Ctx) (s : Bytes) : ETResult :=
  if csp && (indexSub jsUri s).isSome then .done (Ctx.errorCtx .cspCompatibility) none
  else
    match escapeTextLoopNG csp s (2 * s.length + 2) { c := c, i := 0, written := 0, b := [] } with
    | .inr r => r
    | .inl none => .panic
    | .inl (some st) =>
      if st.written != 0 && st.c.state != .error then
        let b := if !isComment st.c.state || st.c.delim != .none then st.b ++ s.drop st.written else st.b
        .done st.c (some b)
      else .done st.c none

/-- From a context satisfying `CtxOK`, `escapeText` computes exactly what it computes without
    the no-progress guard. This is a statement about one call. That every call made by the analysis starts from such a
    context is not stated: `analysis_ctx` below speaks of the contexts in `.ok` results only, so nothing here covers a
    run of the analysis that ends in `.panic msgLoop`. -/
theorem escapeText_no_guard (csp : Bool) (c : Ctx) (s : Bytes) (hc : CtxOK c) :
    escapeText csp c s = escapeTextNG csp c s := by
  unfold escapeText escapeTextNG
  rw [guard_dead csp s _ _ hc (Nat.zero_le _)]
  generalize escapeTextLoopNG csp s _ _ = L
  split
  · rfl
  · cases L with
    | inr r => rfl
    | inl o => cases o <;> rfl


/-! ### 5. the context invariants through the six analysis functions, for runs that return a result -/

def MO (e : Esc) : Prop := ∀ p ∈ e.output, CtxOK p.2

theorem MO.lookup {e : Esc} (h : MO e) {n : String} {v : Ctx} (hl : alookup e.output n = some v) : CtxOK v :=
  MemoAll.lookup h hl

def NodeC (env : Env) (f : Nat) : Prop :=
  ∀ tn e c n, CtxOK c → MO e → OutK (fun r : Esc × Ctx => CtxOK r.2 ∧ MO r.1) (escapeNode env f tn e c n)
def ListC (env : Env) (f : Nat) : Prop :=
  ∀ tn e c l, CtxOK c → MO e → OutK (fun r : Esc × Ctx => CtxOK r.2 ∧ MO r.1) (escapeList env f tn e c l)
def BranchC (env : Env) (f : Nat) : Prop :=
  ∀ tn e c t el b, CtxOK c → MO e → OutK (fun r : Esc × Ctx => CtxOK r.2 ∧ MO r.1) (escapeBranch env f tn e c t el b)
def TreeC (env : Env) (f : Nat) : Prop :=
  ∀ e c name, CtxOK c → MO e → OutK (fun r : Esc × Ctx × String => CtxOK r.2.1 ∧ MO r.1) (escapeTree env f e c name)
def OutC (env : Env) (f : Nat) : Prop :=
  ∀ e c tname t, CtxOK c → MO e → OutK (fun r : Esc × Ctx => CtxOK r.2 ∧ MO r.1) (computeOutCtx env f e c tname t)
def BodyC (env : Env) (f : Nat) : Prop :=
  ∀ e c tname t, CtxOK c → MO e →
    OutK (fun r : Esc × Ctx × Bool => CtxOK r.2.1 ∧ MO r.1) (escapeTemplateBody env f e c tname t)

theorem outK_of {α} {Q : α → Prop} {x : Out α} (h : ∀ r, x = .ok r → Q r) : OutK Q x := by
  cases x with
  | ok a => exact h a rfl
  | panic m => trivial
  | fuel => trivial

/-- From a `CtxOK` context and a memo of `CtxOK` contexts, a run that returns `.ok` returns such a context and memo.
    (`OutK Q x` says what `Sat Q (fun _ => True) x` says: nothing of a run that panics or exhausts the fuel.) -/
theorem analysis_ctx (env : Env) : ∀ f,
    NodeC env f ∧ ListC env f ∧ BranchC env f ∧ TreeC env f ∧ OutC env f ∧ BodyC env f := by
  intro f
  obtain ⟨hn, hl, hb, ht, ho, hy⟩ := Analysis.analysis_ctx ctxOK_closed env f
  exact ⟨fun tn e c n hc hm => outK_of fun r hr => (hn tn e c n r hm hc hr).symm,
    fun tn e c l hc hm => outK_of fun r hr => (hl tn e c l r hm hc hr).symm,
    fun tn e c t el b hc hm => outK_of fun r hr => (hb tn e c t el b r hm hc hr).symm,
    fun e c name hc hm => outK_of fun r hr => (ht e c name r hm hc hr).symm,
    fun e c tname t hc hm => outK_of fun r hr => (ho e c tname t r hm hc hr).symm,
    fun e c tname t hc hm => outK_of fun r hr => (hy e c tname t r hm hc hr).symm⟩

/-- a critical section that returns keeps `MO` (the commit does not touch the memo); `MO` is not among the invariants
    of `NoPanic3.WInv`, and nothing at the level of `Api.step` uses it -/
theorem mo_top (w w' : World) (ns : Nat) (name : String) (r : Option ErrCode) (h : MO (w.ns ns).esc)
    (ht : escapeTemplateTop w ns name = .inr (w', r)) : MO (w'.ns ns).esc := by
  obtain ⟨e1, c, d, hesc, hr⟩ := top_inr ht
  have h1 : MO e1 := ((Analysis.analysis_ctx ctxOK_closed _ w.fuel).2.2.2.1 _ _ name _ h ctxOK_default hesc).1
  rcases hr with ⟨code, _, _, rfl⟩ | ⟨t, e2, _, hc, _, rfl⟩
  · rw [ns_markFailed, if_pos rfl]; exact h1
  · rw [ns_markOk, if_pos rfl]
    show MO e2
    unfold MO
    rw [(commit_post _ _ _ _ hc).1]
    exact h1

theorem mo_fresh (e : Esc) (ho : e.output = []) : MO e := by
  intro p hp; rw [ho] at hp; cases hp

/-! ### 6. a fuel bound for templates without `{{template}}` calls -/

mutual
def nodeNoCalls : Node → Prop
  | .tmpl _ _ _ => False
  | .ifN _ _ t e => listNoCalls t ∧ listNoCalls e
  | .rangeN _ _ t e => listNoCalls t ∧ listNoCalls e
  | .withN _ _ t e => listNoCalls t ∧ listNoCalls e
  | _ => True
def listNoCalls : NodeList → Prop
  | .nil => True
  | .cons n ns => nodeNoCalls n ∧ listNoCalls ns
end

mutual
/-- the fuel `escapeNode` / `escapeList` need (one unit per recursive call on the longest path) -/
def nodeNeed : Node → Nat
  | .ifN _ _ t e => 2 + max (listNeed t) (listNeed e)
  | .rangeN _ _ t e => 2 + max (listNeed t) (listNeed e)
  | .withN _ _ t e => 2 + max (listNeed t) (listNeed e)
  | _ => 1
def listNeed : NodeList → Nat
  | .nil => 1
  | .cons n ns => 1 + max (nodeNeed n) (listNeed ns)
end

/-- `if`, `with` and `range` are one kind of node to the analysis, the commit and the executor's call graph: a
    constructor `mk` over a then-list and an else-list; the flag says whether the then-list is re-entered (`range`) -/
inductive IsBranch : (NodeList → NodeList → Node) → Bool → Prop
  | ifN (id : Nat) (p : Pipe) : IsBranch (.ifN id p) false
  | withN (id : Nat) (p : Pipe) : IsBranch (.withN id p) false
  | rangeN (id : Nat) (p : Pipe) : IsBranch (.rangeN id p) true

/-- `break`, `continue` and comments: the analysis stops at them with an error context; they have no sub-lists, no
    call and no edit -/
inductive IsStop : Node → Prop
  | brk (id : Nat) : IsStop (.brk id)
  | cont (id : Nat) : IsStop (.cont id)
  | comment (id : Nat) : IsStop (.comment id)

section
variable {mk : NodeList → NodeList → Node} {b : Bool} (h : IsBranch mk b) (t el : NodeList)
include h

theorem IsBranch.escapeNode (env : Env) (f : Nat) (tn : String) (e : Esc) (c : Ctx) :
    escapeNode env (f + 1) tn e c (mk t el) = escapeBranch env f tn e c t el b := by
  cases h <;> rw [_root_.SafeHtml.Model.Tmpl.escapeNode]
theorem IsBranch.need : nodeNeed (mk t el) = 2 + max (listNeed t) (listNeed el) := by
  cases h <;> simp only [nodeNeed]
theorem IsBranch.noCalls : nodeNoCalls (mk t el) ↔ listNoCalls t ∧ listNoCalls el := by
  cases h <;> simp only [nodeNoCalls]
theorem IsBranch.callsIn (F : String → Prop) : nodeCallsIn F (mk t el) ↔ listCallsIn F t ∧ listCallsIn F el := by
  cases h <;> simp only [nodeCallsIn]
theorem IsBranch.applyEdits (tn : String) (e : Esc) : Node.applyEdits tn e (mk t el) =
    (do let t' ← NodeList.applyEdits tn e t; let el' ← NodeList.applyEdits tn e el; pure (mk t' el')) := by
  cases h <;> simp only [Node.applyEdits]
end

section
variable {n : Node} (h : IsStop n)
include h

theorem IsStop.escapeNode (env : Env) (f : Nat) (tn : String) (e : Esc) (c : Ctx) :
    escapeNode env (f + 1) tn e c n = .ok (e, Ctx.errorCtx .escapeAction) := by
  cases h <;> rw [_root_.SafeHtml.Model.Tmpl.escapeNode]
theorem IsStop.need : nodeNeed n = 1 := by cases h <;> simp only [nodeNeed]
theorem IsStop.noCalls : nodeNoCalls n := by cases h <;> simp only [nodeNoCalls]
theorem IsStop.callsIn (F : String → Prop) : nodeCallsIn F n := by cases h <;> simp only [nodeCallsIn]
theorem IsStop.applyEdits (tn : String) (e : Esc) : Node.applyEdits tn e n = some n := by
  cases h <;> simp only [Node.applyEdits]
end

theorem listNoCalls_cons (n : Node) (ns : NodeList) : listNoCalls (.cons n ns) ↔ nodeNoCalls n ∧ listNoCalls ns := by
  simp only [listNoCalls]

structure NodeCases (N : Node → Prop) (L : NodeList → Prop) : Prop where
  text : ∀ id b, N (.text id b)
  action : ∀ id p, N (.action id p)
  tmpl : ∀ id name p, N (.tmpl id name p)
  branch : ∀ {mk b}, IsBranch mk b → ∀ t el, L t → L el → N (mk t el)
  stop : ∀ {n}, IsStop n → N n
  nil : L .nil
  cons : ∀ n ns, N n → L ns → L (.cons n ns)

mutual
theorem NodeCases.node {N : Node → Prop} {L : NodeList → Prop} (h : NodeCases N L) : ∀ n, N n
  | .text id b => h.text id b
  | .action id p => h.action id p
  | .tmpl id name p => h.tmpl id name p
  | .ifN id p t el => h.branch (.ifN id p) t el (h.list t) (h.list el)
  | .withN id p t el => h.branch (.withN id p) t el (h.list t) (h.list el)
  | .rangeN id p t el => h.branch (.rangeN id p) t el (h.list t) (h.list el)
  | .brk id => h.stop (.brk id)
  | .cont id => h.stop (.cont id)
  | .comment id => h.stop (.comment id)
theorem NodeCases.list {N : Node → Prop} {L : NodeList → Prop} (h : NodeCases N L) : ∀ l, L l
  | .nil => h.nil
  | .cons n ns => h.cons n ns (h.node n) (h.list ns)
end

theorem escapeAction_ne_fuel (env : Env) (tn : String) (e : Esc) (c : Ctx) (id : Nat) (p : Pipe) :
    escapeAction env tn e c id p ≠ .fuel := by
  rcases escapeAction_cases env tn e c id p with ⟨_, h⟩ | ⟨c', h, _⟩ | ⟨s, _, h⟩ <;> rw [h]
  · exact fun h => nomatch h
  · exact fun h => nomatch h
  · rcases editAction_cases e (tn, id) s with ⟨_, h1⟩ | ⟨_, h1⟩ <;> rw [h1] <;> exact fun h => nomatch h

theorem escapeTextNode_ne_fuel (env : Env) (tn : String) (e : Esc) (c : Ctx) (id : Nat) (b : Bytes) :
    escapeTextNode env tn e c id b ≠ .fuel := by
  rcases escapeTextNode_cases env tn e c id b with ⟨_, h⟩ | ⟨c', _, h⟩ | ⟨c', nb, _, h⟩ <;> rw [h]
  · exact fun h => nomatch h
  · exact fun h => nomatch h
  · rcases editText_cases e (tn, id) nb with ⟨_, h1⟩ | ⟨_, h1⟩ <;> rw [h1] <;> exact fun h => nomatch h

theorem branch_fuel (env : Env) (t el : NodeList)
    (ht : ∀ f, listNeed t ≤ f → ∀ tn e c, escapeList env f tn e c t ≠ .fuel)
    (hel : ∀ f, listNeed el ≤ f → ∀ tn e c, escapeList env f tn e c el ≠ .fuel) (f : Nat)
    (hf : 1 + max (listNeed t) (listNeed el) ≤ f + 1) (tn : String) (e : Esc) (c : Ctx) (b : Bool) :
    escapeBranch env (f + 1) tn e c t el b ≠ .fuel := by
  have ht := ht f (by omega)
  have hel := hel f (by omega)
  rw [escapeBranch_succ]
  refine bind_ne_fuel (ht _ _ _) fun r => bind_ne_fuel ?_ fun j => ?_
  · split
    · exact bind_ne_fuel (ht _ _ _) fun _ => nofun
    · nofun
  · cases j with
    | none => exact bind_ne_fuel (hel _ _ _) fun _ => nofun
    | some j =>
      dsimp only
      split
      · nofun
      · exact bind_ne_fuel (hel _ _ _) fun _ => nofun

theorem fuel_callfree (env : Env) :
    NodeCases (fun n => nodeNoCalls n → ∀ f, nodeNeed n ≤ f → ∀ tn e c, escapeNode env f tn e c n ≠ .fuel)
      (fun l => listNoCalls l → ∀ f, listNeed l ≤ f → ∀ tn e c, escapeList env f tn e c l ≠ .fuel) where
  text id b _ f hf tn e c := by
    obtain ⟨g, rfl⟩ : ∃ g, f = g + 1 := ⟨f - 1, by simp only [nodeNeed] at hf; omega⟩
    rw [escapeNode_text]; exact escapeTextNode_ne_fuel _ _ _ _ _ _
  action id p _ f hf tn e c := by
    obtain ⟨g, rfl⟩ : ∃ g, f = g + 1 := ⟨f - 1, by simp only [nodeNeed] at hf; omega⟩
    rw [escapeNode_action]; exact escapeAction_ne_fuel _ _ _ _ _ _
  tmpl id name p hn := by simp only [nodeNoCalls] at hn
  branch hb t el ht hel hn f hf tn e c := by
    rw [hb.need] at hf
    obtain ⟨g, rfl⟩ : ∃ g, f = g + 2 := ⟨f - 2, by omega⟩
    rw [hb.escapeNode]
    exact branch_fuel env t el (ht ((hb.noCalls t el).mp hn).1) (hel ((hb.noCalls t el).mp hn).2) g (by omega) tn e c _
  stop hs _ f hf tn e c := by
    rw [hs.need] at hf
    obtain ⟨g, rfl⟩ : ∃ g, f = g + 1 := ⟨f - 1, by omega⟩
    rw [hs.escapeNode]; exact fun h => nomatch h
  nil _ f hf tn e c := by
    obtain ⟨g, rfl⟩ : ∃ g, f = g + 1 := ⟨f - 1, by simp only [listNeed] at hf; omega⟩
    rw [escapeList_nil]; exact fun h => nomatch h
  cons n ns hn hns hl f hf tn e c := by
    obtain ⟨h1, h2⟩ := (listNoCalls_cons n ns).mp hl
    simp only [listNeed] at hf
    obtain ⟨g, rfl⟩ : ∃ g, f = g + 1 := ⟨f - 1, by omega⟩
    rw [escapeList_cons]
    exact bind_ne_fuel (hn h1 g (by omega) _ _ _) fun r => hns h2 g (by omega) _ _ _

theorem node_fuel (env : Env) : ∀ n, nodeNoCalls n → ∀ f, nodeNeed n ≤ f → ∀ tn e c, escapeNode env f tn e c n ≠ .fuel :=
  (fuel_callfree env).node

theorem list_fuel (env : Env) : ∀ l, listNoCalls l → ∀ f, listNeed l ≤ f → ∀ tn e c, escapeList env f tn e c l ≠ .fuel :=
  (fuel_callfree env).list

theorem mergeEdits_ne_fuel {β} (from_ : List (EditKey × β)) : ∀ into, mergeEdits into from_ ≠ .fuel := by
  intro into
  rcases mergeEdits_cases from_ into with h | h <;> rw [h] <;> exact fun h => nomatch h

theorem body_ne_fuel (env : Env) (g : Nat) (e : Esc) (c : Ctx) (tname : String) (tr : Tree)
    (hnc : listNoCalls tr.root) (hg : listNeed tr.root ≤ g) :
    escapeTemplateBody env (g + 1) e c tname (some tr) ≠ .fuel := by
  rw [escapeTemplateBody_succ]
  refine bind_ne_fuel (list_fuel env tr.root hnc g hg _ _ _) fun r => ?_
  split
  · exact bind_ne_fuel (mergeEdits_ne_fuel _ _) fun _ => bind_ne_fuel (mergeEdits_ne_fuel _ _) fun _ =>
      bind_ne_fuel (mergeEdits_ne_fuel _ _) fun _ => nofun
  · nofun

theorem out_ne_fuel (env : Env) (g : Nat) (e : Esc) (c : Ctx) (tname : String) (tr : Tree)
    (hnc : listNoCalls tr.root) (hg : listNeed tr.root ≤ g) :
    computeOutCtx env (g + 2) e c tname (some tr) ≠ .fuel := by
  rw [computeOutCtx_succ]
  refine bind_ne_fuel (body_ne_fuel env g e c tname tr hnc hg) fun r => ?_
  split
  · nofun
  · refine bind_ne_fuel (body_ne_fuel env g _ _ tname tr hnc hg) fun r2 => ?_
    split
    · nofun
    · split <;> nofun

theorem edits_ne_fuel (e' : Esc) (names : List String) : ∀ (ts : TextSet), names.foldlM (editStep e') ts ≠ .fuel := by
  induction names with
  | nil => intro ts h; cases h
  | cons n t ih =>
    intro ts
    rw [List.foldlM_cons]
    refine bind_ne_fuel ?_ ih
    unfold editStep
    split
    · split <;> nofun
    · nofun

theorem commit_ne_fuel (text : TextSet) (e : Esc) : commit text e ≠ .fuel := by
  unfold commit
  dsimp only
  split
  · nofun
  · exact bind_ne_fuel (edits_ne_fuel _ _ _) fun _ => nofun

theorem treeOf_template {env : Env} {e : Esc} {name : String} {tr : Tree}
    (h : e.template env name = some (some tr)) : TreeOf env.text e name tr := by
  unfold Esc.template at h
  split at h
  · rename_i t hl; cases h; exact .inl hl
  · cases hd : alookup e.derived name with
    | none => rw [hd] at h; cases h
    | some d => rw [hd] at h; cases h; exact .inr (mem_of_alookup _ _ _ hd)

/-- **Fuel bound, templates without `{{template}}` calls.** If the tree analysed for `name` contains no `{{template}}`
    node and the world has `3 + listNeed root` units of fuel (`listNeed` = 1 + length of the longest path of
    list/branch recursion), `escapeTemplateTop` does not answer `.fuel`. With calls, each call adds
    `3 + listNeed callee` along the path and the set of reachable mangled names would have to be bounded: not done. -/
theorem top_no_fuel_nocalls (w : World) (ns : Nat) (name : String) (hf : 1 ≤ w.fuel)
    (htr : ∀ tr, TreeOf (w.ns ns).text (w.ns ns).esc name tr → listNoCalls tr.root ∧ 3 + listNeed tr.root ≤ w.fuel) :
    escapeTemplateTop w ns name ≠ .inl .fuel := by
  intro h
  rcases top_inl h with ⟨hesc, _⟩ | ⟨_, _, hx⟩ | ⟨e, _, _, _, _, ⟨hc, _⟩ | ⟨_, _, hx⟩⟩
  · obtain ⟨f, hfu⟩ : ∃ f, w.fuel = f + 1 := ⟨w.fuel - 1, by omega⟩
    rw [hfu] at hesc
    cases hm : alookup (w.ns ns).esc.output name with
    | some out => rw [escapeTree_succ, if_neg (by decide), mangle_default, hm] at hesc; cases hesc
    | none =>
      rw [escapeTree_text _ _ _ _ hm] at hesc
      split at hesc
      · rename_i tr htmpl
        obtain ⟨a, b⟩ := htr tr (treeOf_template htmpl)
        rcases bind_fuel hesc with h1 | ⟨_, _, h2⟩
        · obtain ⟨g, rfl⟩ : ∃ g, f = g + 2 := ⟨f - 2, by omega⟩
          exact out_ne_fuel _ g _ _ name tr a (by omega) h1
        · cases h2
      · cases hesc
  · cases hx
  · exact commit_ne_fuel _ _ hc
  · cases hx

end SafeHtml.Proofs.NoPanic4
