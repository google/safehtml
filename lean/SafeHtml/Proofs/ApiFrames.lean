/-
Frame properties of the API state machine: what each operation may touch (C07 "clones are isolated"), and which
operations can reset a failed analysis (C05 "failure is sticky").
-/
import SafeHtml.Proofs.ConcReach
namespace SafeHtml.Proofs.ApiFrames
open SafeHtml SafeHtml.Model.Tmpl SafeHtml.Proofs.Frozen SafeHtml.Proofs.ConcApi SafeHtml.Proofs.ConcReach

/-! ### 1. frames -/

/-- `w'` differs from `w` at most in name space `k` (if any), in objects living in `k`, and in things allocated after
    `w.next` (new name spaces, new objects); the fuel is the same. -/
def Frame (k : Option Nat) (w w' : World) : Prop :=
  w.next ≤ w'.next ∧ w'.fuel = w.fuel ∧
  (∀ j, j < w.next → k ≠ some j → w'.ns j = w.ns j) ∧
  (∀ id o, nlookup w.objs id = some o → k ≠ some o.ns → nlookup w'.objs id = some o)

theorem Frame.refl (k : Option Nat) (w : World) : Frame k w w :=
  ⟨Nat.le_refl _, rfl, fun _ _ _ => rfl, fun _ _ h _ => h⟩

theorem Frame.trans {k : Option Nat} {w w1 w2 : World} (h1 : Frame k w w1) (h2 : Frame k w1 w2) : Frame k w w2 := by
  obtain ⟨a1, b1, c1, d1⟩ := h1
  obtain ⟨a2, b2, c2, d2⟩ := h2
  refine ⟨Nat.le_trans a1 a2, b2.trans b1, ?_, ?_⟩
  · intro j hj hk; rw [c2 j (by omega) hk, c1 j hj hk]
  · intro id o ho hk; exact d2 id o (d1 id o ho hk) hk

/-! #### what a primitive update, and a chain of them, leaves alone -/

theorem top_objs_other (w w' : World) (ns : Nat) (name : String) (r : Option ErrCode)
    (h : escapeTemplateTop w ns name = .inr (w', r)) (id : Nat)
    (hid : ∀ oid, alookup (w.ns ns).set name = some oid → oid ≠ id) :
    nlookup w'.objs id = nlookup w.objs id :=
  (objs_top h id).elim (fun h1 => h1) fun ⟨_, _, h1, _⟩ => absurd rfl (hid id h1)

end SafeHtml.Proofs.ApiFrames

-- stated in `Prim`'s and `Steps`' own namespace, so that `(steps_apiParse …).frame hi` reads as a projection
namespace SafeHtml.Proofs.ConcReach
open SafeHtml SafeHtml.Model.Tmpl SafeHtml.Proofs.Frozen SafeHtml.Proofs.ConcApi SafeHtml.Proofs.ApiFrames

theorem Prim.frame {k : Nat} {X : Nat → Prop} {w w' : World} (hp : Prim k X w w') (hi : InvR w) :
    w'.fuel = w.fuel ∧ (∀ j, j ≠ k → w'.ns j = w.ns j) ∧
    (∀ id o, nlookup w.objs id = some o → o.ns ≠ k → nlookup w'.objs id = some o) := by
  have hlt : ∀ id o, nlookup w.objs id = some o → id < w.next := fun id o ho => (hi.2.2 id o ho).1
  cases hp with
  | fresh =>
    refine ⟨rfl, fun j hj => by rw [ns_setNs, if_neg hj]; rfl, fun id o ho _ => ?_⟩
    have := hlt id o ho
    show nlookup (World.setObj _ _ _).objs id = _
    rw [objs_setObj, if_neg (by omega)]; exact ho
  | bindNew _ _ name obj =>
    refine ⟨rfl, fun j hj => by rw [bindNew_ns, if_neg hj], fun id o ho _ => ?_⟩
    have := hlt id o ho
    rw [bindNew_objs, if_neg (by omega)]; exact ho
  | rebind _ _ name ex ho obj hk hex =>
    refine ⟨rfl, fun j hj => by rw [bindNew_ns, if_neg hj]; rfl, fun id o ho hne => ?_⟩
    have := hlt id o ho
    obtain ⟨oex, e1, e2, _⟩ := hi.2.1 k name ex hex (fun hx => nomatch hx)
    rw [bindNew_objs, if_neg (by show id ≠ w.next; omega), objs_setObj, if_neg]
    · exact ho
    · intro hid; subst hid; rw [ho] at e1; cases e1; exact hne e2
  | modObj _ tid t t' ht =>
    refine ⟨rfl, fun _ _ => rfl, fun id o ho hne => ?_⟩
    rw [objs_setObj, if_neg]
    · exact ho
    · intro hid; subst hid; rw [ho] at ht; cases ht; exact hne rfl
  | setText _ _ n => exact ⟨rfl, fun j hj => by rw [ns_setNs, if_neg hj], fun _ _ ho _ => ho⟩
  | setFlags _ _ n => exact ⟨rfl, fun j hj => by rw [ns_setNs, if_neg hj], fun _ _ ho _ => ho⟩
  | top _ _ _ name r _ h =>
    refine ⟨(fields_top h).1, fun j hj => ns_top h j hj, fun id o ho hne => ?_⟩
    rw [top_objs_other w w' k name r h id]
    · exact ho
    · intro oid hs hid
      obtain ⟨o2, g1, g2, _⟩ := hi.2.1 k name oid hs (fun hx => nomatch hx)
      rw [hid, ho] at g1; cases g1
      exact hne g2
  | bind _ _ h id => exact ⟨rfl, fun _ _ => rfl, fun _ _ ho _ => ho⟩

theorem Steps.frame {k : Option Nat} {X : Nat → Prop} {w w' : World} (h : Steps (Ns k w.next) X w w') (hi : InvR w) :
    Frame k w w' := by
  obtain ⟨h1, h2, h3⟩ := h.rel
    (Q := fun a b => b.fuel = a.fuel ∧ (∀ j, ¬ Ns k w.next j → b.ns j = a.ns j) ∧
      (∀ id o, nlookup a.objs id = some o → ¬ Ns k w.next o.ns → nlookup b.objs id = some o))
    (fun _ => ⟨rfl, fun _ _ => rfl, fun _ _ ho _ => ho⟩)
    (fun ⟨a1, a2, a3⟩ ⟨b1, b2, b3⟩ => ⟨b1.trans a1, fun j hj => (b2 j hj).trans (a2 j hj),
      fun id o ho hn => b3 id o (a3 id o ho hn) hn⟩)
    (fun hp hk _ hia => by
      obtain ⟨c1, c2, c3⟩ := hp.frame hia
      exact ⟨c1, fun j hj => c2 j (fun e => hj (e ▸ hk)), fun id o ho hn => c3 id o ho (fun e => hn (e ▸ hk))⟩)
  refine ⟨h.next_le, h1, fun j hj hk => h2 j ?_, fun id o ho hk => h3 id o ho ?_⟩
  · rintro (e | e)
    · exact hk e
    · omega
  · have := (hi.2.2 id o ho).2
    rintro (e | e)
    · exact hk e
    · omega

end SafeHtml.Proofs.ConcReach

namespace SafeHtml.Proofs.ApiFrames
open SafeHtml SafeHtml.Model.Tmpl SafeHtml.Proofs.Frozen SafeHtml.Proofs.ConcApi SafeHtml.Proofs.ConcReach

/-- `Clone` touches NOTHING that exists: it only allocates a new name space and new objects (trees are copied by
    value — the text set of the clone is a separate list). -/
theorem frame_apiClone (w : World) (h h' : Nat) (hi : InvR w) : Frame none w (apiClone w h h').1 :=
  (steps_apiClone w h h' hi).frame hi

/-! ### 2. what each operation may touch -/

/-- the name space of the receiver of an operation (`New` has none) -/
def nsOfOp (w : World) : Op → Option Nat
  | .new _ _ => none
  | .assocNew h _ _ => (w.obj h).map (·.2.ns)
  | .parse h _ => (w.obj h).map (·.2.ns)
  | .clone h _ => (w.obj h).map (·.2.ns)
  | .lookup h _ _ => (w.obj h).map (·.2.ns)
  | .templates h => (w.obj h).map (·.2.ns)
  | .csp h => (w.obj h).map (·.2.ns)
  | .exec h _ => (w.obj h).map (·.2.ns)
  | .execT h _ _ => (w.obj h).map (·.2.ns)
  | .execHTML h _ => (w.obj h).map (·.2.ns)
  | .execTHTML h _ _ => (w.obj h).map (·.2.ns)

/-- the objects whose analysis status an operation may change: `t.New(name)` replaces the object registered under
    `name`; an `Execute*` analyses the object registered under the executed name if it is not analysed yet -/
def Marks (w : World) : Op → Nat → Prop
  | .assocNew h name _, id => ∃ rid r, w.obj h = some (rid, r) ∧ alookup (w.ns r.ns).set name = some id
  | .exec h _, id => ExecMarks w h id
  | .execHTML h _, id => ExecMarks w h id
  | .execT h name _, id => ExecTMarks w h name id
  | .execTHTML h name _, id => ExecTMarks w h name id
  | _, _ => False

theorem steps_step (w : World) (op : Op) (hi : InvR w) :
    Steps (Ns (nsOfOp w op) w.next) (Marks w op) w (Api.step w op).1 := by
  cases op with
  | new h name =>
    exact (Steps.one (prim_newSet w name) (.inr (Nat.le_refl _)) (fun _ h => h) hi).trans
      (.one (.bind w.next _ _ _) (.inr (Nat.le_refl _)) (fun _ h => h) ((prim_newSet w name).invR hi))
  | assocNew h name h' =>
    simp only [Api.step, nsOfOp]
    cases hobj : w.obj h with
    | none => exact .refl _
    | some p =>
      obtain ⟨oid, o⟩ := p
      have s1 := (steps_assocNew w o.ns name hi (hi.2.2 oid o (obj_inv hobj).2).2).mono (fun _ h => h)
        (X' := Marks w (.assocNew h name h')) (fun id hx => ⟨oid, o, hobj, hx⟩)
      exact s1.trans (.one (.bind w.next _ _ _) (.inr (Nat.le_refl _)) (fun _ h => h.elim) (s1.invR hi))
  | parse h defs => exact steps_apiParse w h defs hi
  | clone h h' =>
    exact (steps_apiClone w h h' hi).mono (fun j hj => Or.inr (hj.resolve_left (fun e => nomatch e))) (fun _ h => h)
  | lookup h name h' => exact steps_apiLookup _ w h name h' hi (.inr (Nat.le_refl _))
  | templates h => exact .refl _
  | csp h =>
    simp only [Api.step, nsOfOp]
    cases hobj : w.obj h with
    | none => exact .refl _
    | some p => exact .one (.setFlags w p.2.ns _ rfl rfl rfl (fun h => h)) (.inl rfl) (fun _ h => h) hi
  | exec h d => rw [step_exec]; exact steps_critExecute w h hi
  | execHTML h d => rw [step_execHTML]; exact steps_critExecute w h hi
  | execT h n d => rw [step_execT]; exact steps_critExecuteTemplate w h n hi
  | execTHTML h n d => rw [step_execTHTML]; exact steps_critExecuteTemplate w h n hi

theorem step_frame (w : World) (op : Op) (hi : InvR w) : Frame (nsOfOp w op) w (Api.step w op).1 :=
  (steps_step w op hi).frame hi


/-! ### 3. isolation of name spaces (C07) -/

/-- no operation of the list has its receiver in name space `j` (checked in the world in which the operation runs) -/
def OpsAvoid (j : Nat) : World → List Op → Prop
  | _, [] => True
  | w, op :: t => nsOfOp w op ≠ some j ∧ OpsAvoid j (Api.step w op).1 t

theorem run_avoid (j : Nat) : ∀ (ops : List Op) (w : World), InvR w → j < w.next → OpsAvoid j w ops →
    (Api.run w ops).ns j = w.ns j ∧ (Api.run w ops).fuel = w.fuel ∧
    (∀ id o, nlookup w.objs id = some o → o.ns = j → nlookup (Api.run w ops).objs id = some o) := by
  intro ops
  induction ops with
  | nil => intro w _ _ _; exact ⟨rfl, rfl, fun _ _ h _ => h⟩
  | cons op t ih =>
    intro w hi hj ha
    obtain ⟨a1, a2⟩ := ha
    obtain ⟨f1, f2, f3, f4⟩ := step_frame w op hi
    obtain ⟨g1, g2, g3⟩ := ih (Api.step w op).1 (invR_step w op hi) (by omega) a2
    refine ⟨?_, ?_, ?_⟩
    · show (Api.run (Api.step w op).1 t).ns j = _
      rw [g1, f3 j hj a1]
    · show (Api.run (Api.step w op).1 t).fuel = _
      rw [g2, f2]
    · intro id o ho hns
      exact g3 id o (f4 id o ho (by rw [hns]; exact a1)) hns

theorem isolated (w : World) (hi : InvR w) (j : Nat) (hj : j < w.next) (ops : List Op) (ha : OpsAvoid j w ops)
    (o : TObj) (hns : o.ns = j) (d : Value) : textExecute (Api.run w ops) o d = textExecute w o d := by
  obtain ⟨g1, g2, _⟩ := run_avoid j ops w hi hj ha
  exact textExecute_congr (by rw [hns, g1]) g2 rfl rfl d

theorem bind_obj (w : World) (h id : Nat) : (w.bind h id).obj h = (nlookup w.objs id).map (fun o => (id, o)) := by
  unfold World.obj World.bind
  simp only [nlookup_nset_same]
  cases ho : nlookup w.objs id with
  | none => simp [ho]
  | some o => simp [ho]

theorem clone_ok_ns (w : World) (h h' : Nat) (hi : InvR w) (hok : (apiClone w h h').2 = "ok") :
    ∃ rid o', (apiClone w h h').1.obj h' = some (rid, o') ∧ o'.ns = w.next := by
  rcases apiClone_cases w h h' with ⟨_, hc, hs⟩ | ⟨oid, o, _, _, rid, hrid, hc⟩ <;> rw [hc] at hok ⊢
  · exact absurd hok hs
  · have h0 := (prim_cloneHead w o.name (cloneText w o)).invR hi
    have h1 := (steps_cloneFold w.next (cloneText w o) _ h0 (by show w.next < w.next + 2; omega)).invR h0
    obtain ⟨o', g1, g2, _⟩ := h1.2.1 w.next o.name rid hrid (fun hx => nomatch hx)
    exact ⟨rid, o', by rw [bind_obj]; exact congrArg (Option.map fun o => (rid, o)) g1, g2⟩

/-- C07: clones are isolated. In a reachable world, `Clone` itself changes nothing that exists (so every object of
    the original executes as before); the clone lives in the brand-new name space `w.next`; and from then on any
    operations with receivers outside a name space `j` — e.g. any operations on the clone for `j` = the original's name
    space, or any operations on the original for `j` = the clone's — leave the execution of every object of `j`
    unchanged. -/
theorem C07_clone_isolated (w : World) (hr : Reachable w) (h h' : Nat) :
    (∀ id o d, nlookup w.objs id = some o →
        textExecute (Api.step w (.clone h h')).1 o d = textExecute w o d ∧
        nlookup (Api.step w (.clone h h')).1.objs id = some o) ∧
    ((apiClone w h h').2 = "ok" → ∃ rid o', (Api.step w (.clone h h')).1.obj h' = some (rid, o') ∧ o'.ns = w.next) ∧
    (∀ j, j < (Api.step w (.clone h h')).1.next → ∀ ops, OpsAvoid j (Api.step w (.clone h h')).1 ops →
      ∀ o d, o.ns = j →
        textExecute (Api.run (Api.step w (.clone h h')).1 ops) o d = textExecute (Api.step w (.clone h h')).1 o d) := by
  have hi := invR_reachable w hr
  have f := frame_apiClone w h h' hi
  refine ⟨?_, clone_ok_ns w h h' hi, ?_⟩
  · intro id o d ho
    have hns := (hi.2.2 id o ho).2
    refine ⟨?_, f.2.2.2 id o ho (fun hx => nomatch hx)⟩
    exact textExecute_congr (by
      show ((apiClone w h h').1.ns o.ns).text = _
      rw [f.2.2.1 o.ns hns (fun hx => nomatch hx)]) f.2.1 rfl rfl d
  · intro j hj ops ha o d hns
    exact isolated _ (invR_step w _ hi) j hj ops ha o hns d


/-! ### 4. which operations can change the analysis status of an object (C05) -/

/-- object `oid` keeps its analysis status -/
def SK (oid : Nat) (w w' : World) : Prop :=
  ∀ o, nlookup w.objs oid = some o → ∃ o', nlookup w'.objs oid = some o' ∧ o'.status = o.status

theorem SK.refl (oid : Nat) (w : World) : SK oid w w := fun o h => ⟨o, h, rfl⟩

theorem SK.trans {oid : Nat} {w w1 w2 : World} (h1 : SK oid w w1) (h2 : SK oid w1 w2) : SK oid w w2 := by
  intro o ho
  obtain ⟨o1, g1, g2⟩ := h1 o ho
  obtain ⟨o2, g3, g4⟩ := h2 o1 g1
  exact ⟨o2, g3, g4.trans g2⟩

theorem SK.of_eq {oid : Nat} {w w' : World} (h : nlookup w'.objs oid = nlookup w.objs oid) : SK oid w w' :=
  fun o ho => ⟨o, h.trans ho, rfl⟩

theorem sk_setObj (oid : Nat) (w : World) (id : Nat) (t t' : TObj) (ht : nlookup w.objs id = some t)
    (hs : t'.status = t.status) : SK oid w (w.setObj id t') := by
  intro o ho
  rw [objs_setObj]
  by_cases hid : oid = id
  · subst hid; rw [ht] at ho; cases ho; rw [if_pos rfl]; exact ⟨t', rfl, hs⟩
  · rw [if_neg hid]; exact ⟨o, ho, rfl⟩

end SafeHtml.Proofs.ApiFrames

namespace SafeHtml.Proofs.ConcReach
open SafeHtml SafeHtml.Model.Tmpl SafeHtml.Proofs.Frozen SafeHtml.Proofs.ConcApi SafeHtml.Proofs.ApiFrames

theorem Prim.sk {k : Nat} {X : Nat → Prop} {w w' : World} (hp : Prim k X w w') (hi : InvR w) (oid : Nat)
    (hx : ¬ X oid) : SK oid w w' := by
  have hlt : ∀ o, nlookup w.objs oid = some o → oid < w.next := fun o ho => (hi.2.2 oid o ho).1
  cases hp with
  | fresh =>
    intro o ho
    have := hlt o ho
    exact ⟨o, by show nlookup (World.setObj _ _ _).objs oid = _; rw [objs_setObj, if_neg (by omega)]; exact ho, rfl⟩
  | bindNew _ _ name obj =>
    intro o ho
    have := hlt o ho
    exact ⟨o, by rw [bindNew_objs, if_neg (by omega)]; exact ho, rfl⟩
  | rebind _ _ name ex ho' obj =>
    intro o ho
    have := hlt o ho
    exact ⟨o, by rw [bindNew_objs, if_neg (by show oid ≠ w.next; omega), objs_setObj, if_neg hx]; exact ho, rfl⟩
  | modObj _ tid t t' ht _ _ h3 => exact sk_setObj oid w tid t t' ht h3
  | setText => exact SK.refl _ _
  | setFlags => exact SK.refl _ _
  | top _ _ _ name r _ h => exact SK.of_eq (top_objs_other w w' k name r h oid (fun id hs hid => hx (hid ▸ hs)))
  | bind => exact SK.refl _ _

theorem Steps.sk {K X : Nat → Prop} {w w' : World} (h : Steps K X w w') (oid : Nat) (hx : ¬ X oid) : SK oid w w' :=
  h.rel (Q := SK oid) (SK.refl oid) SK.trans (fun hp _ hsub hi => hp.sk hi oid (fun h => hx (hsub oid h)))

end SafeHtml.Proofs.ConcReach

namespace SafeHtml.Proofs.ApiFrames
open SafeHtml SafeHtml.Model.Tmpl SafeHtml.Proofs.Frozen SafeHtml.Proofs.ConcApi SafeHtml.Proofs.ConcReach

theorem fk_critExecute (oid : Nat) (code : ErrCode) (w : World) (h : Nat) (o : TObj)
    (ho : nlookup w.objs oid = some o) (hs : o.status = .failed code)
    (hex : ∀ rid r, w.obj h = some (rid, r) → rid ≠ oid → alookup (w.ns r.ns).set r.name ≠ some oid) :
    ∃ o', nlookup (critExecute w h).1.objs oid = some o' ∧ o'.status = .failed code := by
  rcases critExecute_cases w h with ⟨_, hc⟩ | ⟨rid, r, hobj, ⟨_, hc, _⟩ | ⟨w', oc, _, hst, _, he, hc, _⟩⟩ <;> rw [hc]
  · exact ⟨o, ho, hs⟩
  · exact ⟨o, ho, hs⟩
  · rw [top_objs_other _ w' r.ns r.name oc he oid ?_]
    · exact ⟨o, ho, hs⟩
    · intro id hreg hid
      subst hid
      rw [ns_setNs_same] at hreg
      by_cases hid : rid = id
      · subst hid; rw [(obj_inv hobj).2] at ho; cases ho; rw [hs] at hst; cases hst
      · exact hex rid r hobj hid hreg

/-- the two ways an operation can reset the status of object `oid`:
    (i) `t.New(name)` where `name` is registered for `oid` in the receiver's set (`*existing = *emptyTmpl`, the known
        finding new-after-exec);
    (ii) `Execute` through a handle whose object is ANOTHER object with the name space and name under which `oid` is
        registered (the analysis marks the registered object, not the receiver). -/
def Resets (w : World) (oid : Nat) : Op → Prop
  | .assocNew h name _ => ∃ rid r, w.obj h = some (rid, r) ∧ alookup (w.ns r.ns).set name = some oid
  | .exec h _ => ∃ rid r, w.obj h = some (rid, r) ∧ rid ≠ oid ∧ alookup (w.ns r.ns).set r.name = some oid
  | .execHTML h _ => ∃ rid r, w.obj h = some (rid, r) ∧ rid ≠ oid ∧ alookup (w.ns r.ns).set r.name = some oid
  | _ => False

/-- C05: failure is sticky under ALL operations except the two of `Resets`. -/
theorem C05_failed_sticky_all_ops (w : World) (op : Op) (hi : InvR w) (oid : Nat) (o : TObj) (code : ErrCode)
    (ho : nlookup w.objs oid = some o) (hs : o.status = .failed code) (hnr : ¬ Resets w oid op) :
    ∃ o', nlookup (Api.step w op).1.objs oid = some o' ∧ o'.status = .failed code := by
  -- a failed object is not analysed again, so it is marked only where it is reset
  have hnm : ¬ Marks w op oid := by
    cases op with
    | assocNew h name h' => exact hnr
    | exec h d =>
      rintro ⟨rid, r, hobj, hst, hreg⟩
      by_cases hid : rid = oid
      · subst hid; rw [(obj_inv hobj).2] at ho; cases ho; rw [hs] at hst; cases hst
      · exact hnr ⟨rid, r, hobj, hid, hreg⟩
    | execHTML h d =>
      rintro ⟨rid, r, hobj, hst, hreg⟩
      by_cases hid : rid = oid
      · subst hid; rw [(obj_inv hobj).2] at ho; cases ho; rw [hs] at hst; cases hst
      · exact hnr ⟨rid, r, hobj, hid, hreg⟩
    | execT h n d => rintro ⟨_, _, t, _, _, ht, hst⟩; rw [ho] at ht; cases ht; rw [hs] at hst; cases hst
    | execTHTML h n d => rintro ⟨_, _, t, _, _, ht, hst⟩; rw [ho] at ht; cases ht; rw [hs] at hst; cases hst
    | _ => exact fun h => h
  obtain ⟨o', g1, g2⟩ := (steps_step w op hi).sk oid hnm o ho
  exact ⟨o', g1, g2.trans hs⟩

/-- no operation of the list resets `oid` (checked in the world in which the operation runs) -/
def NoReset (oid : Nat) : World → List Op → Prop
  | _, [] => True
  | w, op :: t => ¬ Resets w oid op ∧ NoReset oid (Api.step w op).1 t

theorem failed_sticky_run (oid : Nat) (code : ErrCode) : ∀ (ops : List Op) (w : World) (o : TObj), InvR w →
    nlookup w.objs oid = some o → o.status = .failed code → NoReset oid w ops →
    ∃ o', nlookup (Api.run w ops).objs oid = some o' ∧ o'.status = .failed code := by
  intro ops
  induction ops with
  | nil => intro w o _ ho hs _; exact ⟨o, ho, hs⟩
  | cons op t ih =>
    intro w o hi ho hs hn
    obtain ⟨o1, g1, g2⟩ := C05_failed_sticky_all_ops w op hi oid o code ho hs hn.1
    exact ih (Api.step w op).1 o1 (invR_step w op hi) g1 g2 hn.2

theorem execute_failed (w : World) (h oid : Nat) (o : TObj) (code : ErrCode) (d : Value)
    (hobj : w.obj h = some (oid, o)) (hs : o.status = .failed code) :
    (apiExecute w h d).2 = .err (analysisCls code) [] := by
  unfold apiExecute; simp [hobj, hs]

theorem executeTemplate_failed (w : World) (h rid : Nat) (r : TObj) (name : String) (oid : Nat) (o : TObj)
    (code : ErrCode) (d : Value) (hobj : w.obj h = some (rid, r))
    (hreg : alookup (w.ns r.ns).set name = some oid) (ho : nlookup w.objs oid = some o)
    (hs : o.status = .failed code) : (apiExecuteTemplate w h name d).2 = .err (analysisCls code) [] := by
  unfold apiExecuteTemplate
  have ho' : nlookup (w.setNs r.ns { w.ns r.ns with escaped := true }).objs oid = some o := ho
  simp [hobj, hreg, ho', hs]

/-- C05, for any interleaving: once the analysis of object `oid` has failed, after ANY sequence of operations
    (on any handles, in any sets) that contains no `Resets` step, every `Execute` through a handle bound to `oid`
    returns `.err (analysisCls code) []`, and so does every `ExecuteTemplate(name)` for a name registered for `oid`. -/
theorem C05_failed_forever (w : World) (hr : Reachable w) (oid : Nat) (o : TObj) (code : ErrCode)
    (ho : nlookup w.objs oid = some o) (hs : o.status = .failed code) (ops : List Op) (hn : NoReset oid w ops) :
    (∀ h d, nlookup (Api.run w ops).handles h = some oid →
      (apiExecute (Api.run w ops) h d).2 = .err (analysisCls code) []) ∧
    (∀ h rid r name d, (Api.run w ops).obj h = some (rid, r) →
      alookup ((Api.run w ops).ns r.ns).set name = some oid →
      (apiExecuteTemplate (Api.run w ops) h name d).2 = .err (analysisCls code) []) := by
  obtain ⟨o', g1, g2⟩ := failed_sticky_run oid code ops w o (invR_reachable w hr) ho hs hn
  refine ⟨?_, ?_⟩
  · intro h d hh
    apply execute_failed _ h oid o' code d _ g2
    unfold World.obj
    simp [hh, g1]
  · intro h rid r name d hobj hreg
    exact executeTemplate_failed _ h rid r name oid o' code d hobj hreg g1 g2

theorem no_reset_exec_registered (w : World) (oid h rid : Nat) (r : TObj) (d : Value) (hobj : w.obj h = some (rid, r))
    (hreg : alookup (w.ns r.ns).set r.name = some rid) : ¬ Resets w oid (.exec h d) := by
  rintro ⟨rid', r', h1, h2, h3⟩
  rw [hobj] at h1; cases h1
  rw [hreg] at h3; cases h3
  exact h2 rfl

theorem no_reset_other_ns (w : World) (hi : InvR w) (oid : Nat) (o : TObj) (ho : nlookup w.objs oid = some o)
    (op : Op) (hns : nsOfOp w op ≠ some o.ns) : ¬ Resets w oid op := by
  have key : ∀ (rid : Nat) (r : TObj) (nm : String), alookup (w.ns r.ns).set nm = some oid → r.ns = o.ns := by
    intro rid r nm hreg
    obtain ⟨o2, g1, g2, _⟩ := hi.2.1 r.ns nm oid hreg (fun hx => nomatch hx)
    rw [ho] at g1; cases g1
    exact g2.symm
  cases op with
  | assocNew h name h' =>
    rintro ⟨rid, r, h1, h2⟩
    apply hns
    simp only [nsOfOp, h1, Option.map_some]
    rw [key rid r name h2]
  | exec h d =>
    rintro ⟨rid, r, h1, _, h3⟩
    apply hns
    simp only [nsOfOp, h1, Option.map_some]
    rw [key rid r r.name h3]
  | execHTML h d =>
    rintro ⟨rid, r, h1, _, h3⟩
    apply hns
    simp only [nsOfOp, h1, Option.map_some]
    rw [key rid r r.name h3]
  | _ => exact fun h => h

/-! ### What is and is not covered

C07. Per operation `step_frame` says: `New` and `Clone` touch nothing that exists (`Clone` copies the text set by value;
the model shares nothing between a set and its clone); `t.New(name)` touches the receiver's name space and, when `name`
existed, the object registered under it (which LIVES there) is replaced by a copy of the root of a hidden new set;
`Parse` touches the receiver's name space and its objects; `Lookup`/`Templates` nothing but the harness' handle table;
`CSP` a flag; `Execute*` the receiver's name space and the object registered under the analysed name. Not covered:
results of `apiExecute` through HANDLES after foreign operations (the handle table is shared harness state: a
`Lookup`/`New`/`Clone` on another set may rebind any handle number); the statements are about objects.

C05. A failed object stays failed under every operation except those of `Resets`:
  (i)  `t.New(name)` where `name` is registered for the object in the receiver's set (new-after-exec /
       `*existing = *emptyTmpl`) — a genuine reset in the model;
  (ii) `Execute`/`ExecuteToHTML` through a handle whose object is ANOTHER object with the same name space and name as
       the registered failed object (the analysis marks the registered object). This needs an invariant over the handle
       table to be excluded, which is not proved here (`Proofs/NoPanic.lean` does it for worlds reachable from an empty
       handle table); `no_reset_exec_registered` discharges it for handles of registered objects, `no_reset_other_ns`
       for all operations with receivers in other name spaces.
  `ExecuteTemplate` never resets (it checks the status of the registered object before analysing).
-/

end SafeHtml.Proofs.ApiFrames
