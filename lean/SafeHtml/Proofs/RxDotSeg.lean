/- Byte-level reading of the unanchored pattern `(?i)(?:^|/)(?:\.|%2e)$`
(`endsWithDotSegmentPattern`, /repo commit 1e8186f). -/
import SafeHtml.Rx.Thm
import SafeHtml.Proofs.Utf8
import SafeHtml.Spec.UrlComponents
namespace SafeHtml
namespace Rx
open SafeHtml.Spec.UrlComp

theorem m_cls_decode (rs) (h : asciiCls rs = true) (f) (st : MSt) (x : Bytes) (k : MSt → List Sym → Option α) :
    m (.cls rs) f st (Utf8.decodeSyms x) k =
      match x with
      | [] => none
      | b :: t => if inCls rs b then k (adv st 1) (Utf8.decodeSyms t) else none := by
  cases x with
  | nil => rw [Utf8.decodeSyms_nil, m_cls_nil]
  | cons b t =>
    obtain ⟨y, rest, hd, hq, hr⟩ := Utf8.decodeSyms_head (inCls_ascii rs h) b t
    rw [hd, m_cls_cons, hq]
    show _ = if inCls rs b = true then k (adv st 1) (Utf8.decodeSyms t) else none
    cases hb : inCls rs b
    · rfl
    · rw [hr hb]

theorem m_eot_decode (f) (st : MSt) (x : Bytes) (k : MSt → List Sym → Option α) :
    m .eot f st (Utf8.decodeSyms x) k = if x.isEmpty then k st (Utf8.decodeSyms x) else none := by
  rw [m_eot, Utf8.decodeSyms_isEmpty]

theorem isSome_orElse {α} (a b : Option α) :
    (match a with | some r => some r | none => b).isSome = (a.isSome || b.isSome) := by
  cases a <;> simp

def Kf (i : Nat) : MSt → List Sym → Option Match := fun st _ => some ⟨i, st.pos, st.caps⟩

theorem findFrom_cons_isSome (r : Re) (f i : Nat) (c : Sym) (t : List Sym) :
    (findFrom r f i (c :: t)).isSome =
      ((m r f ⟨i, []⟩ (c :: t) (Kf i)).isSome || (findFrom r f (i + 1) t).isSome) := by
  show (match m r f ⟨i, []⟩ (c :: t) (Kf i) with | some x => some x | none => findFrom r f (i + 1) t).isSome = _
  cases m r f ⟨i, []⟩ (c :: t) (Kf i) <;> simp

theorem findFrom_nil_isSome (r : Re) (f i : Nat) :
    (findFrom r f i []).isSome = (m r f ⟨i, []⟩ [] (Kf i)).isSome := rfl

def dotRe : Re := .alt (.cls [(46, 46)]) (.cat (.cls [(37, 37)]) (.cat (.cls [(50, 50)]) (.cls [(69, 69), (101, 101)])))
def dotSegRe : Re := .cat (.alt .bot (.cls [(47, 47)])) (.cat dotRe .eot)

theorem inClsE (b : Nat) : inCls [(69, 69), (101, 101)] b = (b == 101 || b == 69) := by
  simp only [inCls, List.any_cons, List.any_nil, Bool.or_false]
  rw [Bool.eq_iff_iff]; simp; omega

theorem m_dot_eot (f) (st : MSt) (x : Bytes) (k : MSt → List Sym → Option Match)
    (hk : ∀ st s, (k st s).isSome = true) :
    (m (.cat dotRe .eot) f st (Utf8.decodeSyms x) k).isSome = dotOnly x := by
  unfold dotRe
  rw [m_cat, m_alt_isSome]
  simp only [m_cat, m_cls_decode _ (show asciiCls [(46, 46)] = true by decide),
    m_cls_decode _ (show asciiCls [(37, 37)] = true by decide), m_cls_decode _ (show asciiCls [(50, 50)] = true by decide),
    m_cls_decode _ (show asciiCls [(69, 69), (101, 101)] = true by decide), m_eot_decode, cls_lit, inClsE]
  unfold dotOnly
  rcases x with _ | ⟨a, _ | ⟨b, _ | ⟨c, _ | ⟨d, u⟩⟩⟩⟩ <;> simp only [stripDot]
  · simp
  · by_cases h1 : a = 46 <;> by_cases h2 : a = 37 <;> simp [h1, h2, hk]
  · by_cases h1 : a = 46 <;> by_cases h2 : a = 37 <;> simp [h1, h2]
  · by_cases h1 : a = 46 <;> by_cases h2 : a = 37 <;> by_cases h3 : b = 50 <;>
      by_cases h4 : c = 101 <;> by_cases h5 : c = 69 <;> simp [h1, h2, h3, h4, h5, hk]
  · by_cases h1 : a = 46 <;> by_cases h2 : a = 37 <;> by_cases h3 : b = 50 <;>
      by_cases h4 : c = 101 <;> by_cases h5 : c = 69 <;> simp [h1, h2, h3, h4, h5]

theorem slashDot_skip (p u : Bytes) (hp : ∀ x ∈ p, 128 ≤ x) : slashDot (p ++ u) = slashDot u := by
  induction p with
  | nil => rfl
  | cons a p ih =>
    have : (a == 47) = false := by have := hp a (by simp); simp; omega
    simp only [List.cons_append, slashDot, this, Bool.false_and, Bool.false_or]
    exact ih (fun x hx => hp x (by simp [hx]))

theorem m_dotSeg_at (f i : Nat) (x : Bytes) :
    (m dotSegRe f ⟨i, []⟩ (Utf8.decodeSyms x) (Kf i)).isSome =
      ((i == 0 && dotOnly x) || (match x with | [] => false | b :: t => b == 47 && dotOnly t)) := by
  unfold dotSegRe
  rw [m_cat, m_alt_isSome, m_bot, m_cls_decode _ (show asciiCls [(47, 47)] = true by decide)]
  have hk : ∀ st s, ((Kf i) st s).isSome = true := fun _ _ => rfl
  congr 1
  · by_cases hi : i = 0
    · subst hi; simp [m_dot_eot _ _ _ _ hk]
    · have : (i == 0) = false := by simp [hi]
      simp [this]
  · cases x with
    | nil => rfl
    | cons b t =>
      simp only [cls_lit]
      by_cases hb : b = 47
      · simp [hb, m_dot_eot _ _ _ _ hk]
      · simp [hb]

theorem findFrom_dotSeg (f : Nat) (x : Bytes) : ∀ i,
    (findFrom dotSegRe f i (Utf8.decodeSyms x)).isSome = ((i == 0 && dotOnly x) || slashDot x) := by
  induction x using Utf8.decode_chunks with
  | nil =>
    intro i
    have h := m_dotSeg_at f i []
    rw [Utf8.decodeSyms_nil] at h ⊢
    simp [findFrom_nil_isSome, h, slashDot]
  | ascii b t hb ih =>
    intro i
    have h := m_dotSeg_at f i (b :: t)
    rw [Utf8.decodeSyms_cons_ascii b t hb] at h ⊢
    simp [findFrom_cons_isSome, h, ih (i + 1), slashDot, Bool.or_assoc]
  | wide c p u hw hd ih =>
    intro i
    have h := m_dotSeg_at f i (p ++ u)
    rw [hd] at h ⊢
    rw [findFrom_cons_isSome, h, ih (i + 1), slashDot_skip p u hw.2.1]
    obtain ⟨a, p', rfl⟩ := List.exists_cons_of_ne_nil hw.1
    have : (a == 47) = false := by have := hw.2.1 a (by simp); simp; omega
    simp [this]

/-- `(?i)(?:^|/)(?:\.|%2e)$` = "the last path segment so far is exactly `.` or `%2e`" -/
theorem match_dotSeg (s : Bytes) : matchString dotSegRe s = endsWithDotSegment s := by
  simp [matchString, find, findFrom_dotSeg, endsWithDotSegment]

end Rx
end SafeHtml
