/-
C08, two more panic sites. "node shared between templates" (`msgShared`) cannot come out of the analysis or the commit
when node ids are distinct within every tree (`top_shared`), which holds for everything decoded from the harness' wire
format (`parseDefsBytes_ids`). The execution-time nil dereference cannot happen for a template analysed successfully
(`C08_exec_no_panic`). `C08_analysis_total` leaves `msgLoop`; that `Parse` and `Clone` keep the invariants used here
is shown in `NoPanic3`.
-/
import SafeHtml.Proofs.NoPanic
namespace SafeHtml.Proofs.NoPanic2
open SafeHtml SafeHtml.Model.Tmpl SafeHtml.Proofs.Analysis SafeHtml.Proofs.Frozen SafeHtml.Proofs.ConcApi
  SafeHtml.Proofs.ConcReach SafeHtml.Proofs.ApiFrames SafeHtml.Proofs.NoPanic

/-! ### 1. "node shared between templates" -/

mutual
/-- the ids of all nodes of a tree (assigned by position by the wire format, hence pairwise distinct) -/
def nodeIds : Node → List Nat
  | .text id _ => [id]
  | .action id _ => [id]
  | .tmpl id _ _ => [id]
  | .ifN id _ t e => id :: (listIds t ++ listIds e)
  | .rangeN id _ t e => id :: (listIds t ++ listIds e)
  | .withN id _ t e => id :: (listIds t ++ listIds e)
  | .brk id => [id]
  | .cont id => [id]
  | .comment id => [id]
def listIds : NodeList → List Nat
  | .nil => []
  | .cons n ns => nodeIds n ++ listIds ns
end

def IdsDistinct (l : NodeList) : Prop := (listIds l).Nodup

def kA (e : Esc) : List EditKey := e.actionEdits.map (·.1)
def kT (e : Esc) : List EditKey := e.tmplEdits.map (·.1)
def kX (e : Esc) : List EditKey := e.textEdits.map (·.1)
def Keys (e : Esc) (k : EditKey) : Prop := k ∈ kA e ∨ k ∈ kT e ∨ k ∈ kX e
def ND (e : Esc) : Prop := (kA e).Nodup ∧ (kT e).Nodup ∧ (kX e).Nodup
def KM (e : Esc) : Prop := ∀ k, Keys e k → Memo e k.1
def TD (text : TextSet) : Prop := ∀ n tr, text.lookup n = some (some tr) → IdsDistinct tr.root
def ED (e : Esc) : Prop := (∀ p ∈ e.derived, IdsDistinct p.2.root) ∧ (∀ p ∈ e.pristine, IdsDistinct p.2.root)

def OutS {α} (Q : α → Prop) : Out α → Prop
  | .ok a => Q a
  | .panic m => m ≠ msgShared
  | .fuel => True

theorem OutS.ok_of {α} {Q : α → Prop} {x : Out α} {r : α} (h : OutS Q x) (he : x = .ok r) : Q r := by
  subst he; exact h

theorem any_key_false {β} (l : List (EditKey × β)) (k : EditKey) (h : k ∉ l.map (·.1)) :
    (l.any fun p => p.1 == k) = false := by
  rw [List.any_eq_false]
  intro p hp
  have : p.1 ≠ k := fun heq => h (List.mem_map.mpr ⟨p, hp, heq⟩)
  simpa using this

theorem mergeEdits_disjoint {β} (from_ : List (EditKey × β)) : ∀ (into : List (EditKey × β)),
    (∀ p ∈ from_, ∀ q ∈ into, q.1 ≠ p.1) → (from_.map (·.1)).Nodup →
    mergeEdits into from_ = .ok (into ++ from_) := by
  induction from_ with
  | nil => intro into _ _; rw [mergeEdits_nil, List.append_nil]
  | cons p t ih =>
    intro into hd hn
    rw [List.map_cons, List.nodup_cons] at hn
    rw [mergeEdits_cons, if_neg, ih (into ++ [p]) ?_ hn.2, List.append_assoc, List.singleton_append]
    · intro p' hp' q hq
      rcases List.mem_append.mp hq with hq | hq
      · exact hd p' (List.mem_cons_of_mem _ hp') q hq
      · rw [List.mem_singleton.mp hq]
        exact fun heq => hn.1 (List.mem_map.mpr ⟨p', hp', heq.symm⟩)
    · rw [any_key_false _ _ fun h => ?_]
      · exact Bool.false_ne_true
      · obtain ⟨q, hq, heq⟩ := List.mem_map.mp h
        exact hd p (List.mem_cons_self ..) q hq heq

def Mono (e e' : Esc) : Prop := ∀ n, Memo e n → Memo e' n
/-- A key that a step adds is of one of two kinds: it is in `S` — `(tn, id)` for a node `id` of the current template
    `tn` that the step visits — and then fresh because node ids are distinct within a tree; or its template name was
    not memoized when the step began, and then fresh by `KM`, since pending keys have memoized names. The second kind
    is why the outer and the scratch edit lists of `escapeTemplateBody` are disjoint. -/
def Grow (S : EditKey → Prop) (e e' : Esc) : Prop := ∀ k, Keys e' k → Keys e k ∨ S k ∨ ¬ Memo e k.1
def PostS (S : EditKey → Prop) (e e' : Esc) : Prop := Mono e e' ∧ ND e' ∧ KM e' ∧ ED e' ∧ Grow S e e'

theorem PostS.refl (S : EditKey → Prop) (e : Esc) (h1 : ND e) (h2 : KM e) (h3 : ED e) : PostS S e e :=
  ⟨fun _ h => h, h1, h2, h3, fun _ h => .inl h⟩

theorem PostS.trans {S : EditKey → Prop} {e e1 e2 : Esc} (h1 : PostS S e e1) (h2 : PostS S e1 e2) : PostS S e e2 := by
  obtain ⟨m1, _, _, _, g1⟩ := h1
  obtain ⟨m2, n2, k2, d2, g2⟩ := h2
  refine ⟨fun n h => m2 n (m1 n h), n2, k2, d2, fun k hk => ?_⟩
  rcases g2 k hk with h | h | h
  · exact g1 k h
  · exact .inr (.inl h)
  · exact .inr (.inr (fun hm => h (m1 _ hm)))

theorem PostS.weaken {S S' : EditKey → Prop} {e e' : Esc} (h : PostS S e e') (hs : ∀ k, S k → S' k ∨ ¬ Memo e k.1) :
    PostS S' e e' := by
  obtain ⟨m, n, k, d, g⟩ := h
  refine ⟨m, n, k, d, fun k' hk => ?_⟩
  rcases g k' hk with h | h | h
  · exact .inl h
  · exact .inr (hs k' h)
  · exact .inr (.inr h)

def Ext (e e' : Esc) (a t x : List EditKey) : Prop := kA e' = kA e ++ a ∧ kT e' = kT e ++ t ∧ kX e' = kX e ++ x

theorem Ext.of_eq {e e' : Esc} (ha : e'.actionEdits = e.actionEdits) (ht : e'.tmplEdits = e.tmplEdits)
    (hx : e'.textEdits = e.textEdits) : Ext e e' [] [] [] := by
  unfold Ext kA kT kX; rw [ha, ht, hx]; exact ⟨(List.append_nil _).symm, (List.append_nil _).symm, (List.append_nil _).symm⟩

theorem Ext.keys {e e' : Esc} {a t x : List EditKey} (h : Ext e e' a t x) {k : EditKey} (hk : Keys e' k) :
    Keys e k ∨ k ∈ a ∨ k ∈ t ∨ k ∈ x := by
  unfold Keys at hk ⊢
  rw [h.1, h.2.1, h.2.2] at hk
  simp only [List.mem_append] at hk
  rcases hk with (hk | hk) | (hk | hk) | (hk | hk)
  · exact .inl (.inl hk)
  · exact .inr (.inl hk)
  · exact .inl (.inr (.inl hk))
  · exact .inr (.inr (.inl hk))
  · exact .inl (.inr (.inr hk))
  · exact .inr (.inr (.inr hk))

theorem Ext.nd {e e' : Esc} {a t x : List EditKey} (h : Ext e e' a t x) (hn : ND e) (ha : a.Nodup) (ht : t.Nodup)
    (hx : x.Nodup) (hd : ∀ k, k ∈ a ∨ k ∈ t ∨ k ∈ x → ¬ Keys e k) : ND e' := by
  have app : ∀ {l1 l2 : List EditKey}, l1.Nodup → l2.Nodup → (∀ k ∈ l2, k ∉ l1) → (l1 ++ l2).Nodup :=
    fun a b c => List.nodup_append.mpr ⟨a, b, fun x hx y hy hxy => c y hy (hxy ▸ hx)⟩
  unfold ND
  rw [h.1, h.2.1, h.2.2]
  exact ⟨app hn.1 ha fun k hk hk' => hd k (.inl hk) (.inl hk'),
    app hn.2.1 ht fun k hk hk' => hd k (.inr (.inl hk)) (.inr (.inl hk')),
    app hn.2.2 hx fun k hk hk' => hd k (.inr (.inr hk)) (.inr (.inr hk'))⟩

theorem PostS.of_ext {S : EditKey → Prop} {e e' : Esc} {a t x : List EditKey} (h1 : ND e) (h2 : KM e)
    (hext : Ext e e' a t x) (hm : Mono e e') (hd : ED e') (ha : a.Nodup) (ht : t.Nodup) (hx : x.Nodup)
    (hnew : ∀ k, k ∈ a ∨ k ∈ t ∨ k ∈ x → ¬ Keys e k ∧ Memo e' k.1 ∧ (S k ∨ ¬ Memo e k.1)) : PostS S e e' :=
  ⟨hm, hext.nd h1 ha ht hx fun k hk => (hnew k hk).1,
    fun _ hk => (hext.keys hk).elim (fun h => hm _ (h2 _ h)) fun h => (hnew _ h).2.1, hd,
    fun _ hk => (hext.keys hk).elim .inl fun h => .inr (hnew _ h).2.2⟩

theorem PostS.of_eq (S : EditKey → Prop) {e e' : Esc} (h1 : ND e) (h2 : KM e) (hm : Mono e e') (hd : ED e')
    (ha : e'.actionEdits = e.actionEdits) (ht : e'.tmplEdits = e.tmplEdits) (hx : e'.textEdits = e.textEdits) :
    PostS S e e' :=
  PostS.of_ext h1 h2 (Ext.of_eq ha ht hx) hm hd .nil .nil .nil fun _ hk => by rcases hk with h | h | h <;> cases h

theorem PostS.add {S : EditKey → Prop} {e e' : Esc} {k : EditKey} {a t x : List EditKey} (h1 : ND e) (h2 : KM e)
    (h3 : ED e) (hm : Memo e k.1) (hfr : ¬ Keys e k) (hS : S k) (hext : Ext e e' a t x)
    (hl : (a = [k] ∧ t = [] ∧ x = []) ∨ (a = [] ∧ t = [k] ∧ x = []) ∨ (a = [] ∧ t = [] ∧ x = [k]))
    (ho : e'.output = e.output) (hd : e'.derived = e.derived) (hp : e'.pristine = e.pristine) : PostS S e e' := by
  have hmono : Mono e e' := fun n h => by unfold Memo at h ⊢; rw [ho]; exact h
  have hed : ED e' := by unfold ED; rw [hd, hp]; exact h3
  have hk : ∀ k', k' ∈ a ∨ k' ∈ t ∨ k' ∈ x → k' = k := by
    rcases hl with ⟨rfl, rfl, rfl⟩ | ⟨rfl, rfl, rfl⟩ | ⟨rfl, rfl, rfl⟩ <;> simp
  refine PostS.of_ext h1 h2 hext hmono hed ?_ ?_ ?_ fun k' hk' => ?_
  · rcases hl with ⟨rfl, _⟩ | ⟨rfl, _⟩ | ⟨rfl, _⟩ <;> simp
  · rcases hl with ⟨_, rfl, _⟩ | ⟨_, rfl, _⟩ | ⟨_, rfl, _⟩ <;> simp
  · rcases hl with ⟨_, _, rfl⟩ | ⟨_, _, rfl⟩ | ⟨_, _, rfl⟩ <;> simp
  · rw [hk k' hk']; exact ⟨hfr, hmono _ hm, .inl hS⟩

theorem keys_scratch (e : Esc) (k : EditKey) : ¬ Keys (scratch e) k := by
  intro h; rcases h with h | h | h <;> cases h

def NodeS (env : Env) (f : Nat) : Prop :=
  ∀ tn e c n, ND e → KM e → ED e → Memo e tn → (∀ id ∈ nodeIds n, ¬ Keys e (tn, id)) → (nodeIds n).Nodup →
    OutS (fun r : Esc × Ctx => PostS (fun k => k.1 = tn ∧ k.2 ∈ nodeIds n) e r.1) (escapeNode env f tn e c n)
def ListS (env : Env) (f : Nat) : Prop :=
  ∀ tn e c l, ND e → KM e → ED e → Memo e tn → (∀ id ∈ listIds l, ¬ Keys e (tn, id)) → (listIds l).Nodup →
    OutS (fun r : Esc × Ctx => PostS (fun k => k.1 = tn ∧ k.2 ∈ listIds l) e r.1) (escapeList env f tn e c l)
def BranchS (env : Env) (f : Nat) : Prop :=
  ∀ tn e c t el b, ND e → KM e → ED e → Memo e tn → (∀ id ∈ listIds t ++ listIds el, ¬ Keys e (tn, id)) →
    (listIds t ++ listIds el).Nodup →
    OutS (fun r : Esc × Ctx => PostS (fun k => k.1 = tn ∧ k.2 ∈ listIds t ++ listIds el) e r.1)
      (escapeBranch env f tn e c t el b)
def TreeS (env : Env) (f : Nat) : Prop :=
  ∀ e c name, ND e → KM e → ED e →
    OutS (fun r : Esc × Ctx × String => PostS (fun _ => False) e r.1) (escapeTree env f e c name)
def OutSp (env : Env) (f : Nat) : Prop :=
  ∀ e c tname t, ND e → KM e → ED e → (∀ k, Keys e k → k.1 ≠ tname) → (∀ tr, t = some tr → IdsDistinct tr.root) →
    OutS (fun r : Esc × Ctx => PostS (fun k => k.1 = tname) e r.1) (computeOutCtx env f e c tname t)
def BodyS (env : Env) (f : Nat) : Prop :=
  ∀ e c tname t, ND e → KM e → ED e → (∀ k, Keys e k → k.1 ≠ tname) → (∀ tr, t = some tr → IdsDistinct tr.root) →
    OutS (fun r : Esc × Ctx × Bool => PostS (fun k => k.1 = tname) e r.1 ∧
        (r.2.2 = false → r.1.actionEdits = e.actionEdits ∧ r.1.tmplEdits = e.tmplEdits ∧ r.1.textEdits = e.textEdits))
      (escapeTemplateBody env f e c tname t)

theorem chain_fresh {tn : String} {ids1 ids2 : List Nat} {e e1 : Esc}
    (hp : PostS (fun k => k.1 = tn ∧ k.2 ∈ ids1) e e1) (hm : Memo e tn)
    (hfr : ∀ id ∈ ids1 ++ ids2, ¬ Keys e (tn, id)) (hnd : (ids1 ++ ids2).Nodup) :
    ∀ id ∈ ids2, ¬ Keys e1 (tn, id) := by
  intro id hid hk
  rcases hp.2.2.2.2 _ hk with h | h | h
  · exact hfr id (List.mem_append_right _ hid) h
  · exact (List.nodup_append.mp hnd).2.2 id h.2 id hid rfl
  · exact h hm

theorem chain_post {tn : String} {ids1 ids2 : List Nat} {e e1 e2 : Esc}
    (h1 : PostS (fun k => k.1 = tn ∧ k.2 ∈ ids1) e e1) (h2 : PostS (fun k => k.1 = tn ∧ k.2 ∈ ids2) e1 e2) :
    PostS (fun k => k.1 = tn ∧ k.2 ∈ ids1 ++ ids2) e e2 :=
  (h1.weaken (fun k hk => .inl ⟨hk.1, List.mem_append_left _ hk.2⟩)).trans
    (h2.weaken (fun k hk => .inl ⟨hk.1, List.mem_append_right _ hk.2⟩))

/-- **"node shared between templates" cannot happen in the analysis** when node ids are distinct within every tree -/
theorem analysis_shared (env : Env) (htd : TD env.text) : ∀ f,
    NodeS env f ∧ ListS env f ∧ BranchS env f ∧ TreeS env f ∧ OutSp env f ∧ BodyS env f := by
  -- `OutS Q` is `Sat Q (· ≠ msgShared)`, and `ED` is `EscAll IdsDistinct`
  have sameOut : ∀ {e e' : Esc}, e'.output = e.output → Mono e e' := fun ho n h => by
    unfold Memo at h ⊢; rw [ho]; exact h
  have setOutS : ∀ (S : EditKey → Prop) (e : Esc) (k : String) (v : Ctx), ND e → KM e → ED e →
      PostS S e (setOut e k v) := fun S e k v h1 h2 h3 =>
    PostS.of_eq S h1 h2 (fun _ h => isSome_aset _ _ _ _ h) h3 rfl rfl rfl
  refine fuel_induction ⟨?_, ?_, ?_, ?_, ?_, ?_⟩ ?_ ?_ ?_ ?_ ?_ ?_
  · intro _ _ _ _ _ _ _ _ _ _; rw [escapeNode_zero]; trivial
  · intro _ _ _ _ _ _ _ _ _ _; rw [escapeList_zero]; trivial
  · intro _ _ _ _ _ _ _ _ _ _ _ _; rw [escapeBranch_zero]; trivial
  · intro _ _ _ _ _ _; rw [escapeTree_zero]; trivial
  · intro _ _ _ _ _ _ _ _ _; rw [computeOutCtx_zero]; trivial
  · intro _ _ _ _ _ _ _ _ _; rw [escapeTemplateBody_zero]; trivial
  · intro f hb ht tn e c n h1 h2 h3 hm hfr hnd
    have hbr : ∀ (id : Nat) (t el : NodeList) (b : Bool),
        (∀ i ∈ id :: (listIds t ++ listIds el), ¬ Keys e (tn, i)) → (id :: (listIds t ++ listIds el)).Nodup →
        OutS (fun r : Esc × Ctx => PostS (fun k => k.1 = tn ∧ k.2 ∈ id :: (listIds t ++ listIds el)) e r.1)
          (escapeBranch env f tn e c t el b) := fun id t el b hfr' hnd' =>
      Sat.mono (hb tn e c t el b h1 h2 h3 hm (fun i hi => hfr' i (List.mem_cons_of_mem _ hi))
        (List.nodup_cons.mp hnd').2) (fun r hr => hr.weaken fun k hk => .inl ⟨hk.1, List.mem_cons_of_mem _ hk.2⟩)
        fun _ h => h
    -- one edit of the node `id` of `tn`, whose key is not pending in `e1`
    have one : ∀ {e1 e' : Esc} {id : Nat} {a t x : List EditKey}, ND e1 → KM e1 → ED e1 → Memo e1 tn →
        ¬ Keys e1 (tn, id) → Ext e1 e' a t x →
        (a = [(tn, id)] ∧ t = [] ∧ x = []) ∨ (a = [] ∧ t = [(tn, id)] ∧ x = []) ∨ (a = [] ∧ t = [] ∧ x = [(tn, id)]) →
        e'.output = e1.output → e'.derived = e1.derived → e'.pristine = e1.pristine →
        PostS (fun k => k.1 = tn ∧ k.2 ∈ [id]) e1 e' := fun g1 g2 g3 gm gf hext hl =>
      PostS.add g1 g2 g3 gm gf ⟨rfl, List.mem_singleton.mpr rfl⟩ hext hl
    cases n with
    | action id p =>
      rw [escapeNode_action]
      simp only [nodeIds] at hfr ⊢
      have hf := hfr id (List.mem_singleton.mpr rfl)
      refine escapeAction_sat (fun _ => by decide) (PostS.refl _ e h1 h2 h3) fun s => editAction_sat (fun hk => ?_)
        fun _ => one h1 h2 h3 hm hf ⟨List.map_append .., (List.append_nil _).symm, (List.append_nil _).symm⟩
          (.inl ⟨rfl, rfl, rfl⟩) rfl rfl rfl
      rw [any_key_false _ _ fun h => hf (.inl h)] at hk; cases hk
    | text id b =>
      rw [escapeNode_text]
      simp only [nodeIds] at hfr ⊢
      have hf := hfr id (List.mem_singleton.mpr rfl)
      refine escapeTextNode_sat (by decide) (PostS.refl _ e h1 h2 h3) fun nb => editText_sat (fun hk => ?_)
        fun _ => one h1 h2 h3 hm hf ⟨(List.append_nil _).symm, (List.append_nil _).symm, List.map_append ..⟩
          (.inr (.inr ⟨rfl, rfl, rfl⟩)) rfl rfl rfl
      rw [any_key_false _ _ fun h => hf (.inr (.inr h))] at hk; cases hk
    | ifN id p t el => rw [escapeNode_if]; simp only [nodeIds] at hfr hnd ⊢; exact hbr id t el false hfr hnd
    | withN id p t el => rw [escapeNode_with]; simp only [nodeIds] at hfr hnd ⊢; exact hbr id t el false hfr hnd
    | rangeN id p t el => rw [escapeNode_range]; simp only [nodeIds] at hfr hnd ⊢; exact hbr id t el true hfr hnd
    | tmpl id name p =>
      simp only [nodeIds] at hfr ⊢
      refine escapeNode_tmpl_sat (Q := fun e1 => PostS (fun _ => False) e e1) (ht e c name h1 h2 h3)
        (fun e1 hq => hq.weaken fun _ hk => hk.elim) fun e1 d hq => ?_
      have hf : ¬ Keys e1 (tn, id) := fun hk =>
        (hq.2.2.2.2 _ hk).elim (hfr id (List.mem_singleton.mpr rfl)) fun h => h.elim False.elim fun h => h hm
      refine editTmpl_sat (fun hk => ?_) fun _ => (hq.weaken fun _ hk => hk.elim).trans
        (one hq.2.1 hq.2.2.1 hq.2.2.2.1 (hq.1 tn hm) hf
          ⟨(List.append_nil _).symm, List.map_append .., (List.append_nil _).symm⟩ (.inr (.inl ⟨rfl, rfl, rfl⟩))
          rfl rfl rfl)
      rw [any_key_false _ _ fun h => hf (.inr (.inl h))] at hk; cases hk
    | brk id => rw [escapeNode_brk]; exact PostS.refl _ e h1 h2 h3
    | cont id => rw [escapeNode_cont]; exact PostS.refl _ e h1 h2 h3
    | comment id => rw [escapeNode_comment]; exact PostS.refl _ e h1 h2 h3
  · intro f hn hl tn e c l h1 h2 h3 hm hfr hnd
    cases l with
    | nil => rw [escapeList_nil]; exact PostS.refl _ e h1 h2 h3
    | cons n ns =>
      rw [escapeList_cons]
      simp only [listIds] at hfr hnd ⊢
      have hnd' := List.nodup_append.mp hnd
      refine Sat.bind (hn tn e c n h1 h2 h3 hm (fun id hid => hfr id (List.mem_append_left _ hid)) hnd'.1)
        fun r hr => ?_
      exact Sat.mono (hl tn r.1 r.2 ns hr.2.1 hr.2.2.1 hr.2.2.2.1 (hr.1 tn hm) (chain_fresh hr hm hfr hnd) hnd'.2.1)
        (fun _ hr2 => chain_post hr hr2) fun _ h => h
  · intro f hl tn e c t el b h1 h2 h3 hm hfr hnd
    have hnd' := List.nodup_append.mp hnd
    refine escapeBranch_sat (Q := fun e1 => PostS (fun k => k.1 = tn ∧ k.2 ∈ listIds t) e e1)
      (hl tn e c t h1 h2 h3 hm (fun id hid => hfr id (List.mem_append_left _ hid)) hnd'.1) (fun e1 c1 hq => ?_)
      (fun e1 hq => hq.weaken fun k hk => .inl ⟨hk.1, List.mem_append_left _ hk.2⟩) fun e1 hq => ?_
    · exact Sat.mono (hl tn (scratch e1) c1 t ⟨.nil, .nil, .nil⟩ (fun k hk => absurd hk (keys_scratch e1 k))
        (EscAll.scratch hq.2.2.2.1) (hq.1 tn hm) (fun id _ => keys_scratch e1 _) hnd'.1) (fun _ _ => trivial)
        fun _ h => h
    · exact Sat.mono (hl tn e1 c el hq.2.1 hq.2.2.1 hq.2.2.2.1 (hq.1 tn hm) (chain_fresh hq hm hfr hnd) hnd'.2.1)
        (fun _ hr2 => chain_post hq hr2) fun _ h => h
  · intro f ho e c name h1 h2 h3
    refine escapeTree_sat (PostS.refl _ e h1 h2 h3)
      (fun _ _ => PostS.of_eq _ h1 h2 (sameOut rfl) h3 rfl rfl rfl)
      (fun _ => PostS.of_eq _ h1 h2 (sameOut rfl) h3 rfl rfl rfl) fun tr hnone htm => ?_
    have hnm : ¬ Memo e (mangle c name) := by unfold Memo; rw [hnone]; exact Bool.false_ne_true
    obtain ⟨hed, htr⟩ := enter_all htd h3 c htm
    have hout := enter_output env e c name tr
    -- entering changes neither memo nor edits
    have hpm : PostS (fun _ => False) e (enter env e c name tr).1 :=
      PostS.of_eq _ h1 h2 (sameOut hout) hed (enter_actionEdits ..) (enter_tmplEdits ..) (enter_textEdits ..)
    have hback : ∀ n, Memo (enter env e c name tr).1 n → Memo e n := fun n h => by
      unfold Memo at h ⊢; rw [← hout]; exact h
    exact Sat.mono (ho _ c _ _ hpm.2.1 hpm.2.2.1 hed (fun k hk heq => hnm (heq ▸ hback _ (hpm.2.2.1 k hk))) htr)
      (fun r hr => hpm.trans (hr.weaken fun k hk => .inr fun hm => hnm (hk ▸ hback _ hm))) fun _ h => h
  · intro f hb e c tname t h1 h2 h3 hnoK ht
    refine computeOutCtx_sat
      (Q := fun e1 b => PostS (fun k => k.1 = tname) e e1 ∧
        (b = false → e1.actionEdits = e.actionEdits ∧ e1.tmplEdits = e.tmplEdits ∧ e1.textEdits = e.textEdits))
      (Q2 := fun e2 => PostS (fun k => k.1 = tname) e e2) (hb e c tname t h1 h2 h3 hnoK ht)
      (fun e1 v hq => hq.1.trans (setOutS _ e1 tname v hq.1.2.1 hq.1.2.2.1 hq.1.2.2.2.1)) (fun e1 c1 hq => ?_)
      (fun e2 v hq => hq.trans (setOutS _ e2 tname v hq.2.1 hq.2.2.1 hq.2.2.2.1))
    obtain ⟨p1, q1⟩ := hq
    obtain ⟨ea, et, ex⟩ := q1 rfl
    refine Sat.mono (hb e1 c1 tname t p1.2.1 p1.2.2.1 p1.2.2.2.1 (fun k hk => hnoK k ?_) ht)
      (fun _ hr2 => p1.trans hr2.1) fun _ h => h
    unfold Keys kA kT kX at hk ⊢
    rw [ea, et, ex] at hk; exact hk
  · intro f hl e c tname t h1 h2 h3 hnoK ht
    have hms : Mono e (scratch (setOut e tname c)) := fun n h => isSome_aset _ _ _ _ h
    have hmt : Memo (scratch (setOut e tname c)) tname := by
      unfold Memo; show (alookup (aset e.output tname c) tname).isSome = true; rw [alookup_aset, if_pos rfl]; rfl
    -- the keys the body adds to the scratch escaper are not pending outside
    have hdisj : ∀ {e1 : Esc}, PostS (fun k => k.1 = tname) (scratch (setOut e tname c)) e1 →
        ∀ k, Keys e1 k → ¬ Keys e k := fun hq k hk1 hk => by
      rcases hq.2.2.2.2 k hk1 with h | h | h
      · exact keys_scratch _ k h
      · exact hnoK k hk h
      · exact h (hms _ (h2 k hk))
    refine escapeTemplateBody_sat (B := (· ≠ msgShared))
      (Q := fun e1 => PostS (fun k => k.1 = tname) (scratch (setOut e tname c)) e1)
      (R := fun e' b => PostS (fun k => k.1 = tname) e e' ∧
        (b = false → e'.actionEdits = e.actionEdits ∧ e'.tmplEdits = e.tmplEdits ∧ e'.textEdits = e.textEdits))
      (fun _ => by decide) (fun tr htr => ?_) (fun e1 hq => ?_) (fun e1 hq => ⟨?_, fun hf => nomatch hf⟩)
      (fun e1 hq => ⟨(setOutS _ e tname c h1 h2 h3).trans
        (PostS.of_eq _ (e := setOut e tname c) h1 (fun k hk => hms _ (h2 k hk)) (sameOut rfl) h3 rfl rfl rfl),
        fun _ => ⟨rfl, rfl, rfl⟩⟩)
    · exact Sat.mono (hl tname (scratch (setOut e tname c)) c tr.root ⟨.nil, .nil, .nil⟩
        (fun k hk => absurd hk (keys_scratch _ k)) (EscAll.scratch (e := setOut e tname c) h3) hmt
        (fun id _ => keys_scratch _ _) (ht tr htr)) (fun _ hr => hr.weaken fun k hk => .inl hk.1) fun _ h => h
    · have mk : ∀ {β} (l1 l : List (EditKey × β)), (l1.map (·.1)).Nodup →
          (∀ k, k ∈ l1.map (·.1) → k ∉ l.map (·.1)) → Sat (fun _ => True) (· ≠ msgShared) (mergeEdits l l1) :=
        fun l1 l hn hd => by
          rw [mergeEdits_disjoint l1 l (fun p hp q hq heq =>
            hd p.1 (List.mem_map.mpr ⟨p, hp, rfl⟩) (List.mem_map.mpr ⟨q, hq, heq⟩)) hn]
          trivial
      exact ⟨mk _ _ hq.2.1.1 fun k hk hk' => hdisj hq k (.inl hk) (.inl hk'),
        mk _ _ hq.2.1.2.1 fun k hk hk' => hdisj hq k (.inr (.inl hk)) (.inr (.inl hk')),
        mk _ _ hq.2.1.2.2 fun k hk hk' => hdisj hq k (.inr (.inr hk)) (.inr (.inr hk'))⟩
    · obtain ⟨m1, n1, k1, d1, g1⟩ := hq
      refine PostS.of_ext (a := kA e1) (t := kT e1) (x := kX e1) h1 h2
        ⟨List.map_append .., List.map_append .., List.map_append ..⟩
        (fun n hn => isSome_foldl_aset _ _ _ (isSome_aset _ _ _ _ hn))
        (EscAll.merge (e := setOut e tname c) h3 d1) n1.1 n1.2.1 n1.2.2 fun k hk => ?_
      have hk1 : Keys e1 k := hk
      refine ⟨hdisj ⟨m1, n1, k1, d1, g1⟩ k hk1, isSome_foldl_aset_list _ _ _ (k1 k hk1), ?_⟩
      rcases g1 k hk1 with h | h | h
      · exact absurd h (keys_scratch _ k)
      · exact .inl h
      · exact .inr fun hm => h (hms _ hm)

/-! #### the commit keeps node ids -/

/-- two steps in `Option`, as `applyEdits` takes them on the two lists of `if`, `range` and `with` and on a `cons` -/
theorem opt_bind2 {α β γ} {a : Option α} {b : Option β} {f : α → β → γ} {r : γ}
    (h : (do let x ← a; let y ← b; pure (f x y)) = some r) : ∃ x y, a = some x ∧ b = some y ∧ r = f x y := by
  cases a with
  | none => cases h
  | some x =>
    cases b with
    | none => cases h
    | some y => cases h; exact ⟨x, y, rfl, rfl, rfl⟩

mutual
theorem node_apply_ids (tn : String) (e : Esc) : ∀ (n r : Node), Node.applyEdits tn e n = some r → nodeIds r = nodeIds n
  | .text id b, r, h => by
    simp only [Node.applyEdits] at h; cases h
    split <;> simp only [nodeIds]
  | .action id p, r, h => by
    simp only [Node.applyEdits] at h
    split at h
    · cases hh : ensurePipelineContains p _ with
      | none => rw [hh] at h; cases h
      | some p' => rw [hh] at h; cases h; simp only [nodeIds]
    · cases h; rfl
  | .tmpl id name p, r, h => by
    simp only [Node.applyEdits] at h; cases h
    split <;> simp only [nodeIds]
  | .ifN id p t el, r, h => by
    simp only [Node.applyEdits] at h
    obtain ⟨t', el', ht, hel, rfl⟩ := opt_bind2 h
    simp only [nodeIds, list_apply_ids tn e t t' ht, list_apply_ids tn e el el' hel]
  | .rangeN id p t el, r, h => by
    simp only [Node.applyEdits] at h
    obtain ⟨t', el', ht, hel, rfl⟩ := opt_bind2 h
    simp only [nodeIds, list_apply_ids tn e t t' ht, list_apply_ids tn e el el' hel]
  | .withN id p t el, r, h => by
    simp only [Node.applyEdits] at h
    obtain ⟨t', el', ht, hel, rfl⟩ := opt_bind2 h
    simp only [nodeIds, list_apply_ids tn e t t' ht, list_apply_ids tn e el el' hel]
  | .brk id, r, h => by simp only [Node.applyEdits] at h; cases h; rfl
  | .cont id, r, h => by simp only [Node.applyEdits] at h; cases h; rfl
  | .comment id, r, h => by simp only [Node.applyEdits] at h; cases h; rfl
theorem list_apply_ids (tn : String) (e : Esc) : ∀ (l r : NodeList), NodeList.applyEdits tn e l = some r →
    listIds r = listIds l
  | .nil, r, h => by simp only [NodeList.applyEdits] at h; cases h; rfl
  | .cons n ns, r, h => by
    simp only [NodeList.applyEdits] at h
    cases hn : Node.applyEdits tn e n with
    | none => rw [hn] at h; cases h
    | some n' =>
      cases hns : NodeList.applyEdits tn e ns with
      | none => rw [hn, hns] at h; cases h
      | some ns' =>
        rw [hn, hns] at h; cases h
        simp only [listIds, node_apply_ids tn e n n' hn, list_apply_ids tn e ns ns' hns]
end

theorem nd_km_of_nil {e : Esc} (ha : e.actionEdits = []) (ht : e.tmplEdits = []) (hx : e.textEdits = []) :
    ND e ∧ KM e := by
  unfold ND KM Keys kA kT kX
  rw [ha, ht, hx]
  exact ⟨⟨.nil, .nil, .nil⟩, fun k hk => by rcases hk with h | h | h <;> cases h⟩

/-- the invariant between critical sections needed for this panic site -/
def SI (text : TextSet) (e : Esc) : Prop := TD text ∧ ND e ∧ KM e ∧ ED e

theorem commit_shared (text : TextSet) (e : Esc) (h : SI text e) :
    OutS (fun r : TextSet × Esc => SI r.1 r.2) (commit text e) := by
  refine Sat.mono (commit_sat (T := IdsDistinct) (B := (· ≠ msgShared)) (fun n e l hl => ?_) (by decide) h.1 h.2.2.2)
    (fun r hr => ⟨hr.1, (nd_km_of_nil hr.2.2.1 hr.2.2.2.1 hr.2.2.2.2).1,
      (nd_km_of_nil hr.2.2.1 hr.2.2.2.1 hr.2.2.2.2).2, hr.2.1⟩) fun _ h => h
  cases hr : NodeList.applyEdits n e l with
  | some r => show (listIds r).Nodup; rw [list_apply_ids n e l r hr]; exact hl
  | none => exact (by decide : msgArgs ≠ msgShared)

theorem top_shared (w : World) (ns : Nat) (name : String) (h : SI (w.ns ns).text (w.ns ns).esc) :
    (∀ m, escapeTemplateTop w ns name = .inl (.panic m) → m ≠ msgShared) ∧
    (∀ w' r, escapeTemplateTop w ns name = .inr (w', r) → SI (w'.ns ns).text (w'.ns ns).esc) :=
  top_sat (J := SI) w ns name
    (Sat.mono ((analysis_shared (analysisEnv w ns) h.1 w.fuel).2.2.2.1 _ _ _ h.2.1 h.2.2.1 h.2.2.2)
      (fun _ hr => ⟨h.1, hr.2.1, hr.2.2.1, hr.2.2.2.1⟩) fun _ h => h)
    fun e he => commit_shared _ e he


/-! ### 2. the execution-time nil dereference -/

/-- `n` is not registered with a nil parse tree -/
def NTn (text : TextSet) (n : String) : Prop := text.lookup n ≠ some none
def NT (text : TextSet) (e : Esc) : Prop := ∀ n, Memo e n → NTn text n

def OutK {α} (Q : α → Prop) : Out α → Prop
  | .ok a => Q a
  | _ => True

def NM (text : TextSet) (e e' : Esc) : Prop := ∀ n, Memo e' n → Memo e n ∨ NTn text n

theorem NM.refl (text : TextSet) (e : Esc) : NM text e e := fun _ h => .inl h
theorem NM.trans {text : TextSet} {e e1 e2 : Esc} (h1 : NM text e e1) (h2 : NM text e1 e2) : NM text e e2 :=
  fun n h => (h2 n h).elim (h1 n) .inr
theorem NM.of_out {text : TextSet} {e e' : Esc} (h : e'.output = e.output) : NM text e e' := by
  intro n hm; left; unfold Memo at hm ⊢; rw [h] at hm; exact hm

theorem NM.setOut {text : TextSet} {e e' : Esc} (h : NM text e e') {k : String} (hk : NTn text k) (v : Ctx) :
    NM text e (Analysis.setOut e' k v) := by
  intro n hm
  unfold Memo at hm
  rw [show (Analysis.setOut e' k v).output = aset e'.output k v from rfl, alookup_aset] at hm
  split at hm
  · rename_i hn; exact .inr (hn ▸ hk)
  · exact h n hm

theorem template_NT {env : Env} {e : Esc} {n : String} {tr : Tree}
    (h : Esc.template env e n = some (some tr)) : NTn env.text n := by
  unfold Esc.template at h
  unfold NTn
  split at h
  · rename_i t hl; cases h; rw [hl]; intro hx; cases hx
  · rename_i hl; rw [hl]; intro hx; cases hx

theorem enter_NT {env : Env} {e : Esc} (c : Ctx) {name : String} {tr : Tree}
    (h : e.template env name = some (some tr)) (hne : (enter env e c name tr).2 ≠ none) :
    NTn env.text (mangle c name) := by
  rcases enter_cases env e c name tr with ⟨hm, _⟩ | ⟨_, dt, hdt, he⟩ | ⟨_, hdt, _⟩
  · rw [hm]; exact template_NT h
  · rw [he] at hne
    cases dt with
    | none => exact absurd rfl hne
    | some t2 => exact template_NT hdt
  · unfold NTn; rw [template_none _ hdt]; intro hx; cases hx

theorem analysis_NM (env : Env) : ∀ f,
    (∀ tn e c n, Sat (fun r : Esc × Ctx => NM env.text e r.1) (fun _ => True) (escapeNode env f tn e c n)) ∧
    (∀ tn e c l, Sat (fun r : Esc × Ctx => NM env.text e r.1) (fun _ => True) (escapeList env f tn e c l)) ∧
    (∀ tn e c t el b, Sat (fun r : Esc × Ctx => NM env.text e r.1) (fun _ => True)
      (escapeBranch env f tn e c t el b)) ∧
    (∀ e c name, Sat (fun r : Esc × Ctx × String => NM env.text e r.1) (fun _ => True) (escapeTree env f e c name)) ∧
    (∀ e c tname t, (t ≠ none → NTn env.text tname) →
      Sat (fun r : Esc × Ctx => NM env.text e r.1) (fun _ => True) (computeOutCtx env f e c tname t)) ∧
    (∀ e c tname t, (t ≠ none → NTn env.text tname) →
      Sat (fun r : Esc × Ctx × Bool => NM env.text e r.1 ∧ t ≠ none) (fun _ => True)
        (escapeTemplateBody env f e c tname t)) := by
  have after : ∀ {α} {e e1 : Esc} {x : Out α} {g : α → Esc}, NM env.text e e1 →
      Sat (fun r => NM env.text e1 (g r)) (fun _ => True) x → Sat (fun r => NM env.text e (g r)) (fun _ => True) x :=
    fun h hx => hx.mono (fun _ h2 => h.trans h2) fun _ h => h
  refine fuel_induction ⟨?_, ?_, ?_, ?_, ?_, ?_⟩ ?_ ?_ ?_ ?_ ?_ ?_
  · intro _ _ _ _; rw [escapeNode_zero]; trivial
  · intro _ _ _ _; rw [escapeList_zero]; trivial
  · intro _ _ _ _ _ _; rw [escapeBranch_zero]; trivial
  · intro _ _ _; rw [escapeTree_zero]; trivial
  · intro _ _ _ _ _; rw [computeOutCtx_zero]; trivial
  · intro _ _ _ _ _; rw [escapeTemplateBody_zero]; trivial
  · intro f hb ht tn e c n
    cases n with
    | action id p =>
      rw [escapeNode_action]
      exact escapeAction_sat (fun _ => trivial) (NM.refl _ e) fun s =>
        editAction_sat (fun _ => trivial) fun _ => NM.of_out rfl
    | text id b =>
      rw [escapeNode_text]
      exact escapeTextNode_sat trivial (NM.refl _ e) fun nb => editText_sat (fun _ => trivial) fun _ => NM.of_out rfl
    | ifN id p t el => rw [escapeNode_if]; exact hb ..
    | withN id p t el => rw [escapeNode_with]; exact hb ..
    | rangeN id p t el => rw [escapeNode_range]; exact hb ..
    | tmpl id name p =>
      exact escapeNode_tmpl_sat (Q := NM env.text e) (R := NM env.text e) (ht e c name) (fun _ h => h)
        fun e1 d hq => editTmpl_sat (fun _ => trivial) fun _ => hq.trans (NM.of_out rfl)
    | brk id => rw [escapeNode_brk]; exact NM.refl _ e
    | cont id => rw [escapeNode_cont]; exact NM.refl _ e
    | comment id => rw [escapeNode_comment]; exact NM.refl _ e
  · intro f hn hl tn e c l
    cases l with
    | nil => rw [escapeList_nil]; exact NM.refl _ e
    | cons n ns => rw [escapeList_cons]; exact (hn tn e c n).bind fun r hr => after hr (hl tn r.1 r.2 ns)
  · intro f hl tn e c t el b
    exact escapeBranch_sat (Q := NM env.text e) (R := NM env.text e) (hl tn e c t)
      (fun e1 c1 _ => (hl tn (scratch e1) c1 t).mono (fun _ _ => trivial) fun _ h => h) (fun _ h => h)
      fun e1 hq => after hq (hl tn e1 c el)
  · intro f ho e c name
    refine escapeTree_sat (NM.refl _ e) (fun _ _ => NM.of_out rfl) (fun _ => NM.of_out rfl) fun tr _ htm => ?_
    exact after (NM.of_out (enter_output env e c name tr)) (ho _ c _ _ (enter_NT c htm))
  · intro f hy e c tname t ht
    exact computeOutCtx_sat (Q := fun e1 _ => NM env.text e e1 ∧ t ≠ none) (Q2 := fun e2 => NM env.text e e2 ∧ t ≠ none)
      (R := NM env.text e) (hy e c tname t ht) (fun e1 v hq => hq.1.setOut (ht hq.2) v)
      (fun e1 c1 hq => (hy e1 c1 tname t ht).mono (fun _ h => ⟨hq.1.trans h.1, h.2⟩) fun _ h => h)
      fun e2 v hq => hq.1.setOut (ht hq.2) v
  · intro f hl e c tname t ht
    have hin : t ≠ none → NM env.text e (setOut e tname c) := fun h => (NM.refl _ e).setOut (ht h) c
    refine escapeTemplateBody_sat (Q := fun e1 => t ≠ none ∧ NM env.text (scratch (setOut e tname c)) e1)
      (R := fun e' _ => NM env.text e e' ∧ t ≠ none) (fun _ => trivial)
      (fun tr htr => (hl tname _ c tr.root).mono (fun _ h => ⟨by rw [htr]; exact fun hx => (nomatch hx), h⟩) fun _ h => h)
      (fun _ _ => ⟨mergeEdits_sat trivial _ _, mergeEdits_sat trivial _ _, mergeEdits_sat trivial _ _⟩)
      (fun e1 hq => ⟨fun n hm => ?_, hq.1⟩) (fun e1 hq => ⟨hin hq.1, hq.1⟩)
    rcases isSome_foldl_aset_inv _ _ n hm with h | h
    · exact hin hq.1 n h
    · exact (hq.2 n h).elim (hin hq.1 n) .inr

theorem installStep_NTn (ts : TextSet) (p : String × Tree) (n : String) (h : NTn ts n) : NTn (installStep ts p) n := by
  unfold NTn at h ⊢
  rcases installStep_lookup ts p n with h1 | ⟨_, h1⟩
  · rw [h1]; exact h
  · rw [h1]; intro hx; cases hx

theorem install_NTn (ds : List (String × Tree)) : ∀ (ts : TextSet) (n : String), NTn ts n →
    NTn (ds.foldl installStep ts) n := by
  induction ds with
  | nil => intro ts n h; exact h
  | cons q t ih => intro ts n h; exact ih _ n (installStep_NTn ts q n h)

theorem editStep_NTn (e : Esc) (ts ts' : TextSet) (m n : String) (h : editStep e ts m = .ok ts') (hn : NTn ts n) :
    NTn ts' n := by
  unfold editStep at h
  split at h
  · split at h
    · cases h
      unfold NTn at hn ⊢
      rw [lookup_set]
      split
      · intro hx; cases hx
      · exact hn
    · cases h
  · cases h; exact hn

theorem edits_NTn (e : Esc) (names : List String) : ∀ (ts ts' : TextSet) (n : String),
    names.foldlM (editStep e) ts = .ok ts' → NTn ts n → NTn ts' n := by
  induction names with
  | nil => intro ts ts' n h hn; cases h; exact hn
  | cons m t ih =>
    intro ts ts' n h hn
    rw [List.foldlM_cons] at h
    obtain ⟨ts1, h1, h2⟩ := bind_ok h
    exact ih ts1 ts' n h2 (editStep_NTn e ts ts1 m n h1 hn)

theorem nt_commit (text : TextSet) (e : Esc) (text2 : TextSet) (e2 : Esc) (h : NT text e)
    (hc : commit text e = .ok (text2, e2)) : NT text2 e2 := by
  have hout := (commit_post text e text2 e2 hc).1
  obtain ⟨pr, h1, _⟩ := commit_spec text e text2 e2 hc
  intro n hm
  have hm' : Memo e n := by unfold Memo at hm ⊢; rw [hout] at hm; exact hm
  exact edits_NTn _ _ _ _ n h1 (install_NTn e.derived text n (h n hm'))

theorem top_keeps_NT (w w' : World) (ns : Nat) (name : String) (r : Option ErrCode)
    (h : NT (w.ns ns).text (w.ns ns).esc) (ht : escapeTemplateTop w ns name = .inr (w', r)) :
    NT (w'.ns ns).text (w'.ns ns).esc :=
  (top_sat (J := NT) (B := fun _ => True) w ns name
    (((analysis_NM (analysisEnv w ns) w.fuel).2.2.2.1 _ _ _).mono (fun _ hr n hm => (hr n hm).elim (h n) id)
      fun _ h => h)
    fun e he => sat_of_ok fun r hc => nt_commit _ _ r.1 r.2 he hc).2 w' r ht

theorem nt_fresh (text : TextSet) (e : Esc) (ho : e.output = []) : NT text e := by
  intro n hm; unfold Memo at hm; rw [ho] at hm; cases hm

theorem fieldChain_ne : ∀ (l : List String) (v : Value), fieldChain v l ≠ .error .nilTree := by
  intro l
  induction l with
  | nil => intro v; simp only [fieldChain]; intro h; cases h
  | cons f rest ih =>
    intro v
    simp only [fieldChain]
    split
    · split
      · exact ih _
      · intro h; cases h
    · intro h; cases h
    · intro h; cases h
    · intro h; cases h

theorem runFn_map_ne (f : String) (v : Value) :
    (match runFn f v with
      | .ok r => (Except.ok r : Except ExecErr Value)
      | .error .sanitizer => .error .exec
      | .error .unsupported => .error .unsupported) ≠ .error .nilTree := by
  split <;> (intro h; cases h)

theorem evalCmd_ne (dot root : Value) (cmd : Cmd) (piped : Option Value) :
    evalCmd dot root cmd piped ≠ .error .nilTree := by
  -- every leaf is a value, a constant error other than `.nilTree`, a `fieldChain`, or the translation of `runFn`
  unfold evalCmd
  split
  · intro h; cases h
  · split
    · exact runFn_map_ne _ _
    · rename_i a
      have key : ∀ (fn : String) (av : Except ExecErr Value), av ≠ .error .nilTree →
          (match av with
            | .error e => (Except.error e : Except ExecErr Value)
            | .ok v =>
              match runFn fn v with
              | .ok r => .ok r
              | .error .sanitizer => .error .exec
              | .error .unsupported => .error .unsupported) ≠ .error .nilTree := by
        intro fn av hav
        cases av with
        | error e => simp only []; intro h; cases h; exact hav rfl
        | ok v => exact runFn_map_ne fn v
      apply key
      split
      · intro h; cases h
      · exact fieldChain_ne _ _
      · intro h; cases h
      · intro h; cases h
    · intro h; cases h
  · split
    · intro h; cases h
    · split
      · intro h; cases h
      · exact fieldChain_ne _ _
      · intro h; cases h
      · intro h; cases h
      · intro h; cases h
      · exact fieldChain_ne _ _
      · intro h; cases h
      · split <;> (intro h; cases h)
      · intro h; cases h
  · intro h; cases h

theorem evalPipe_go_ne (dot root : Value) : ∀ (cs : List Cmd) (piped : Option Value),
    evalPipe.go dot root cs piped ≠ .error .nilTree := by
  intro cs
  induction cs with
  | nil => intro piped; cases piped <;> (simp only [evalPipe.go]; intro h; cases h)
  | cons c rest ih =>
    intro piped
    simp only [evalPipe.go]
    cases hc : evalCmd dot root c piped with
    | error er =>
      intro h
      have : er = .nilTree := by
        simp only [bind, Except.bind] at h
        cases h; rfl
      rw [this] at hc
      exact evalCmd_ne dot root c piped hc
    | ok v => exact ih (some v)

theorem evalPipe_ne (dot root : Value) (p : Pipe) : evalPipe dot root p ≠ .error .nilTree := by
  unfold evalPipe
  split
  · intro h; cases h
  · exact evalPipe_go_ne dot root _ _

theorem pipe_then_ne {dot root : Value} {p : Pipe} {out : Bytes} {k : Value → ExecRes}
    (hk : ∀ v, (k v).err ≠ some .nilTree) :
    (match evalPipe dot root p with
      | .error er => (⟨out, some er⟩ : ExecRes)
      | .ok v => k v).err ≠ some .nilTree := by
  cases hev : evalPipe dot root p with
  | error er => exact fun h => evalPipe_ne dot root p (by rw [hev]; cases h; rfl)
  | ok v => exact hk v

def WalkOK (F : String → Prop) (plain : Bool) (text : TextSet) (f : Nat) : Prop :=
  (∀ depth dot root out n, nodeCallsIn F n → (walkNode plain text depth f dot root out n).err ≠ some .nilTree) ∧
  (∀ depth dot root out l, listCallsIn F l → (walkList plain text depth f dot root out l).err ≠ some .nilTree) ∧
  (∀ depth vs root out l, listCallsIn F l → (walkRange plain text depth f vs root out l).err ≠ some .nilTree)

theorem walk_no_nil (F : String → Prop) (plain : Bool) (text : TextSet) (hcl : Closed F text)
    (hnt : ∀ n, F n → NTn text n) : ∀ f, WalkOK F plain text f := by
  intro f
  induction f with
  | zero =>
    refine ⟨?_, ?_, ?_⟩
    · intro depth dot root out n _; simp only [walkNode]; intro h; cases h
    · intro depth dot root out l _; simp only [walkList]; intro h; cases h
    · intro depth vs root out l _; simp only [walkRange]; intro h; cases h
  | succ f ih =>
    obtain ⟨hn, hl, hr⟩ := ih
    refine ⟨?_, ?_, ?_⟩
    · intro depth dot root out n hc
      cases n with
      | text id b => simp only [walkNode]; intro h; cases h
      | action id p =>
        simp only [walkNode]
        refine pipe_then_ne fun v => ?_
        -- printing a value reports no error or `.unsupported`
        repeat' split
        all_goals (intro h; cases h)
      | brk id => simp only [walkNode]; intro h; cases h
      | cont id => simp only [walkNode]; intro h; cases h
      | comment id => simp only [walkNode]; intro h; cases h
      | ifN id p t e =>
        simp only [nodeCallsIn] at hc
        simp only [walkNode]
        refine pipe_then_ne fun v => ?_
        split
        · exact hl _ _ _ _ _ hc.1
        · exact hl _ _ _ _ _ hc.2
      | withN id p t e =>
        simp only [nodeCallsIn] at hc
        simp only [walkNode]
        refine pipe_then_ne fun v => ?_
        split
        · exact hl _ _ _ _ _ hc.1
        · exact hl _ _ _ _ _ hc.2
      | rangeN id p t e =>
        simp only [nodeCallsIn] at hc
        simp only [walkNode]
        refine pipe_then_ne fun v => ?_
        split
        · split
          · exact hl _ _ _ _ _ hc.2
          · exact hr _ _ _ _ _ hc.1
        · split
          · exact hl _ _ _ _ _ hc.2
          · exact hr _ _ _ _ _ hc.1
        · exact hl _ _ _ _ _ hc.2
        · exact hl _ _ _ _ _ hc.2
        · intro h; cases h
      | tmpl id name p =>
        simp only [nodeCallsIn] at hc
        simp only [walkNode]
        split
        · rename_i tr htr
          -- 2000 is the model's cap on the call depth (`ExecErr.depth`, Model/Tmpl/Exec.lean)
          have hk : ∀ d : Value, (if depth ≥ 2000 then (⟨out, some .depth⟩ : ExecRes)
              else walkList plain text (depth + 1) f d d out tr.root).err ≠ some .nilTree := fun d => by
            split
            · intro h; cases h
            · exact hl _ _ _ _ _ (hcl name hc tr htr)
          cases p with
          | none => exact hk _
          | some pp => exact pipe_then_ne hk
        · rename_i hnone
          exact absurd hnone (hnt name hc)
        · intro h; cases h
    · intro depth dot root out l hc
      cases l with
      | nil => simp only [walkList]; intro h; cases h
      | cons n ns =>
        simp only [listCallsIn] at hc
        simp only [walkList]
        split
        · exact hn _ _ _ _ _ hc.1
        · exact hl _ _ _ _ _ hc.2
    · intro depth vs root out l hc
      cases vs with
      | nil => simp only [walkRange]; intro h; cases h
      | cons v rest =>
        simp only [walkRange]
        split
        · exact hl _ _ _ _ _ hc
        · exact hr _ _ _ _ _ hc


theorem textExecute_no_panic (F : String → Prop) (w : World) (o : TObj) (d : Value)
    (hcl : Closed F (w.ns o.ns).text) (hnt : ∀ n, F n → NTn (w.ns o.ns).text n) (hF : F o.name) (m : String) :
    textExecute w o d ≠ .panic m := by
  unfold textExecute
  simp only []
  split
  · intro h; cases h
  · rename_i tr htr
    have hc : listCallsIn F tr.root := by
      split at htr
      · split at htr
        · rename_i t hl; subst htr; exact hcl o.name hF tr hl
        · cases htr
      · cases htr
    have := (walk_no_nil F false (w.ns o.ns).text hcl hnt w.fuel).2.1 0 d d [] tr.root hc
    split
    · intro h; cases h
    · rename_i hnil; exact absurd hnil this
    · intro h; cases h
    · intro h; cases h
    · intro h; cases h
    · intro h; cases h

/-- **The execution-time nil dereference is unreachable for analysed templates.** If the analysis of `o` succeeds in a
    name space satisfying `GoodNs` and `NT` (both hold for a set that has not been executed, and both are invariants
    of the critical sections — also when `Clone` has registered tree-less templates), then executing `o` never panics,
    neither right away nor after any later analyses in the set. -/
theorem C08_exec_no_panic (w0 : World) (ns : Nat) (hg : GoodNs (w0.ns ns)) (hnt : NT (w0.ns ns).text (w0.ns ns).esc)
    (o : TObj) (hons : o.ns = ns) (w1 : World) (h : escapeTemplateTop w0 ns o.name = .inr (w1, none))
    (after : List String) (d : Value) (m : String) :
    textExecute (analyses ns w1 after) o d ≠ .panic m := by
  obtain ⟨_, hcl⟩ := good_top w0 w1 ns o.name none hg h
  obtain ⟨hm, hc⟩ := hcl rfl
  have hnt1 := top_keeps_NT w0 w1 ns o.name none hnt h
  have hfro := C09_frozen_reachable w0 ns hg [] o hons w1 h after d
  rw [hfro]
  subst hons
  exact textExecute_no_panic (MemoOk (w1.ns o.ns).esc) w1 o d hc (fun n hn => hnt1 n hn.memo) hm m

/-! ### 3. the wire format assigns distinct node ids -/

def InRange (lo hi : Nat) (l : List Nat) : Prop := l.Nodup ∧ ∀ i ∈ l, lo ≤ i ∧ i < hi

theorem inRange_single (id hi : Nat) (h : id < hi) : InRange id hi [id] :=
  ⟨by simp, fun i hi' => by simp only [List.mem_singleton] at hi'; omega⟩

theorem inRange_mono {lo lo' hi hi' : Nat} {l : List Nat} (h : InRange lo hi l) (h1 : lo' ≤ lo) (h2 : hi ≤ hi') :
    InRange lo' hi' l := ⟨h.1, fun i hi => by have := h.2 i hi; omega⟩

theorem inRange_append {a b c : Nat} {l1 l2 : List Nat} (h1 : InRange a b l1) (h2 : InRange b c l2)
    (hab : a ≤ b) (hbc : b ≤ c) : InRange a c (l1 ++ l2) := by
  refine ⟨?_, ?_⟩
  · rw [List.nodup_append]
    refine ⟨h1.1, h2.1, ?_⟩
    intro x hx y hy hxy
    have := h1.2 x hx; have := h2.2 y hy; omega
  · intro i hi
    rcases List.mem_append.mp hi with h | h
    · have := h1.2 i h; omega
    · have := h2.2 i h; omega

theorem inRange_cons {id hi : Nat} {l : List Nat} (h : InRange (id + 1) hi l) (hlt : id < hi) :
    InRange id hi (id :: l) := by
  refine ⟨?_, ?_⟩
  · rw [List.nodup_cons]
    exact ⟨fun hm => by have := h.2 id hm; omega, h.1⟩
  · intro i hi'
    rcases List.mem_cons.mp hi' with rfl | h'
    · omega
    · have := h.2 i h'; omega

def NodeWr (f : Nat) : Prop := ∀ id ts n id' r, parseNode f id ts = some (n, id', r) → id < id' ∧ InRange id id' (nodeIds n)
def ListWr (f : Nat) : Prop := ∀ id ts l id' r, parseList f id ts = some (l, id', r) → id ≤ id' ∧ InRange id id' (listIds l)
def ItemsWr (f : Nat) : Prop := ∀ id ts l id' r, parseItems f id ts = some (l, id', r) → id ≤ id' ∧ InRange id id' (listIds l)

theorem branch_range {id id1 id2 : Nat} {t e : List Nat} (h1 : id + 1 ≤ id1 ∧ InRange (id + 1) id1 t)
    (h2 : id1 ≤ id2 ∧ InRange id1 id2 e) : id < id2 ∧ InRange id id2 (id :: (t ++ e)) :=
  ⟨by omega, inRange_cons (inRange_append h1.2 h2.2 h1.1 h2.1) (by omega)⟩

theorem single_range {n : Node} {id : Nat} (h : nodeIds n = [id]) : id < id + 1 ∧ InRange id (id + 1) (nodeIds n) :=
  ⟨Nat.lt_succ_self _, h ▸ inRange_single id _ (Nat.lt_succ_self _)⟩

/-- `if`, `range` and `with`: the node takes `id`, the two lists the ids after it -/
theorem branchWr {f} (hl : ListWr f) {id : Nat} {r : Toks} (mk : Pipe → NodeList → NodeList → Node)
    (hmk : ∀ p t e, nodeIds (mk p t e) = id :: (listIds t ++ listIds e)) {n : Node} {id' : Nat} {r' : Toks}
    (h : (do let (p, r1) ← parsePipe r
             let (t, id1, r2) ← parseList f (id + 1) r1
             let (e, id2, r3) ← parseList f id1 r2
             pure (mk p t e, id2, r3) : Option (Node × Nat × Toks)) = some (n, id', r')) :
    id < id' ∧ InRange id id' (nodeIds n) := by
  cases hp : parsePipe r with
  | none => simp [hp] at h
  | some q =>
    cases h1 : parseList f (id + 1) q.2 with
    | none => simp [hp, h1] at h
    | some x =>
      obtain ⟨t, id1, r1⟩ := x
      cases h2 : parseList f id1 r1 with
      | none => simp [hp, h1, h2] at h
      | some y =>
        obtain ⟨e, id2, r2⟩ := y
        simp [hp, h1, h2] at h
        obtain ⟨rfl, rfl, rfl⟩ := h
        rw [hmk]
        exact branch_range (hl _ _ _ _ _ h1) (hl _ _ _ _ _ h2)

theorem nodeWr_succ {f} (hl : ListWr f) : NodeWr (f + 1) := by
  intro id ts n id' r h
  simp only [parseNode] at h
  split at h
  · rename_i hx rest
    cases hu : unhex hx with
    | none => simp [hu] at h
    | some b => simp [hu] at h; obtain ⟨rfl, rfl, rfl⟩ := h; exact single_range (by simp only [nodeIds])
  · rename_i rest
    cases hp : parsePipe rest with
    | none => simp [hp] at h
    | some q => simp [hp] at h; obtain ⟨rfl, rfl, rfl⟩ := h; exact single_range (by simp only [nodeIds])
  · exact branchWr hl (.ifN id) (fun _ _ _ => by simp only [nodeIds]) h
  · exact branchWr hl (.rangeN id) (fun _ _ _ => by simp only [nodeIds]) h
  · exact branchWr hl (.withN id) (fun _ _ _ => by simp only [nodeIds]) h
  · rename_i nm rest
    cases hu : hexStr nm with
    | none => simp [hu] at h
    | some b => simp [hu] at h; obtain ⟨rfl, rfl, rfl⟩ := h; exact single_range (by simp only [nodeIds])
  · rename_i nm rest _
    cases hp : parsePipe rest with
    | none => simp [hp] at h
    | some q =>
      cases hu : hexStr nm with
      | none => simp [hp, hu] at h
      | some b => simp [hp, hu] at h; obtain ⟨rfl, rfl, rfl⟩ := h; exact single_range (by simp only [nodeIds])
  · cases h; exact single_range (by simp only [nodeIds])
  · cases h; exact single_range (by simp only [nodeIds])
  · cases h; exact single_range (by simp only [nodeIds])
  · cases h

theorem listWr_succ {f} (hi : ItemsWr f) : ListWr (f + 1) := by
  intro id ts l id' r h
  simp only [parseList] at h
  split at h
  · exact hi _ _ _ _ _ h
  · cases h

theorem itemsWr_succ {f} (hn : NodeWr f) (hi : ItemsWr f) : ItemsWr (f + 1) := by
  intro id ts l id' r h
  simp only [parseItems] at h
  split at h
  · cases h
    exact ⟨Nat.le_refl _, by simp only [listIds]; exact ⟨List.nodup_nil, fun _ hx => nomatch hx⟩⟩
  · cases h1 : parseNode f id ts with
    | none => simp [h1] at h
    | some x =>
      obtain ⟨n, id1, r1⟩ := x
      cases h2 : parseItems f id1 r1 with
      | none => simp [h1, h2] at h
      | some y =>
        obtain ⟨ns, id2, r2⟩ := y
        simp [h1, h2] at h
        obtain ⟨rfl, rfl, rfl⟩ := h
        obtain ⟨a1, a2⟩ := hn _ _ _ _ _ h1
        obtain ⟨b1, b2⟩ := hi _ _ _ _ _ h2
        simp only [listIds]
        exact ⟨by omega, inRange_append a2 b2 (by omega) b1⟩

theorem wire_ranges : ∀ f, NodeWr f ∧ ListWr f ∧ ItemsWr f := by
  intro f
  induction f with
  | zero =>
    refine ⟨?_, ?_, ?_⟩
    · intro id ts n id' r h; simp only [parseNode] at h; cases h
    · intro id ts l id' r h; simp only [parseList] at h; cases h
    · intro id ts l id' r h; simp only [parseItems] at h; cases h
  | succ f ih =>
    obtain ⟨hn, hl, hi⟩ := ih
    exact ⟨nodeWr_succ hl, listWr_succ hi, itemsWr_succ hn hi⟩

theorem parseDefs_ids : ∀ (f : Nat) (ts : Toks) (defs : List Tree), parseDefs f ts = some defs →
    ∀ tr ∈ defs, IdsDistinct tr.root := by
  intro f
  induction f with
  | zero =>
    intro ts defs h
    unfold parseDefs at h
    cases h
  | succ f ih =>
    intro ts defs h
    unfold parseDefs at h
    split at h
    · rename_i heq; cases heq
    · cases h; intro tr htr; cases htr
    · rename_i f' nm rest heq
      cases heq
      cases h1 : parseList (rest.length + 1) 0 rest with
      | none => simp [h1] at h
      | some x =>
        obtain ⟨root, idn, r⟩ := x
        cases h2 : parseDefs f r with
        | none => simp [h1, h2] at h
        | some restDefs =>
          cases hu : hexStr nm with
          | none => simp [h1, h2, hu] at h
          | some name =>
            simp [h1, h2, hu] at h
            subst h
            intro tr htr
            rcases List.mem_cons.mp htr with rfl | htr
            · exact ((wire_ranges _).2.1 _ _ _ _ _ h1).2.1
            · exact ih r restDefs h2 tr htr
    · cases h

theorem parseDefsBytes_ids (b : Bytes) (defs : List Tree) (h : parseDefsBytes b = some defs) :
    ∀ tr ∈ defs, IdsDistinct tr.root := parseDefs_ids _ _ defs h

/-! ### 4. summary theorem -/

/-- all invariants of one name space used below; each is kept by every critical section
    (`ConcApi.top_keeps_hasT_noNil`, `NoPanic.top_args`, `top_shared`) -/
def AnalysisInv (n : NS) : Prop :=
  HasT n.text n.esc ∧ NoNil n.text ∧ TW n.text ∧ EW n.esc ∧ SI n.text n.esc

theorem analysisInv_kept (w w' : World) (ns : Nat) (name : String) (r : Option ErrCode) (h : AnalysisInv (w.ns ns))
    (ht : escapeTemplateTop w ns name = .inr (w', r)) : AnalysisInv (w'.ns ns) := by
  obtain ⟨h1, h2, h3, h4, h5⟩ := h
  obtain ⟨a1, a2⟩ := top_keeps_hasT_noNil w w' ns name r h1 h2 ht
  obtain ⟨b1, b2⟩ := (top_args w ns name h3 h4).2 w' r ht
  exact ⟨a1, a2, b1, b2, (top_shared w ns name h5).2 w' r ht⟩

/-- for a freshly parsed, never executed set; `TD` is guaranteed by the wire format (`parseDefsBytes_ids`) -/
theorem analysisInv_fresh (n : NS) (ho : n.esc.output = []) (hd : n.esc.derived = []) (hp : n.esc.pristine = [])
    (ha : n.esc.actionEdits = []) (ht : n.esc.tmplEdits = []) (hx : n.esc.textEdits = [])
    (hnn : NoNil n.text) (htw : TW n.text) (htd : TD n.text) : AnalysisInv n :=
  ⟨hasT_fresh _ _ ho, hnn, htw, escAll_of_nil hd hp, htd, (nd_km_of_nil ha ht hx).1, (nd_km_of_nil ha ht hx).2,
    escAll_of_nil hd hp⟩

/-- **C08 for the analysis.** Under `AnalysisInv`, one critical section returns a result (`.inr`: success or analysis
    error), or runs out of fuel, or reports the ONE panic not covered: "infinite loop in escapeText". `NoNil` is what
    excludes the analysis panic "t.Tree.Root of a nil Tree" (a template whose NAME is a mangled name and whose tree is
    nil); `Clone` can break it, and `NoPanic3.C08_analysis_total_inv` does without it and keeps that message. -/
theorem C08_analysis_total (w : World) (ns : Nat) (name : String) (h : AnalysisInv (w.ns ns)) :
    (∃ w' r, escapeTemplateTop w ns name = .inr (w', r)) ∨ escapeTemplateTop w ns name = .inl .fuel ∨
    escapeTemplateTop w ns name = .inl (.panic msgLoop) := by
  obtain ⟨h1, h2, h3, h4, h5⟩ := h
  rcases C08_analysis_total_partial w ns name h1 h2 h3 h4 with h | h | h | h
  · exact .inl h
  · exact .inr (.inl h)
  · exact absurd rfl ((top_shared w ns name h5).1 msgShared h)
  · exact .inr (.inr h)

end SafeHtml.Proofs.NoPanic2
