/-
Go's `utf8.DecodeRune` as modelled by `decode1`: one equation per class of lead byte; `Multi` for the well-formed
multi-byte sequences, `Wide` for what any non-ASCII lead byte yields. The decoder cuts a string into ASCII bytes
and `Wide` chunks, and `decode_chunks` is induction over that cutting; a predicate that holds of ASCII values
only sees the same in the runes as in the bytes (`all_ascii_iff`, `any_ascii_iff`).
-/
import SafeHtml.Basic.Utf8
namespace SafeHtml
namespace Utf8

theorem isCont_iff (b : Nat) : isCont b = true ↔ 128 ≤ b ∧ b ≤ 191 := by simp [isCont]

theorem decode1_ascii (b : Nat) (t : Bytes) (h : b < 128) : decode1 b t = (b, 1) := by
  simp [decode1, h]

theorem decode1_bad (b : Nat) (t : Bytes) (h1 : 128 ≤ b) (h2 : b < 0xC2 ∨ 0xF4 < b) :
    decode1 b t = (runeError, 1) := by
  unfold decode1
  rcases h2 with h2 | h2
  · rw [if_neg (by omega), if_pos h2]
  · rw [if_neg (by omega), if_neg (by omega), if_neg (by omega), if_neg (by omega), if_neg (by omega)]

theorem decode1_two (b : Nat) (t : Bytes) (h1 : 0xC2 ≤ b) (h2 : b ≤ 0xDF) :
    decode1 b t = match t with
      | b1 :: _ => if 128 ≤ b1 ∧ b1 ≤ 191 then (b % 32 * 64 + b1 % 64, 2) else (runeError, 1)
      | _ => (runeError, 1) := by
  unfold decode1
  rw [if_neg (by omega), if_neg (by omega), if_pos h2]
  rcases t with _ | ⟨b1, u⟩
  · rfl
  · exact ite_congr (propext (isCont_iff b1)) (fun _ => rfl) (fun _ => rfl)

theorem decode1_three (b : Nat) (t : Bytes) (h1 : 0xE0 ≤ b) (h2 : b ≤ 0xEF) :
    decode1 b t = match t with
      | b1 :: b2 :: _ =>
        if 128 ≤ b1 ∧ b1 ≤ 191 ∧ (b = 0xE0 → 0xA0 ≤ b1) ∧ (b = 0xED → b1 ≤ 0x9F) ∧ 128 ≤ b2 ∧ b2 ≤ 191
        then (b % 16 * 4096 + b1 % 64 * 64 + b2 % 64, 3) else (runeError, 1)
      | _ => (runeError, 1) := by
  unfold decode1
  rw [if_neg (by omega), if_neg (by omega), if_neg (by omega), if_pos h2]
  rcases t with _ | ⟨b1, _ | ⟨b2, u⟩⟩ <;> try rfl
  refine ite_congr (propext ?_) (fun _ => rfl) (fun _ => rfl)
  simp only [Bool.and_eq_true, decide_eq_true_eq, isCont_iff]
  split <;> split <;> omega

theorem decode1_four (b : Nat) (t : Bytes) (h1 : 0xF0 ≤ b) (h2 : b ≤ 0xF4) :
    decode1 b t = match t with
      | b1 :: b2 :: b3 :: _ =>
        if 128 ≤ b1 ∧ b1 ≤ 191 ∧ (b = 0xF0 → 0x90 ≤ b1) ∧ (b = 0xF4 → b1 ≤ 0x8F) ∧
            128 ≤ b2 ∧ b2 ≤ 191 ∧ 128 ≤ b3 ∧ b3 ≤ 191
        then (b % 8 * 262144 + b1 % 64 * 4096 + b2 % 64 * 64 + b3 % 64, 4) else (runeError, 1)
      | _ => (runeError, 1) := by
  unfold decode1
  rw [if_neg (by omega), if_neg (by omega), if_neg (by omega), if_neg (by omega), if_pos h2]
  rcases t with _ | ⟨b1, _ | ⟨b2, _ | ⟨b3, u⟩⟩⟩ <;> try rfl
  refine ite_congr (propext ?_) (fun _ => rfl) (fun _ => rfl)
  simp only [Bool.and_eq_true, decide_eq_true_eq, isCont_iff]
  split <;> split <;> omega

theorem lead_cases (b : Nat) : b < 128 ∨ (128 ≤ b ∧ (b < 0xC2 ∨ 0xF4 < b)) ∨ (0xC2 ≤ b ∧ b ≤ 0xDF) ∨
    (0xE0 ≤ b ∧ b ≤ 0xEF) ∨ (0xF0 ≤ b ∧ b ≤ 0xF4) := by omega

/-- `b :: p` is a well-formed multi-byte sequence for the rune `r`
    (Go's `first` and `acceptRanges` tables: no overlong forms, no surrogates, nothing above U+10FFFF). -/
inductive Multi (b : Nat) : Bytes → Nat → Prop
  | two (b1 : Nat) : 0xC2 ≤ b → b ≤ 0xDF → 128 ≤ b1 ∧ b1 ≤ 191 → Multi b [b1] (b % 32 * 64 + b1 % 64)
  | three (b1 b2 : Nat) : 0xE0 ≤ b → b ≤ 0xEF →
      128 ≤ b1 ∧ b1 ≤ 191 ∧ (b = 0xE0 → 0xA0 ≤ b1) ∧ (b = 0xED → b1 ≤ 0x9F) ∧ 128 ≤ b2 ∧ b2 ≤ 191 →
      Multi b [b1, b2] (b % 16 * 4096 + b1 % 64 * 64 + b2 % 64)
  | four (b1 b2 b3 : Nat) : 0xF0 ≤ b → b ≤ 0xF4 →
      128 ≤ b1 ∧ b1 ≤ 191 ∧ (b = 0xF0 → 0x90 ≤ b1) ∧ (b = 0xF4 → b1 ≤ 0x8F) ∧
        128 ≤ b2 ∧ b2 ≤ 191 ∧ 128 ≤ b3 ∧ b3 ≤ 191 →
      Multi b [b1, b2, b3] (b % 8 * 262144 + b1 % 64 * 4096 + b2 % 64 * 64 + b3 % 64)

theorem decode1_multi {b : Nat} {p : Bytes} {r : Nat} (h : Multi b p r) (u : Bytes) :
    decode1 b (p ++ u) = (r, p.length + 1) := by
  cases h with
  | two b1 h1 h2 c => rw [decode1_two b _ h1 h2]; exact if_pos c
  | three b1 b2 h1 h2 c => rw [decode1_three b _ h1 h2]; exact if_pos c
  | four b1 b2 b3 h1 h2 c => rw [decode1_four b _ h1 h2]; exact if_pos c

theorem decode1_cases (b : Nat) (t : Bytes) :
    (b < 128 ∧ decode1 b t = (b, 1)) ∨ (128 ≤ b ∧ decode1 b t = (runeError, 1)) ∨
    ∃ p u r, t = p ++ u ∧ Multi b p r := by
  rcases lead_cases b with h | ⟨h, h'⟩ | ⟨h, h'⟩ | ⟨h, h'⟩ | ⟨h, h'⟩
  · exact .inl ⟨h, decode1_ascii b t h⟩
  · exact .inr (.inl ⟨h, decode1_bad b t h h'⟩)
  · rw [decode1_two b t h h']
    split
    · split
      · exact .inr (.inr ⟨[_], _, _, rfl, .two _ h h' ‹_›⟩)
      · exact .inr (.inl ⟨by omega, rfl⟩)
    · exact .inr (.inl ⟨by omega, rfl⟩)
  · rw [decode1_three b t h h']
    split
    · split
      · exact .inr (.inr ⟨[_, _], _, _, rfl, .three _ _ h h' ‹_›⟩)
      · exact .inr (.inl ⟨by omega, rfl⟩)
    · exact .inr (.inl ⟨by omega, rfl⟩)
  · rw [decode1_four b t h h']
    split
    · split
      · exact .inr (.inr ⟨[_, _, _], _, _, rfl, .four _ _ _ h h' ‹_›⟩)
      · exact .inr (.inl ⟨by omega, rfl⟩)
    · exact .inr (.inl ⟨by omega, rfl⟩)

theorem Multi.facts {b : Nat} {p : Bytes} {r : Nat} (h : Multi b p r) :
    128 ≤ b ∧ p ≠ [] ∧ (∀ y ∈ p, 128 ≤ y) ∧ 128 ≤ r ∧ r ≤ 0x10FFFF ∧ ¬ (0xD800 ≤ r ∧ r ≤ 0xDFFF) := by
  cases h <;> simp <;> omega

/-- what a non-ASCII lead byte yields, well-formed sequence or not: a non-empty run of non-ASCII
    bytes standing for a non-ASCII scalar value (U+FFFD for an invalid byte) -/
def Wide (r : Nat) (p : Bytes) : Prop :=
  p ≠ [] ∧ (∀ y ∈ p, 128 ≤ y) ∧ 128 ≤ r ∧ r ≤ 0x10FFFF ∧ ¬ (0xD800 ≤ r ∧ r ≤ 0xDFFF)

theorem decode1_width (b : Nat) (t : Bytes) : 1 ≤ (decode1 b t).2 ∧ (decode1 b t).2 ≤ (b :: t).length := by
  rcases decode1_cases b t with ⟨_, e⟩ | ⟨_, e⟩ | ⟨p, u, r, rfl, hm⟩
  · simp [e]
  · simp [e]
  · simp [decode1_multi hm u]

theorem decode1_width_pos (b : Nat) (t : Bytes) : 1 ≤ (decode1 b t).2 := (decode1_width b t).1

theorem decode1_width_le (b : Nat) (t : Bytes) : (decode1 b t).2 ≤ (b :: t).length := (decode1_width b t).2

theorem decode1_wide (b : Nat) (t : Bytes) (h : 128 ≤ b) :
    Wide (decode1 b t).1 ((b :: t).take (decode1 b t).2) := by
  rcases decode1_cases b t with ⟨_, _⟩ | ⟨_, e⟩ | ⟨p, u, r, rfl, hm⟩
  · omega
  · simp [e, Wide, runeError, h]
  · have := hm.facts
    simp [decode1_multi hm u, Wide, this]
    exact this.2.2.1

theorem decode1_nonascii (b : Nat) (t : Bytes) (h : 128 ≤ b) : 128 ≤ (decode1 b t).1 :=
  (decode1_wide b t h).2.2.1

theorem decodeAux_fuel (f : Nat) : ∀ (s : Bytes), s.length ≤ f → decodeAux f s = decodeAux s.length s := by
  induction f using Nat.strongRecOn with
  | _ f ih =>
    intro s hs
    cases s with
    | nil => cases f <;> simp [decodeAux]
    | cons b t =>
      cases f with
      | zero => simp at hs
      | succ f =>
        simp only [decodeAux, List.length_cons]
        have hw := decode1_width_pos b t
        have hl : ((b :: t).drop (decode1 b t).2).length ≤ t.length := by
          simp only [List.length_drop, List.length_cons]; omega
        congr 1
        rw [ih f (by omega) _ (by simp at hs; omega), ih t.length (by simp at hs; omega) _ hl]

theorem decodeSyms_nil : decodeSyms [] = [] := by simp [decodeSyms, decodeAux]

theorem decodeSyms_cons (b : Nat) (t : Bytes) :
    decodeSyms (b :: t) =
      ⟨(decode1 b t).1, (b :: t).take (decode1 b t).2⟩ :: decodeSyms ((b :: t).drop (decode1 b t).2) := by
  simp only [decodeSyms, List.length_cons, decodeAux]
  congr 1
  apply decodeAux_fuel
  have hw := decode1_width_pos b t
  simp only [List.length_drop, List.length_cons]; omega

theorem decodeSyms_isEmpty (x : Bytes) : (decodeSyms x).isEmpty = x.isEmpty := by
  cases x with
  | nil => rw [decodeSyms_nil]; rfl
  | cons b t => rw [decodeSyms_cons]; rfl

theorem decodeSyms_cons_ascii (b : Nat) (t : Bytes) (h : b < 128) :
    decodeSyms (b :: t) = ⟨b, [b]⟩ :: decodeSyms t := by
  rw [decodeSyms_cons, decode1_ascii b t h]; simp

theorem decodeSyms_cons_wide (b : Nat) (t : Bytes) (hb : 128 ≤ b) :
    ∃ r p u, b :: t = p ++ u ∧ Wide r p ∧ decodeSyms (b :: t) = ⟨r, p⟩ :: decodeSyms u :=
  ⟨_, _, _, (List.take_append_drop _ _).symm, decode1_wide b t hb, decodeSyms_cons b t⟩

theorem decode_induction {P : Bytes → Prop} (hnil : P [])
    (hcons : ∀ b t, P ((b :: t).drop (decode1 b t).2) → P (b :: t)) : ∀ s, P s := by
  intro s
  generalize hn : s.length = n
  induction n using Nat.strongRecOn generalizing s with
  | _ n ih =>
    cases s with
    | nil => exact hnil
    | cons b t =>
      apply hcons
      have hw := decode1_width_pos b t
      apply ih ((b :: t).drop (decode1 b t).2).length _ _ rfl
      simp only [List.length_drop, List.length_cons] at *; omega

theorem decode_chunks {P : Bytes → Prop} (nil : P [])
    (ascii : ∀ b t, b < 128 → P t → P (b :: t))
    (wide : ∀ r p u, Wide r p → decodeSyms (p ++ u) = ⟨r, p⟩ :: decodeSyms u → P u → P (p ++ u)) :
    ∀ s, P s := by
  intro s
  induction s using decode_induction with
  | hnil => exact nil
  | hcons b t ih =>
    by_cases hb : b < 128
    · rw [decode1_ascii b t hb] at ih
      exact ascii b t hb ih
    · have := wide _ _ _ (decode1_wide b t (by omega))
        (by rw [List.take_append_drop]; exact decodeSyms_cons b t) ih
      rwa [List.take_append_drop] at this

theorem symsBytes_decodeSyms (s : Bytes) : symsBytes (decodeSyms s) = s := by
  induction s using decode_induction with
  | hnil => simp [decodeSyms_nil, symsBytes]
  | hcons b t ih =>
    rw [decodeSyms_cons]
    simp only [symsBytes, List.flatMap_cons] at *
    rw [ih]; exact List.take_append_drop _ _

theorem false_of_ge {q : Nat → Bool} (hq : ∀ c, q c = true → c < 128) {c : Nat} (h : 128 ≤ c) :
    q c = false :=
  Bool.eq_false_iff.2 fun e => by have := hq c e; omega

theorem eq_of_ascii {p q : Nat → Bool} (hp : ∀ c, p c = true → c < 128) (hq : ∀ c, q c = true → c < 128)
    (h : ∀ c, c < 128 → p c = q c) (c : Nat) : p c = q c :=
  if hc : c < 128 then h c hc else by rw [false_of_ge hp (by omega), false_of_ge hq (by omega)]

theorem Wide.blind {r : Nat} {p : Bytes} (hw : Wide r p) {q : Nat → Bool} (hq : ∀ c, q c = true → c < 128) :
    q r = false ∧ p.any q = false ∧ p.all q = false := by
  obtain ⟨hne, hp, hr, _⟩ := hw
  refine ⟨false_of_ge hq hr, ?_, ?_⟩
  · simpa using fun y hy => false_of_ge hq (hp y hy)
  · cases p with
    | nil => exact absurd rfl hne
    | cons y p => simp [false_of_ge hq (hp y (by simp))]

theorem all_ascii_iff (p : Nat → Bool) (hp : ∀ c, p c = true → c < 128) (s : Bytes) :
    (decodeSyms s).all (fun x => p x.rune) = s.all p := by
  induction s using decode_chunks with
  | nil => simp [decodeSyms_nil]
  | ascii b t hb ih => simp [decodeSyms_cons_ascii b t hb, ih]
  | wide r c u hw hd _ => simp [hd, hw.blind hp]

theorem any_ascii_iff (p : Nat → Bool) (hp : ∀ c, p c = true → c < 128) (s : Bytes) :
    (decodeSyms s).any (fun x => p x.rune) = s.any p := by
  induction s using decode_chunks with
  | nil => simp [decodeSyms_nil]
  | ascii b t hb ih => simp [decodeSyms_cons_ascii b t hb, ih]
  | wide r c u hw hd ih => simp [hd, hw.blind hp, ih]

theorem decodeSyms_head {q : Nat → Bool} (hq : ∀ c, q c = true → c < 128) (b : Nat) (t : Bytes) :
    ∃ x rest, decodeSyms (b :: t) = x :: rest ∧ q x.rune = q b ∧ (q b = true → rest = decodeSyms t) := by
  by_cases hb : b < 128
  · exact ⟨_, _, decodeSyms_cons_ascii b t hb, rfl, fun _ => rfl⟩
  · have h2 : q b = false := false_of_ge hq (by omega)
    exact ⟨_, _, decodeSyms_cons b t, by rw [false_of_ge hq (decode1_nonascii b t (by omega)), h2],
      by simp [h2]⟩

theorem head_rune (b : Nat) (t : Bytes) : ((decodeSyms (b :: t)).head?.map (·.rune)) = some (decode1 b t).1 := by
  rw [decodeSyms_cons]; simp

end Utf8
end SafeHtml
