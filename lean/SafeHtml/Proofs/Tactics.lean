/- The one tactic abbreviation the proof files share. -/
namespace SafeHtml

/-- closes `inCls <ranges> b = <boolean recogniser> b`-style goals after unfolding -/
macro "cls_arith" : tactic =>
  `(tactic| (rw [Bool.eq_iff_iff]; simp; try omega))

end SafeHtml
