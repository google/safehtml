/-
C14: a URL prefix whose BROWSER decoding (WHATWG attribute-value character-reference decoding) contains ASCII white
space or a control character is refused by `validateURLPrefix` and `validateTrustedResourceURLPrefix`
(`C14_rejects_browser_whitespace_statement` of Props/C14.lean, for the library with commit 213930e). Per reference
(`C14Sound.ref_dich`): a substitute with a byte ≤ 0x20 or 0x7f comes from a `;`-terminated reference that Go reads
the same way (C1 remapping, NUL, surrogates, overflow and legacy names never give such a byte); and Go's decoder
visits every `&` (`C14Sound2.walk_any`).
-/
import SafeHtml.Proofs.C14Sound2
namespace SafeHtml.Proofs.C14Ws
open SafeHtml SafeHtml.Rx SafeHtml.Spec SafeHtml.Spec.CharRef SafeHtml.Generated.Regexes
open SafeHtml.Proofs.CharRefAppend SafeHtml.Proofs.CharRefEsc SafeHtml.Proofs.C14Sound SafeHtml.Proofs.C14Sound2
open SafeHtml.Proofs.EntityFacts
open SafeHtml.Model SafeHtml.Model.TmplUrl SafeHtml.Props.C14 SafeHtml.Spec.UrlComp

theorem ref_ws (rest : Bytes) (hu : untermAt rest = false) (h : hasWs (consume true rest).1 = true) :
    GoHtml.unescapeEntity rest = consume true rest := by
  rcases ref_dich rest with h1 | hb | he
  · rw [hu] at h1; cases h1
  · simp [benign, h] at hb
  · exact he

theorem browser_ws_engine (p : Bytes) (hu : hasUnterm p = false) (h : hasWs (CharRef.decodeAttr p) = true) :
    hasWs p = true ∨ hasWs (GoHtml.unescapeString p) = true :=
  walk_any isWsOrCtl (fun s => hasUnterm s = false)
    (fun c t h => by rw [hasUnterm_cons, Bool.or_eq_false_iff] at h; exact h.2)
    (fun t hs h => by
      rw [hasUnterm_cons, Bool.or_eq_false_iff] at hs
      exact Or.inr (ref_ws t (by simpa using hs.1) h)) p hu h

/-- the hypothesis `hasUnterm p = false` cannot be dropped: `/a&#9b/` (browser: TAB; Go: unchanged) -/
theorem browser_ws_engine_needs_hyp :
    hasWs (CharRef.decodeAttr [47, 97, 38, 35, 57, 98, 47]) = true ∧ hasWs [47, 97, 38, 35, 57, 98, 47] = false ∧
    hasWs (GoHtml.unescapeString [47, 97, 38, 35, 57, 98, 47]) = false := by decide

/-! ### the statements -/

theorem decodeURLPrefix_browser_no_ws (p d : Bytes) (h : decodeURLPrefix p = some d) :
    (CharRef.decodeAttr p).any isWsOrCtl = false := by
  obtain ⟨rfl, h1, _, h2, h3⟩ := decodeURLPrefix_some p d h
  cases hw : (CharRef.decodeAttr p).any isWsOrCtl with
  | false => rfl
  | true =>
    rcases browser_ws_engine p (rx_unterminatedNumericCharRef p ▸ h3) hw with hp | hg
    · rw [hasWs, h1] at hp; cases hp
    · rw [hasWs, h2] at hg; cases hg

theorem C14_rejects_browser_whitespace : C14_rejects_browser_whitespace_statement := by
  intro p hw
  cases hd : decodeURLPrefix p with
  | none => simp [validateURLPrefix, hd]
  | some d => rw [decodeURLPrefix_browser_no_ws p d hd] at hw; cases hw

theorem C14_rejects_browser_whitespace_tru (p : Bytes) (hw : (CharRef.decodeAttr p).any isWsOrCtl = true) :
    validateTrustedResourceURLPrefix p = false := by
  cases hd : decodeURLPrefix p with
  | none => simp [validateTrustedResourceURLPrefix, hd]
  | some d => rw [decodeURLPrefix_browser_no_ws p d hd] at hw; cases hw

theorem C14_rejects_browser_whitespace_choose (sc : SC) (p : Bytes) (hsc : sc ≠ .other)
    (hw : (CharRef.decodeAttr p).any isWsOrCtl = true) : chooseChain sc p = none := by
  cases hc : chooseChain sc p with
  | none => rfl
  | some ch =>
    have hvalid := prefixValid_of_choose sc p ch hc
    obtain ⟨d, hd⟩ := prefixValid_decodes sc p hsc hvalid
    rw [decodeURLPrefix_browser_no_ws p d hd] at hw; cases hw

end SafeHtml.Proofs.C14Ws

#print axioms SafeHtml.Proofs.C14Ws.ref_ws
#print axioms SafeHtml.Proofs.C14Ws.browser_ws_engine
#print axioms SafeHtml.Proofs.C14Ws.C14_rejects_browser_whitespace
#print axioms SafeHtml.Proofs.C14Ws.C14_rejects_browser_whitespace_tru
#print axioms SafeHtml.Proofs.C14Ws.C14_rejects_browser_whitespace_choose
