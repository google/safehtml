/-
C06, first half (history independence of the FIRST analysis), for templates without `{{template}}` calls. On a call-free
list the escaper is write-only (`sim_callfree`): the analysis reads nothing of it but the pending edits it adds to, never
the memo, so `prefixReuse` plays no role. Every run on such a tree, from ANY escaper, follows the canonical runs `cfBody` /
`cfOut` from the empty escaper in the empty text set, and the outcome class of `escapeTemplateTop` on a template the
history has not touched (`Quiet`) is a function of CSP flag, validators, fuel, name and tree (`top_cls`).
-/
import SafeHtml.Proofs.NoPanic4
namespace SafeHtml.Proofs.Independence
open SafeHtml SafeHtml.Model.Tmpl SafeHtml.Proofs.Analysis SafeHtml.Proofs.Frozen SafeHtml.Proofs.ConcApi SafeHtml.Proofs.ConcReach
  SafeHtml.Proofs.NoPanic SafeHtml.Proofs.NoPanic2 SafeHtml.Proofs.NoPanic3 SafeHtml.Proofs.NoPanic4

/-! ### 1. the analysis of a call-free list does not look at the escaper (except at its pending edits) -/

def EdEq (e e' : Esc) : Prop :=
  e'.actionEdits = e.actionEdits ∧ e'.tmplEdits = e.tmplEdits ∧ e'.textEdits = e.textEdits

def Frame (e e1 : Esc) : Prop :=
  e1 = { e with actionEdits := e1.actionEdits, tmplEdits := e1.tmplEdits, textEdits := e1.textEdits }

/-- the result of a run from `e'` is the result of the run from `e`, transported -/
def Sim (e e' : Esc) (x x' : Out (Esc × Ctx)) : Prop :=
  match x with
  | .ok (e1, c1) => Frame e e1 ∧
      x' = .ok ({ e' with actionEdits := e1.actionEdits, tmplEdits := e1.tmplEdits, textEdits := e1.textEdits }, c1)
  | .panic m => x' = .panic m
  | .fuel => x' = .fuel

theorem Frame.refl (e : Esc) : Frame e e := rfl

theorem Frame.trans {e e1 e2 : Esc} (h1 : Frame e e1) (h2 : Frame e1 e2) : Frame e e2 := by
  unfold Frame at *
  rw [h2, h1]

theorem sim_same (e e' : Esc) (c : Ctx) (h : EdEq e e') : Sim e e' (.ok (e, c)) (.ok (e', c)) := by
  refine ⟨Frame.refl e, ?_⟩
  rw [← h.1, ← h.2.1, ← h.2.2]

def EnvEq (env env' : Env) : Prop := env'.csp = env.csp ∧ env'.v = env.v

theorem escapeAction_rel (env env' : Env) (hv : env'.v = env.v) (tn : String) (e e' : Esc) (c : Ctx) (id : Nat)
    (p : Pipe) :
    (escapeAction env tn e c id p = .panic msgArgs ∧ escapeAction env' tn e' c id p = .panic msgArgs) ∨
    (∃ c', escapeAction env tn e c id p = .ok (e, c') ∧ escapeAction env' tn e' c id p = .ok (e', c')) ∨
    (∃ s, escapeAction env tn e c id p = (e.editAction (tn, id) s >>= fun e1 => .ok (e1, nudge c)) ∧
      escapeAction env' tn e' c id p = (e'.editAction (tn, id) s >>= fun e1 => .ok (e1, nudge c))) := by
  unfold escapeAction
  simp only [actionCtx_eq, hv]
  split
  · exact .inr (.inl ⟨_, rfl, rfl⟩)
  · split
    · exact .inl ⟨rfl, rfl⟩
    · exact .inr (.inl ⟨_, rfl, rfl⟩)
    · split
      · exact .inr (.inl ⟨_, rfl, rfl⟩)
      · split
        · exact .inr (.inl ⟨_, rfl, rfl⟩)
        · exact .inr (.inr ⟨_, rfl, rfl⟩)

theorem escapeTextNode_rel (env env' : Env) (hc : env'.csp = env.csp) (tn : String) (e e' : Esc) (c : Ctx) (id : Nat)
    (b : Bytes) :
    (escapeTextNode env tn e c id b = .panic msgLoop ∧ escapeTextNode env' tn e' c id b = .panic msgLoop) ∨
    (∃ c', escapeTextNode env tn e c id b = .ok (e, c') ∧ escapeTextNode env' tn e' c id b = .ok (e', c')) ∨
    (∃ c' nb, escapeTextNode env tn e c id b = (e.editText (tn, id) nb >>= fun e1 => .ok (e1, c')) ∧
      escapeTextNode env' tn e' c id b = (e'.editText (tn, id) nb >>= fun e1 => .ok (e1, c'))) := by
  unfold escapeTextNode
  rw [hc]
  split
  · exact .inl ⟨rfl, rfl⟩
  · exact .inr (.inl ⟨_, rfl, rfl⟩)
  · exact .inr (.inr ⟨_, _, rfl, rfl⟩)

theorem escapeAction_sim (env env' : Env) (he : EnvEq env env') (tn : String) (e e' : Esc) (c : Ctx) (id : Nat)
    (p : Pipe) (h : EdEq e e') : Sim e e' (escapeAction env tn e c id p) (escapeAction env' tn e' c id p) := by
  rcases escapeAction_rel env env' he.2 tn e e' c id p with ⟨h1, h2⟩ | ⟨c', h1, h2⟩ | ⟨s, h1, h2⟩ <;> rw [h1, h2]
  · rfl
  · exact sim_same e e' c' h
  · unfold Esc.editAction
    rw [h.1]
    split
    · rfl
    · refine ⟨rfl, ?_⟩
      rw [← h.1, ← h.2.1, ← h.2.2]
      rfl

theorem escapeTextNode_sim (env env' : Env) (he : EnvEq env env') (tn : String) (e e' : Esc) (c : Ctx) (id : Nat)
    (b : Bytes) (h : EdEq e e') : Sim e e' (escapeTextNode env tn e c id b) (escapeTextNode env' tn e' c id b) := by
  rcases escapeTextNode_rel env env' he.1 tn e e' c id b with ⟨h1, h2⟩ | ⟨c', h1, h2⟩ | ⟨c', nb, h1, h2⟩ <;>
    rw [h1, h2]
  · rfl
  · exact sim_same e e' c' h
  · unfold Esc.editText
    rw [h.2.2]
    split
    · rfl
    · refine ⟨rfl, ?_⟩
      rw [← h.1, ← h.2.1, ← h.2.2]
      rfl


@[reducible] def tr (e' e1 : Esc) : Esc :=
  { e' with actionEdits := e1.actionEdits, tmplEdits := e1.tmplEdits, textEdits := e1.textEdits }

theorem edEq_tr (e' e1 : Esc) : EdEq e1 (tr e' e1) := ⟨rfl, rfl, rfl⟩

theorem sim_bind {e e' : Esc} {x x' : Out (Esc × Ctx)} {g g' : Esc × Ctx → Out (Esc × Ctx)}
    (h : Sim e e' x x')
    (hg : ∀ e1 c1, Frame e e1 → Sim e1 (tr e' e1) (g (e1, c1)) (g' (tr e' e1, c1))) :
    Sim e e' (x >>= g) (x' >>= g') := by
  cases x with
  | ok r =>
    obtain ⟨e1, c1⟩ := r
    obtain ⟨hf, hx⟩ := h
    rw [hx]
    have := hg e1 c1 hf
    show Sim e e' (g (e1, c1)) (g' (tr e' e1, c1))
    revert this
    generalize g (e1, c1) = y
    generalize g' (tr e' e1, c1) = y'
    intro this
    cases y with
    | ok r2 =>
      obtain ⟨e2, c2⟩ := r2
      obtain ⟨hf2, hy⟩ := this
      exact ⟨hf.trans hf2, hy⟩
    | panic m => exact this
    | fuel => exact this
  | panic m => rw [h]; rfl
  | fuel => rw [h]; rfl

theorem sim_ctx {β} {e e' : Esc} {x x' : Out (Esc × Ctx)} (h : Sim e e' x x') (g : Ctx → β) :
    (x >>= fun r => .ok (g r.2)) = (x' >>= fun r => .ok (g r.2)) := by
  cases x with
  | ok r => obtain ⟨e1, c1⟩ := r; rw [h.2]; rfl
  | panic m => rw [h]
  | fuel => rw [h]

theorem sim_bind_eq {α} {e e' : Esc} {j j' : Out α} (h : j = j') {k k' : α → Out (Esc × Ctx)}
    (hk : ∀ a, Sim e e' (k a) (k' a)) : Sim e e' (j >>= k) (j' >>= k') := by
  subst h
  cases j with
  | ok a => exact hk a
  | panic m => rfl
  | fuel => rfl

theorem branch_sim (env env' : Env) (t el : NodeList)
    (ht : ∀ f tn e e' c, EdEq e e' → Sim e e' (escapeList env f tn e c t) (escapeList env' f tn e' c t))
    (hel : ∀ f tn e e' c, EdEq e e' → Sim e e' (escapeList env f tn e c el) (escapeList env' f tn e' c el))
    (f : Nat) (tn : String) (e e' : Esc) (c : Ctx) (b : Bool) (h : EdEq e e') :
    Sim e e' (escapeBranch env (f + 1) tn e c t el b) (escapeBranch env' (f + 1) tn e' c t el b) := by
  rw [escapeBranch_succ, escapeBranch_succ]
  apply sim_bind (ht f tn e e' c h)
  intro e1 c0 _
  have helse : ∀ j, Sim e1 (tr e' e1) (escapeList env f tn e1 c el >>= fun r2 => .ok (r2.1, join j r2.2))
      (escapeList env' f tn (tr e' e1) c el >>= fun r2 => .ok (r2.1, join j r2.2)) := fun j =>
    sim_bind (hel f tn e1 (tr e' e1) c (edEq_tr e' e1)) fun e2 c2 _ => sim_same e2 _ _ (edEq_tr _ e2)
  refine sim_bind_eq ?_ ?_
  · -- the re-entry check runs on scratch escapers without edits: same context in both runs
    dsimp only
    by_cases hb : (b && c0.state != .error) = true
    · simp only [if_pos hb]
      exact sim_ctx (ht f tn (scratch e1) (scratch (tr e' e1)) c0 ⟨rfl, rfl, rfl⟩) fun c1 => some (join c0 c1)
    · simp only [if_neg hb]
  · intro o
    cases o with
    | none => exact helse c0
    | some j =>
      dsimp only
      by_cases hj : (j.state == .error) = true
      · simp only [if_pos hj]; exact sim_same e1 (tr e' e1) j (edEq_tr e' e1)
      · simp only [if_neg hj]; exact helse j

/-- on a list without `{{template}}` calls the escaper is write-only: runs from two escapers with the same pending
    edits, under environments that agree on `csp` and the validators, are transports of each other -/
theorem sim_callfree (env env' : Env) (he : EnvEq env env') :
    NodeCases
      (fun n => nodeNoCalls n → ∀ f tn e e' c, EdEq e e' →
        Sim e e' (escapeNode env f tn e c n) (escapeNode env' f tn e' c n))
      (fun l => listNoCalls l → ∀ f tn e e' c, EdEq e e' →
        Sim e e' (escapeList env f tn e c l) (escapeList env' f tn e' c l)) where
  text id b _ f tn e e' c h := by
    cases f with
    | zero => rw [escapeNode_zero, escapeNode_zero]; rfl
    | succ g => rw [escapeNode_text, escapeNode_text]; exact escapeTextNode_sim env env' he tn e e' c id b h
  action id p _ f tn e e' c h := by
    cases f with
    | zero => rw [escapeNode_zero, escapeNode_zero]; rfl
    | succ g => rw [escapeNode_action, escapeNode_action]; exact escapeAction_sim env env' he tn e e' c id p h
  tmpl id name p hn := by simp only [nodeNoCalls] at hn
  branch hb t el ht hel hn f tn e e' c h := by
    obtain ⟨h1, h2⟩ := (hb.noCalls t el).mp hn
    match f with
    | 0 => rw [escapeNode_zero, escapeNode_zero]; rfl
    | 1 => rw [hb.escapeNode, hb.escapeNode, escapeBranch_zero, escapeBranch_zero]; rfl
    | g + 2 =>
      rw [hb.escapeNode, hb.escapeNode]
      exact branch_sim env env' t el (ht h1) (hel h2) g tn e e' c _ h
  stop hs _ f tn e e' c h := by
    cases f with
    | zero => rw [escapeNode_zero, escapeNode_zero]; rfl
    | succ g => rw [hs.escapeNode, hs.escapeNode]; exact sim_same e e' _ h
  nil _ f tn e e' c h := by
    cases f with
    | zero => rw [escapeList_zero, escapeList_zero]; rfl
    | succ g => rw [escapeList_nil, escapeList_nil]; exact sim_same e e' c h
  cons n ns hn hns hl f tn e e' c h := by
    obtain ⟨h1, h2⟩ := (listNoCalls_cons n ns).mp hl
    cases f with
    | zero => rw [escapeList_zero, escapeList_zero]; rfl
    | succ g =>
      rw [escapeList_cons, escapeList_cons]
      exact sim_bind (hn h1 g tn e e' c h) fun e1 c1 _ => hns h2 g tn e1 (tr e' e1) c1 (edEq_tr e' e1)

theorem node_sim (env env' : Env) (he : EnvEq env env') : ∀ n, nodeNoCalls n → ∀ f tn e e' c, EdEq e e' →
    Sim e e' (escapeNode env f tn e c n) (escapeNode env' f tn e' c n) :=
  (sim_callfree env env' he).node

theorem list_sim (env env' : Env) (he : EnvEq env env') : ∀ l, listNoCalls l → ∀ f tn e e' c, EdEq e e' →
    Sim e e' (escapeList env f tn e c l) (escapeList env' f tn e' c l) :=
  (sim_callfree env env' he).list


/-! ### 2. the canonical run of a call-free body, and what every run from any escaper looks like -/

theorem frame_empty (e1 : Esc) (h : Frame {} e1) : tr {} e1 = e1 := h.symm

theorem cf_env (env env' : Env) (he : EnvEq env env') (l : NodeList) (hl : listNoCalls l) (f : Nat) (tn : String)
    (c : Ctx) : escapeList env' f tn {} c l = escapeList env f tn {} c l := by
  have := list_sim env env' he l hl f tn {} {} c ⟨rfl, rfl, rfl⟩
  revert this
  generalize escapeList env f tn {} c l = x
  generalize escapeList env' f tn {} c l = x'
  intro this
  cases x with
  | ok r =>
    obtain ⟨e1, c1⟩ := r
    obtain ⟨hf, hx⟩ := this
    rw [hx]
    show Out.ok (tr {} e1, c1) = _
    rw [frame_empty e1 hf]
  | panic m => exact this
  | fuel => exact this

/-- the canonical body run: context after the body, "ok" flag, and the escaper holding the body's edits -/
def cfBody (env : Env) (f : Nat) (tname : String) (c : Ctx) (root : NodeList) : Out (Ctx × Bool × Esc) :=
  match escapeList env f tname {} c root with
  | .ok (s, c1) => .ok (c1, c1.state != .error, s)
  | .panic m => .panic m
  | .fuel => .fuel

/-- the canonical result of `computeOutCtx` on a call-free tree: final context and the escaper holding the edits -/
def cfOut (env : Env) (f : Nat) (tname : String) (c : Ctx) (root : NodeList) : Out (Ctx × Esc) :=
  match cfBody env f tname c root with
  | .panic m => .panic m
  | .fuel => .fuel
  | .ok (c1, true, s) => .ok (c1, s)
  | .ok (c1, false, _) =>
    match cfBody env f tname c1 root with
    | .panic m => .panic m
    | .fuel => .fuel
    | .ok (c2, true, s2) => .ok (c2, s2)
    | .ok (_, false, _) => .ok (if c1.state != .error then Ctx.errorCtx .outputContext else c1, {})

theorem cfBody_eq (env : Env) (f : Nat) (tname : String) (c : Ctx) (root : NodeList) :
    cfBody env f tname c root =
      (escapeList env f tname {} c root >>= fun r => .ok (r.2, r.2.state != .error, r.1)) := by
  unfold cfBody
  rcases escapeList env f tname {} c root with ⟨s, c1⟩ | m | _ <;> rfl

theorem cfOut_eq (env : Env) (f : Nat) (tname : String) (c : Ctx) (root : NodeList) :
    cfOut env f tname c root =
      (cfBody env f tname c root >>= fun a =>
        if a.2.1 then .ok (a.1, a.2.2)
        else cfBody env f tname a.1 root >>= fun a2 =>
          if a2.2.1 then .ok (a2.1, a2.2.2)
          else .ok (if a.1.state != .error then Ctx.errorCtx .outputContext else a.1, {})) := by
  unfold cfOut
  rcases cfBody env f tname c root with ⟨c1, _ | _, s⟩ | m | _ <;> try rfl
  show _ = (cfBody env f tname c1 root >>= fun a2 => if a2.2.1 then Out.ok (a2.1, a2.2.2)
    else .ok (if c1.state != .error then Ctx.errorCtx .outputContext else c1, {}))
  dsimp only
  rcases cfBody env f tname c1 root with ⟨c2, _ | _, s2⟩ | m | _ <;> rfl

theorem cfOut_zero (env : Env) (tn : String) (c : Ctx) (root : NodeList) : cfOut env 0 tn c root = .fuel := by
  rw [cfOut_eq, cfBody_eq, escapeList_zero]; rfl

def EdExt (e s r : Esc) : Prop :=
  r.actionEdits = e.actionEdits ++ s.actionEdits ∧ r.tmplEdits = e.tmplEdits ++ s.tmplEdits ∧
  r.textEdits = e.textEdits ++ s.textEdits

theorem EdExt.nil (e : Esc) : EdExt e {} e :=
  ⟨(List.append_nil _).symm, (List.append_nil _).symm, (List.append_nil _).symm⟩

theorem EdExt.after_nil {e e1 s e2 : Esc} (h1 : EdExt e {} e1) (h2 : EdExt e1 s e2) : EdExt e s e2 :=
  ⟨by rw [h2.1, h1.1, List.append_nil], by rw [h2.2.1, h1.2.1, List.append_nil],
   by rw [h2.2.2, h1.2.2, List.append_nil]⟩

/-- The run `y` (from some escaper) follows the canonical run `x`: an ok result of `y` is `R`-related to an ok result
    of `x`, a failure of `y` is the failure of `x` — or the panic "node shared between templates", which only a
    run from an escaper with pending edits can meet. -/
def CfSim {α β} (R : α → β → Prop) (x : Out α) (y : Out β) : Prop :=
  match y with
  | .ok b => ∃ a, x = .ok a ∧ R a b
  | .panic m => x = .panic m ∨ m = msgShared
  | .fuel => x = .fuel

theorem CfSim.bind {α β α' β'} {R : α → β → Prop} {S : α' → β' → Prop} {x : Out α} {y : Out β} {g : α → Out α'}
    {k : β → Out β'} (h : CfSim R x y) (hg : ∀ a b, R a b → CfSim S (g a) (k b)) : CfSim S (x >>= g) (y >>= k) := by
  cases y with
  | ok b => obtain ⟨a, rfl, hr⟩ := h; exact hg a b hr
  | panic m => exact h.imp (fun hx => by rw [hx]; rfl) id
  | fuel => have hx : x = .fuel := h; rw [hx]; exact rfl

theorem CfSim.map {α β β'} {R : α → β → Prop} {S : α → β' → Prop} {x : Out α} {y : Out β} {k : β → β'}
    (h : CfSim R x y) (hk : ∀ a b, R a b → S a (k b)) : CfSim S x (y >>= fun b => .ok (k b)) := by
  cases y with
  | ok b => obtain ⟨a, rfl, hr⟩ := h; exact ⟨a, rfl, hk a b hr⟩
  | panic m => exact h
  | fuel => exact h

theorem CfSim.merge {α β γ} {R : α → γ → Prop} {a : α} (into from_ : List (EditKey × β))
    {k : List (EditKey × β) → Out γ} (h : CfSim R (.ok a) (k (into ++ from_))) :
    CfSim R (.ok a) (mergeEdits into from_ >>= k) := by
  rcases mergeEdits_cases from_ into with h1 | h1 <;> rw [h1]
  · exact h
  · exact .inr rfl

theorem Sim.cf {e e' : Esc} {x y : Out (Esc × Ctx)} (h : Sim e e' x y) :
    CfSim (fun a b => b = (tr e' a.1, a.2)) x y := by
  cases x with
  | ok r => obtain ⟨e1, c1⟩ := r; rw [h.2]; exact ⟨_, rfl, rfl⟩
  | panic m => have hy : y = .panic m := h; rw [hy]; exact .inl rfl
  | fuel => have hy : y = .fuel := h; rw [hy]; exact rfl

theorem CfSim.of_ok {α β} {R : α → β → Prop} {x : Out α} {y : Out β} {b : β} (h : CfSim R x y) (hy : y = .ok b) :
    ∃ a, x = .ok a ∧ R a b := by subst hy; exact h
theorem CfSim.of_panic {α β} {R : α → β → Prop} {x : Out α} {y : Out β} {m : String} (h : CfSim R x y)
    (hy : y = .panic m) : x = .panic m ∨ m = msgShared := by subst hy; exact h
theorem CfSim.of_fuel {α β} {R : α → β → Prop} {x : Out α} {y : Out β} (h : CfSim R x y) (hy : y = .fuel) :
    x = .fuel := by subst hy; exact h

section
variable (env env' : Env) (he : EnvEq env env') (f : Nat) (e : Esc) (c : Ctx) (tname : String) (t : Tree)
  (hnc : listNoCalls t.root)
include he hnc

/-- `escapeTemplateBody` on a call-free tree, from ANY escaper `e`: the scratch run is the transport of the canonical
    one and calls nothing, so the body is accepted iff it does not end in an error; the edits of an accepted body are
    appended to those of `e` -/
theorem body_sim :
    CfSim (fun a b => b.2.1 = a.1 ∧ b.2.2 = a.2.1 ∧ b.1.derived = e.derived ∧ EdExt e (if a.2.1 then a.2.2 else {}) b.1)
      (cfBody env f tname c t.root) (escapeTemplateBody env' (f + 1) e c tname (some t)) := by
  rw [cfBody_eq, escapeTemplateBody_succ]
  refine (list_sim env env' he t.root hnc f tname {} (scratch (setOut e tname c)) c ⟨rfl, rfl, rfl⟩).cf.bind ?_
  rintro ⟨s, cs⟩ _ rfl
  have hok : bodyOk tname c (tr (scratch (setOut e tname c)) s) cs = (cs.state != .error) := Bool.and_true _
  dsimp only
  rw [hok]
  generalize (cs.state != .error) = ok
  cases ok with
  | true =>
    rw [if_pos rfl]
    refine CfSim.merge _ _ (CfSim.merge _ _ (CfSim.merge _ _ ?_))
    exact ⟨_, rfl, rfl, rfl, rfl, rfl, rfl, rfl⟩
  | false =>
    rw [if_neg Bool.false_ne_true]
    exact ⟨_, rfl, rfl, rfl, rfl, EdExt.nil e⟩

theorem out_sim :
    CfSim (fun a b => b.2 = a.1 ∧ EdExt e a.2 b.1 ∧ b.1.derived = e.derived)
      (cfOut env f tname c t.root) (computeOutCtx env' (f + 2) e c tname (some t)) := by
  rw [cfOut_eq, computeOutCtx_succ]
  refine (body_sim env env' he f e c tname t hnc).bind ?_
  rintro ⟨c1, ok1, s1⟩ ⟨e1, _, _⟩ ⟨h1, h2, hd1, hx1⟩
  dsimp only at h1 h2 hd1 hx1 ⊢
  cases h1; cases h2
  cases ok1 with
  | true => rw [if_pos rfl, if_pos rfl]; exact ⟨_, rfl, rfl, hx1, hd1⟩
  | false =>
    rw [if_neg Bool.false_ne_true, if_neg Bool.false_ne_true]
    rw [if_neg Bool.false_ne_true] at hx1
    refine (body_sim env env' he f e1 c1 tname t hnc).bind ?_
    rintro ⟨c2, ok2, s2⟩ ⟨e2, _, _⟩ ⟨h1, h2, hd2, hx2⟩
    dsimp only at h1 h2 hd2 hx2 ⊢
    cases h1; cases h2
    cases ok2 with
    | true =>
      rw [if_pos rfl, if_pos rfl]
      exact ⟨_, rfl, rfl, hx1.after_nil hx2, hd2.trans hd1⟩
    | false =>
      rw [if_neg Bool.false_ne_true, if_neg Bool.false_ne_true]
      rw [if_neg Bool.false_ne_true] at hx2
      by_cases hs : (c1.state != .error) = true
      · rw [if_pos hs, if_pos hs]; exact ⟨_, rfl, rfl, hx1.after_nil hx2, hd2.trans hd1⟩
      · rw [if_neg hs, if_neg hs]; exact ⟨_, rfl, rfl, hx1.after_nil hx2, hd2.trans hd1⟩

end

theorem out_cf (env env' : Env) (he : EnvEq env env') (f : Nat) (e : Esc) (c : Ctx) (tname : String) (t : Tree)
    (hnc : listNoCalls t.root) (r : Esc × Ctx)
    (hr : computeOutCtx env' (f + 2) e c tname (some t) = .ok r) :
    ∃ ss, cfOut env f tname c t.root = .ok (r.2, ss) ∧ EdExt e ss r.1 ∧ r.1.derived = e.derived := by
  obtain ⟨⟨cc, ss⟩, h, rfl, hx⟩ := (out_sim env env' he f e c tname t hnc).of_ok hr
  exact ⟨ss, h, hx⟩

theorem out_cf_panic (env env' : Env) (he : EnvEq env env') (f : Nat) (e : Esc) (c : Ctx) (tname : String) (t : Tree)
    (hnc : listNoCalls t.root) (m : String)
    (hr : computeOutCtx env' (f + 2) e c tname (some t) = .panic m) :
    cfOut env f tname c t.root = .panic m ∨ m = msgShared :=
  (out_sim env env' he f e c tname t hnc).of_panic hr


/-! ### 3. `escapeTree` / `escapeTemplateTop` on a template that has not been analysed yet -/

/-- `name` is untouched by the history: not memoized, not a derived template, no pending edit of it -/
structure Quiet (e : Esc) (name : String) : Prop where
  memo : alookup e.output name = none
  der : ∀ p ∈ e.derived, p.1 ≠ name
  act : ∀ q ∈ e.actionEdits, q.1.1 ≠ name
  tmpl : ∀ q ∈ e.tmplEdits, q.1.1 ≠ name
  text : ∀ q ∈ e.textEdits, q.1.1 ≠ name

/-- the canonical environment: only `csp` and the validators matter for a call-free tree -/
@[reducible] def cenv (csp : Bool) (v : Validators) : Env := { text := [], nsHas := fun _ => false, csp := csp, v := v }

/-- with fuel `F` the tree analysis reaches the body's list with `F - 3` -/
theorem tree_sim (env' : Env) (F : Nat) (e : Esc) (name : String) (t : Tree)
    (hl : env'.text.lookup name = some (some t)) (hnc : listNoCalls t.root) (hm : alookup e.output name = none) :
    CfSim (fun a b => b.2.1 = a.1 ∧ EdExt e a.2 b.1 ∧ b.1.derived = e.derived)
      (cfOut (cenv env'.csp env'.v) (F - 3) name {} t.root) (escapeTree env' F e {} name) := by
  have ht : e.template env' name = some (some t) := by unfold Esc.template; rw [hl]
  match F with
  | 0 => rw [escapeTree_zero]; exact cfOut_zero ..
  | 1 => rw [escapeTree_text _ _ _ _ hm, ht]; dsimp only; rw [computeOutCtx_zero]; exact cfOut_zero ..
  | 2 =>
    rw [escapeTree_text _ _ _ _ hm, ht]; dsimp only
    rw [computeOutCtx_succ, escapeTemplateBody_zero]; exact cfOut_zero ..
  | f + 3 =>
    rw [escapeTree_text _ _ _ _ hm, ht]
    exact CfSim.map (k := fun r => (r.1, r.2, name))
      (S := fun a b => b.2.1 = a.1 ∧ EdExt e a.2 b.1 ∧ b.1.derived = e.derived)
      (out_sim (cenv env'.csp env'.v) env' ⟨rfl, rfl⟩ f (miss e {} name) {} name t hnc) fun _ _ h => h


/-! ### 4. the commit: what happens to the tree called `name` -/

theorem nodup_eraseDups : ∀ (n : Nat) (l : List String), l.length ≤ n → l.eraseDups.Nodup := by
  intro n
  induction n with
  | zero =>
    intro l h
    have : l = [] := List.eq_nil_of_length_eq_zero (Nat.le_zero.mp h)
    subst this
    rw [List.eraseDups_nil]; exact List.nodup_nil
  | succ n ih =>
    intro l h
    cases l with
    | nil => rw [List.eraseDups_nil]; exact List.nodup_nil
    | cons a as =>
      rw [List.eraseDups_cons, List.nodup_cons]
      refine ⟨?_, ih _ ?_⟩
      · intro hm
        rw [List.mem_eraseDups, List.mem_filter] at hm
        simp at hm
      · refine Nat.le_trans (List.length_filter_le _ as) ?_
        simp only [List.length_cons] at h
        omega

theorem edits_lookup_once (e : Esc) (names : List String) : ∀ (ts ts' : TextSet) (n : String) (tr : Tree),
    names.Nodup → names.foldlM (editStep e) ts = .ok ts' → n ∈ names → ts.lookup n = some (some tr) →
    ∃ r, NodeList.applyEdits n e tr.root = some r ∧ ts'.lookup n = some (some { tr with root := r }) := by
  induction names with
  | nil => intro ts ts' n tr _ _ hn; cases hn
  | cons m t ih =>
    intro ts ts' n tr hnd h hn hl
    rw [List.foldlM_cons] at h
    obtain ⟨ts1, h1, h2⟩ := bind_ok h
    rw [List.nodup_cons] at hnd
    by_cases hmn : n = m
    · subst hmn
      unfold editStep at h1
      rw [hl] at h1
      simp only [] at h1
      cases ha : NodeList.applyEdits n e tr.root with
      | none => rw [ha] at h1; cases h1
      | some r =>
        rw [ha] at h1
        cases h1
        refine ⟨r, rfl, ?_⟩
        rw [edits_lookup_other e t _ ts' n h2 hnd.1, lookup_set, if_pos rfl]
    · have hn' : n ∈ t := by
        cases hn with
        | head => exact absurd rfl hmn
        | tail _ h => exact h
      have hl1 : ts1.lookup n = some (some tr) := by rw [editStep_lookup_other e ts ts1 m n h1 hmn, hl]
      exact ih ts1 ts' n tr hnd.2 h2 hn' hl1

/-- `applyEdits` only looks at the edits keyed by the template name -/
def FindEq (tn : String) (e e' : Esc) : Prop :=
  (∀ id, e.textEdits.find? (fun p => p.1 == (tn, id)) = e'.textEdits.find? (fun p => p.1 == (tn, id))) ∧
  (∀ id, e.actionEdits.find? (fun p => p.1 == (tn, id)) = e'.actionEdits.find? (fun p => p.1 == (tn, id))) ∧
  (∀ id, e.tmplEdits.find? (fun p => p.1 == (tn, id)) = e'.tmplEdits.find? (fun p => p.1 == (tn, id)))

theorem applyEdits_congr (tn : String) (e e' : Esc) (h : FindEq tn e e') :
    NodeCases (fun n => Node.applyEdits tn e n = Node.applyEdits tn e' n)
      (fun l => NodeList.applyEdits tn e l = NodeList.applyEdits tn e' l) where
  text id b := by simp only [Node.applyEdits, h.1 id]
  action id p := by simp only [Node.applyEdits, h.2.1 id]
  tmpl id name p := by simp only [Node.applyEdits, h.2.2 id]
  branch hb t el ht hel := by rw [hb.applyEdits, hb.applyEdits, ht, hel]
  stop hs := by rw [hs.applyEdits, hs.applyEdits]
  nil := by simp only [NodeList.applyEdits]
  cons n ns hn hns := by simp only [NodeList.applyEdits, hn, hns]

theorem node_applyEdits_congr (tn : String) (e e' : Esc) (h : FindEq tn e e') : ∀ n : Node,
    Node.applyEdits tn e n = Node.applyEdits tn e' n :=
  (applyEdits_congr tn e e' h).node

theorem list_applyEdits_congr (tn : String) (e e' : Esc) (h : FindEq tn e e') : ∀ l : NodeList,
    NodeList.applyEdits tn e l = NodeList.applyEdits tn e' l :=
  (applyEdits_congr tn e e' h).list


theorem find_old {β} (old new : List (EditKey × β)) (tn : String) (h : ∀ q ∈ old, q.1.1 ≠ tn) (id : Nat) :
    (old ++ new).find? (fun p => p.1 == (tn, id)) = new.find? (fun p => p.1 == (tn, id)) := by
  rw [List.find?_append]
  have : old.find? (fun p => p.1 == (tn, id)) = none := by
    rw [List.find?_eq_none]
    intro q hq hc
    have : q.1 = (tn, id) := by simpa using hc
    exact h q hq (by rw [this])
  rw [this]; rfl

theorem mem_names_old {β} (old new : List (EditKey × β)) (tn : String) (h : ∀ q ∈ old, q.1.1 ≠ tn) :
    tn ∈ (old ++ new).map (·.1.1) ↔ tn ∈ new.map (·.1.1) := by
  rw [List.map_append, List.mem_append]
  constructor
  · rintro (h1 | h1)
    · obtain ⟨q, hq, he⟩ := List.mem_map.mp h1
      exact absurd he (h q hq)
    · exact h1
  · exact .inr

theorem mem_editNames_ext (e ss e' : Esc) (name : String) (hext : EdExt e ss e')
    (ha : ∀ q ∈ e.actionEdits, q.1.1 ≠ name) (ht : ∀ q ∈ e.tmplEdits, q.1.1 ≠ name)
    (hx : ∀ q ∈ e.textEdits, q.1.1 ≠ name) : name ∈ editNames e' ↔ name ∈ editNames ss := by
  unfold editNames
  rw [List.mem_eraseDups, List.mem_eraseDups, List.mem_append, List.mem_append, List.mem_append, List.mem_append,
    hext.1, hext.2.1, hext.2.2, mem_names_old _ _ name ha, mem_names_old _ _ name ht, mem_names_old _ _ name hx]

/-- the committed tree of a call-free template analysed for the first time -/
def cfTree (name : String) (ss : Esc) (t : Tree) : Option Tree :=
  if name ∈ editNames ss then (NodeList.applyEdits name ss t.root).map (fun r => { t with root := r }) else some t

theorem commit_tree (text : TextSet) (ss e' : Esc) (name : String) (t : Tree) (text2 : TextSet) (e2 : Esc)
    (hc : commit text e' = .ok (text2, e2)) (hl : text.lookup name = some (some t))
    (hd : ∀ p ∈ e'.derived, p.1 ≠ name) (hmem : name ∈ editNames e' ↔ name ∈ editNames ss)
    (hfe : FindEq name e' ss) : ∃ T, cfTree name ss t = some T ∧ text2.lookup name = some (some T) := by
  obtain ⟨pr, hfold, _⟩ := commit_spec text e' text2 e2 hc
  have h1 : (e'.derived.foldl installStep text).lookup name = some (some t) := by
    rw [install_keeps e'.derived text name (fun p hp he => absurd he (hd p hp)), hl]
  unfold cfTree
  by_cases hn : name ∈ editNames e'
  · obtain ⟨r, hr, hl2⟩ := edits_lookup_once _ (editNames e') _ text2 name t (nodup_eraseDups _ _ (Nat.le_refl _))
      hfold hn h1
    rw [list_applyEdits_congr name { e' with pristine := pr } ss hfe] at hr
    rw [if_pos (hmem.mp hn), hr]
    exact ⟨_, rfl, hl2⟩
  · rw [if_neg (fun h => hn (hmem.mpr h))]
    refine ⟨t, rfl, ?_⟩
    rw [edits_lookup_other _ (editNames e') _ text2 name hfold hn, h1]

theorem commit_cf (text : TextSet) (e ss e' : Esc) (name : String) (t : Tree) (text2 : TextSet) (e2 : Esc)
    (hc : commit text e' = .ok (text2, e2)) (hl : text.lookup name = some (some t))
    (hd : ∀ p ∈ e'.derived, p.1 ≠ name) (hext : EdExt e ss e')
    (ha : ∀ q ∈ e.actionEdits, q.1.1 ≠ name) (ht : ∀ q ∈ e.tmplEdits, q.1.1 ≠ name)
    (hx : ∀ q ∈ e.textEdits, q.1.1 ≠ name) :
    ∃ T, cfTree name ss t = some T ∧ text2.lookup name = some (some T) :=
  commit_tree text ss e' name t text2 e2 hc hl hd (mem_editNames_ext e ss e' name hext ha ht hx)
    ⟨fun id => by rw [hext.2.2]; exact find_old _ _ name hx id, fun id => by rw [hext.1]; exact find_old _ _ name ha id,
      fun id => by rw [hext.2.1]; exact find_old _ _ name ht id⟩


/-! ### 5. `escapeTemplateTop` on a quiet call-free template is determined by `(csp, v, fuel, name, tree)` -/

/-- the canonical outcome: the reported error code and (for a success) the committed tree -/
def cfTop (csp : Bool) (v : Validators) (fuel : Nat) (name : String) (t : Tree) : Out (Option ErrCode × Option Tree) :=
  match cfOut (cenv csp v) (fuel - 3) name {} t.root with
  | .panic m => .panic m
  | .fuel => .fuel
  | .ok (cc, ss) => .ok (finalError cc, cfTree name ss t)

section
variable (w : World) (n : Nat) (name : String) (t : Tree) (hl : (w.ns n).text.lookup name = some (some t))
  (hnc : listNoCalls t.root) (hq : Quiet (w.ns n).esc name)
include hl hnc hq

theorem top_tree_sim :
    CfSim (fun a b => b.2.1 = a.1 ∧ EdExt (w.ns n).esc a.2 b.1 ∧ b.1.derived = (w.ns n).esc.derived)
      (cfOut (cenv (w.ns n).csp w.v) (w.fuel - 3) name {} t.root)
      (escapeTree (analysisEnv w n) w.fuel (w.ns n).esc {} name) :=
  tree_sim (analysisEnv w n) w.fuel (w.ns n).esc name t hl hnc hq.memo

theorem top_cf (w' : World) (code : Option ErrCode) (h : escapeTemplateTop w n name = .inr (w', code)) :
    w'.fuel = w.fuel ∧
    ∃ T, cfTop (w.ns n).csp w.v w.fuel name t = .ok (code, T) ∧
      (code = none → ∃ T', T = some T' ∧ (w'.ns n).text.lookup name = some (some T')) := by
  obtain ⟨e1, c1, d, htree, hr⟩ := top_inr h
  obtain ⟨⟨cc, ss⟩, hout, hc, hext, hder⟩ := (top_tree_sim w n name t hl hnc hq).of_ok htree
  cases hc
  have hT : cfTop (w.ns n).csp w.v w.fuel name t = .ok (finalError c1, cfTree name ss t) := by
    unfold cfTop; rw [hout]
  rw [hT]
  refine ⟨(fields_top h).1, ?_⟩
  rcases hr with ⟨cd, hfe, rfl, rfl⟩ | ⟨text2, e2, hfe, hcm, rfl, rfl⟩
  · exact ⟨_, by rw [hfe], nofun⟩
  · obtain ⟨T, hT, hl2⟩ := commit_cf (w.ns n).text (w.ns n).esc ss e1 name t text2 e2 hcm hl
      (by rw [hder]; exact hq.der) hext hq.act hq.tmpl hq.text
    refine ⟨_, by rw [hfe], fun _ => ⟨T, hT, ?_⟩⟩
    rw [ns_markOk, if_pos rfl]
    exact hl2

theorem top_cf_panic (m : String) (h : escapeTemplateTop w n name = .inl (.panic m)) :
    cfTop (w.ns n).csp w.v w.fuel name t = .panic m ∨ m = msgShared ∨ m = msgArgs ∨ m = msgCommit := by
  rcases top_inl h with ⟨_, hx⟩ | ⟨m', htree, hx⟩ | ⟨e, _, _, _, _, ⟨_, hx⟩ | ⟨m', hcm, hx⟩⟩
  · cases hx
  · cases hx
    rcases (top_tree_sim w n name t hl hnc hq).of_panic htree with h1 | h1
    · left; unfold cfTop; rw [h1]
    · exact .inr (.inl h1)
  · cases hx
  · cases hx; exact .inr (.inr (commit_panic hcm).symm)

theorem top_cf_fuel (h : escapeTemplateTop w n name = .inl .fuel) :
    cfTop (w.ns n).csp w.v w.fuel name t = .fuel := by
  rcases top_inl h with ⟨htree, _⟩ | ⟨_, _, hx⟩ | ⟨e, _, _, _, _, ⟨hcm, _⟩ | ⟨_, _, hx⟩⟩
  · unfold cfTop; rw [(top_tree_sim w n name t hl hnc hq).of_fuel htree]
  · cases hx
  · exact absurd hcm (commit_ne_fuel _ _)
  · cases hx

end


/-! ### 6. executing a call-free tree does not look at the rest of the text set -/

theorem callsIn_callfree : NodeCases (fun n => nodeNoCalls n → nodeCallsIn (fun _ => False) n)
    (fun l => listNoCalls l → listCallsIn (fun _ => False) l) where
  text _ _ _ := by simp only [nodeCallsIn]
  action _ _ _ := by simp only [nodeCallsIn]
  tmpl _ _ _ h := by simp only [nodeNoCalls] at h
  branch hb t el ht hel h :=
    (hb.callsIn t el _).mpr ⟨ht ((hb.noCalls t el).mp h).1, hel ((hb.noCalls t el).mp h).2⟩
  stop hs _ := hs.callsIn _
  nil _ := by simp only [listCallsIn]
  cons n ns hn hns h := by
    simp only [listCallsIn]
    exact ⟨hn ((listNoCalls_cons n ns).mp h).1, hns ((listNoCalls_cons n ns).mp h).2⟩

theorem nc_callsIn : ∀ n : Node, nodeNoCalls n → nodeCallsIn (fun _ => False) n :=
  callsIn_callfree.node

theorem ncl_callsIn : ∀ l : NodeList, listNoCalls l → listCallsIn (fun _ => False) l :=
  callsIn_callfree.list

theorem applyEdits_callfree (tn : String) (e : Esc) :
    NodeCases (fun n => ∀ n', nodeNoCalls n → Node.applyEdits tn e n = some n' → nodeNoCalls n')
      (fun l => ∀ l', listNoCalls l → NodeList.applyEdits tn e l = some l' → listNoCalls l') where
  text id b n' _ h := by
    simp only [Node.applyEdits, Option.some.injEq] at h
    subst h
    split <;> simp only [nodeNoCalls]
  action id p n' _ h := by
    simp only [Node.applyEdits] at h
    split at h
    · obtain ⟨p', _, rfl⟩ := Option.map_eq_some_iff.mp h
      simp only [nodeNoCalls]
    · cases h; simp only [nodeNoCalls]
  tmpl _ _ _ _ hn _ := by simp only [nodeNoCalls] at hn
  branch hb t el ht hel n' hn h := by
    rw [hb.applyEdits] at h
    obtain ⟨t', el', h1, h2, rfl⟩ := opt_bind2 h
    exact (hb.noCalls t' el').mpr ⟨ht t' ((hb.noCalls t el).mp hn).1 h1, hel el' ((hb.noCalls t el).mp hn).2 h2⟩
  stop hs n' _ h := by rw [hs.applyEdits] at h; cases h; exact hs.noCalls
  nil l' _ h := by simp only [NodeList.applyEdits, Option.some.injEq] at h; subst h; simp only [listNoCalls]
  cons n ns hn hns l' hl h := by
    simp only [NodeList.applyEdits] at h
    obtain ⟨n', ns', h1, h2, rfl⟩ := opt_bind2 h
    exact (listNoCalls_cons n' ns').mpr
      ⟨hn n' ((listNoCalls_cons n ns).mp hl).1 h1, hns ns' ((listNoCalls_cons n ns).mp hl).2 h2⟩

theorem node_applyEdits_nc (tn : String) (e : Esc) : ∀ (n n' : Node), nodeNoCalls n →
    Node.applyEdits tn e n = some n' → nodeNoCalls n' :=
  (applyEdits_callfree tn e).node

theorem list_applyEdits_nc (tn : String) (e : Esc) : ∀ (l l' : NodeList), listNoCalls l →
    NodeList.applyEdits tn e l = some l' → listNoCalls l' :=
  (applyEdits_callfree tn e).list

theorem cfTree_nc (name : String) (ss : Esc) (t T : Tree) (hnc : listNoCalls t.root) (h : cfTree name ss t = some T) :
    listNoCalls T.root := by
  unfold cfTree at h
  split at h
  · obtain ⟨r, hr, rfl⟩ := Option.map_eq_some_iff.mp h
    exact list_applyEdits_nc name ss t.root r hnc hr
  · cases h; exact hnc

def cfExec (reg : Bool) (fuel : Nat) (T : Tree) (d : Value) : Res :=
  if reg then
    let r := walkList false [] 0 fuel d d [] T.root
    match r.err with
    | none => .ok r.out
    | some .nilTree => .panic msgExecNil
    | some .exec => .err "exec" r.out
    | some .depth => .err "exec-depth" []
    | some .unsupported => .unsupported
    | some .fuel => .fuel
  else .err "exec" []

theorem exec_cf (w : World) (o : TObj) (d : Value) (T : Tree)
    (hl : (w.ns o.ns).text.lookup o.name = some (some T)) (hnc : listNoCalls T.root) :
    textExecute w o d = cfExec o.registered w.fuel T d := by
  unfold textExecute cfExec
  simp only [hl]
  cases o.registered with
  | false => rfl
  | true =>
    simp only [if_true]
    have hcl : Closed (fun _ => False) (w.ns o.ns).text := fun _ h => h.elim
    rw [(walk_congr (fun _ => False) false (w.ns o.ns).text [] (fun _ h => h.elim) hcl w.fuel).2.1 _ _ _ _ _
      (ncl_callsIn T.root hnc)]
    generalize walkList false [] 0 w.fuel d d [] T.root = r
    obtain ⟨out, err⟩ := r
    cases err with
    | none => rfl
    | some x => cases x <;> rfl


/-! ### 7. history independence of the first analysis of a call-free template -/

/-- the outcome class of `escapeTemplateTop`: the reported panic / fuel, or the error code (`none` = success) -/
def cls : Res ⊕ (World × Option ErrCode) → Res ⊕ Option ErrCode
  | .inl r => .inl r
  | .inr (_, c) => .inr c

def cfCls : Out (Option ErrCode × Option Tree) → Res ⊕ Option ErrCode
  | .ok (c, _) => .inr c
  | .panic m => .inl (.panic m)
  | .fuel => .inl .fuel

/-- the outcome is not one of the three panics that the C08 invariants exclude -/
def NoC08 (x : Res ⊕ (World × Option ErrCode)) : Prop :=
  ∀ m, x = .inl (.panic m) → m ≠ msgShared ∧ m ≠ msgArgs ∧ m ≠ msgCommit

theorem top_cls (w : World) (n : Nat) (name : String) (t : Tree)
    (hl : (w.ns n).text.lookup name = some (some t)) (hnc : listNoCalls t.root) (hq : Quiet (w.ns n).esc name)
    (hx : NoC08 (escapeTemplateTop w n name)) :
    cls (escapeTemplateTop w n name) = cfCls (cfTop (w.ns n).csp w.v w.fuel name t) := by
  cases hres : escapeTemplateTop w n name with
  | inr p =>
    obtain ⟨w', code⟩ := p
    obtain ⟨_, T, hT, _⟩ := top_cf w n name t hl hnc hq w' code hres
    rw [hT]; rfl
  | inl r =>
    rcases top_inl_res hres with rfl | ⟨m, rfl⟩
    · rw [top_cf_fuel w n name t hl hnc hq hres]; rfl
    · obtain ⟨h1, h2, h3⟩ := hx m hres
      rcases top_cf_panic w n name t hl hnc hq m hres with h | h | h | h
      · rw [h]; rfl
      · exact absurd h h1
      · exact absurd h h2
      · exact absurd h h3

/-- **C06, first half, for templates without `{{template}}` calls.** Two worlds (any histories), two name spaces, one
    name whose installed tree is the same call-free tree `t` in both, not yet analysed in either (`Quiet`), same
    validators, CSP flag and fuel: the first analysis reports the same outcome class, and after a success the
    executions of `name` agree on every input. -/
theorem C06_callfree_independent (w1 w2 : World) (n1 n2 : Nat) (name : String) (t : Tree)
    (hl1 : (w1.ns n1).text.lookup name = some (some t)) (hl2 : (w2.ns n2).text.lookup name = some (some t))
    (hnc : listNoCalls t.root)
    (hq1 : Quiet (w1.ns n1).esc name) (hq2 : Quiet (w2.ns n2).esc name)
    (hf : w1.fuel = w2.fuel) (hv : w1.v = w2.v) (hcsp : (w1.ns n1).csp = (w2.ns n2).csp)
    (hx1 : NoC08 (escapeTemplateTop w1 n1 name)) (hx2 : NoC08 (escapeTemplateTop w2 n2 name)) :
    cls (escapeTemplateTop w1 n1 name) = cls (escapeTemplateTop w2 n2 name) ∧
    ∀ w1' w2', escapeTemplateTop w1 n1 name = .inr (w1', none) → escapeTemplateTop w2 n2 name = .inr (w2', none) →
      ∀ (o1 o2 : TObj) (d : Value), o1.ns = n1 → o1.name = name → o2.ns = n2 → o2.name = name →
        o1.registered = o2.registered → textExecute w1' o1 d = textExecute w2' o2 d := by
  refine ⟨?_, ?_⟩
  · rw [top_cls w1 n1 name t hl1 hnc hq1 hx1, top_cls w2 n2 name t hl2 hnc hq2 hx2, hf, hv, hcsp]
  · intro w1' w2' h1 h2 o1 o2 d ho1 hn1 ho2 hn2 hreg
    obtain ⟨hf1, T1, hT1, hs1⟩ := top_cf w1 n1 name t hl1 hnc hq1 w1' none h1
    obtain ⟨hf2, T2, hT2, hs2⟩ := top_cf w2 n2 name t hl2 hnc hq2 w2' none h2
    rw [hf, hv, hcsp, hT2] at hT1
    simp only [Out.ok.injEq, Prod.mk.injEq, true_and] at hT1
    subst hT1
    obtain ⟨T1', hT1', hk1⟩ := hs1 rfl
    obtain ⟨T2', hT2', hk2⟩ := hs2 rfl
    rw [hT1'] at hT2'
    cases hT2'
    have hncT : listNoCalls T1'.root := by
      unfold cfTop at hT2
      split at hT2
      · cases hT2
      · cases hT2
      · rename_i cc ss _
        simp only [Out.ok.injEq, Prod.mk.injEq] at hT2
        exact cfTree_nc name ss t T1' hnc (hT2.2.trans hT1')
    subst ho1 ho2
    rw [exec_cf w1' o1 d T1' (by rw [hn1]; exact hk1) hncT, exec_cf w2' o2 d T1' (by rw [hn2]; exact hk2) hncT,
      hreg, hf1, hf2, hf]

/-! #### the hypotheses in reachable worlds -/

theorem quiet_fresh (e : Esc) (name : String) (ho : e.output = []) (hd : e.derived = []) (ha : e.actionEdits = [])
    (ht : e.tmplEdits = []) (hx : e.textEdits = []) : Quiet e name :=
  ⟨(by rw [ho]; rfl), (by rw [hd]; intro p h; cases h), (by rw [ha]; intro p h; cases h),
    (by rw [ht]; intro p h; cases h), (by rw [hx]; intro p h; cases h)⟩

/-- `Quiet` = "not memoized", under the invariants `KM` (pending edits belong to memoized names) and `DM` (derived
    templates are memoized) -/
theorem quiet_of (e : Esc) (name : String) (hm : alookup e.output name = none) (hkm : KM e) (hdm : DM e) :
    Quiet e name := by
  have hnm : ¬ Memo e name := by unfold Memo; rw [hm]; exact fun h => nomatch h
  refine ⟨hm, ?_, ?_, ?_, ?_⟩
  · intro p hp he
    exact hnm (he ▸ hdm p hp)
  · intro q hq he
    exact hnm (he ▸ hkm q.1 (.inl (List.mem_map.mpr ⟨q, hq, rfl⟩)))
  · intro q hq he
    exact hnm (he ▸ hkm q.1 (.inr (.inl (List.mem_map.mpr ⟨q, hq, rfl⟩))))
  · intro q hq he
    exact hnm (he ▸ hkm q.1 (.inr (.inr (List.mem_map.mpr ⟨q, hq, rfl⟩))))

theorem quiet_reachable (w : World) (hr : ReachableP w) (n : Nat) (name : String)
    (hm : alookup (w.ns n).esc.output name = none) : Quiet (w.ns n).esc name := by
  have hg : GoodNs (w.ns n) := (invR_reachable w hr.reachable0.reachable).1.1 n
  obtain ⟨_, _, _, _, ⟨_, _, hkm, _⟩, _⟩ := winv_reachable w hr n
  exact quiet_of _ name hm hkm hg.2.1

theorem noC08_of_winv {w : World} (hw : WInv w) (n : Nat) (name : String) : NoC08 (escapeTemplateTop w n name) := by
  intro m hm
  rcases top_panics hw hm with h | h <;> rw [h] <;> decide

theorem noC08_reachable (w : World) (hr : ReachableP w) (n : Nat) (name : String) :
    NoC08 (escapeTemplateTop w n name) :=
  noC08_of_winv (winv_reachable w hr) n name

/-- **C06, first half, call-free templates, reachable worlds.** `w1`, `w2` are any two worlds a program can build
    (parsed definitions well-formed: `OpOK`); `name` has the same call-free tree in name space `n1` of `w1` and `n2` of
    `w2` and has not been analysed in either. Then `escapeTemplate` reports the same outcome class in both, and after a
    success `name` executes identically. Taking for `w2` a world in which `n2` has never been executed gives "history
    independence": the history of `n1` (which other templates were executed before, with which results) is not
    observable through `name`. -/
theorem C06_callfree_reachable (w1 w2 : World) (hr1 : ReachableP w1) (hr2 : ReachableP w2) (n1 n2 : Nat)
    (name : String) (t : Tree)
    (hl1 : (w1.ns n1).text.lookup name = some (some t)) (hl2 : (w2.ns n2).text.lookup name = some (some t))
    (hnc : listNoCalls t.root)
    (hm1 : alookup (w1.ns n1).esc.output name = none) (hm2 : alookup (w2.ns n2).esc.output name = none)
    (hf : w1.fuel = w2.fuel) (hv : w1.v = w2.v) (hcsp : (w1.ns n1).csp = (w2.ns n2).csp) :
    cls (escapeTemplateTop w1 n1 name) = cls (escapeTemplateTop w2 n2 name) ∧
    ∀ w1' w2', escapeTemplateTop w1 n1 name = .inr (w1', none) → escapeTemplateTop w2 n2 name = .inr (w2', none) →
      ∀ (o1 o2 : TObj) (d : Value), o1.ns = n1 → o1.name = name → o2.ns = n2 → o2.name = name →
        o1.registered = o2.registered → textExecute w1' o1 d = textExecute w2' o2 d :=
  C06_callfree_independent w1 w2 n1 n2 name t hl1 hl2 hnc (quiet_reachable w1 hr1 n1 name hm1)
    (quiet_reachable w2 hr2 n2 name hm2) hf hv hcsp (noC08_reachable w1 hr1 n1 name) (noC08_reachable w2 hr2 n2 name)


end SafeHtml.Proofs.Independence
