/-
What the proofs about character references need of the named-entity table (`Generated/Entities`, 2229 rows
keyed by `nameKey`). `EntityTable.lookup` is a binary search over an `Array` built by `++`, which the kernel
evaluates by repeated `push` (quadratic); the search is transported once to the list of rows, and every fact
about the rows is then one evaluation over that list (`table_rows`).
-/
import SafeHtml.Spec.CharRef
import SafeHtml.Spec.UrlComponents

/- `benign`, which the sweep over the rows evaluates, is made of the next four predicates; Proofs/C14Sound.lean and
   Proofs/C14Ws.lean, which import this file, state their theorems with them, hence their namespaces. -/
namespace SafeHtml.Proofs.C14Sound
open SafeHtml SafeHtml.Spec.UrlComp

/-- ends the scheme state without producing a scheme, and is not stripped by URL preprocessing -/
def isStop (s : Nat) : Bool := !isSchemeChar s && decide (32 < s) && s != 58

def stopHead (l : Bytes) : Bool :=
  match l with
  | s :: _ => isStop s
  | [] => false

def hasQH (l : Bytes) : Bool := l.contains 63 || l.contains 35

end SafeHtml.Proofs.C14Sound

namespace SafeHtml.Proofs.C14Ws
open SafeHtml SafeHtml.Spec.UrlComp

def hasWs (l : Bytes) : Bool := l.any isWsOrCtl

end SafeHtml.Proofs.C14Ws

namespace SafeHtml.Proofs.EntityFacts
open SafeHtml SafeHtml.Spec.CharRef SafeHtml.Proofs.C14Sound SafeHtml.Proofs.C14Ws

/-! ### the search, over a list -/

open SafeHtml.Generated.Entities in
def tableList : List (Nat × Nat × Nat) :=
  chunk0.toList ++ chunk1.toList ++ chunk2.toList ++ chunk3.toList ++ chunk4.toList ++ chunk5.toList ++
  chunk6.toList ++ chunk7.toList ++ chunk8.toList ++ chunk9.toList ++ chunk10.toList ++ chunk11.toList ++
  chunk12.toList ++ chunk13.toList ++ chunk14.toList ++ chunk15.toList ++ chunk16.toList ++ chunk17.toList

theorem table_toList : Generated.Entities.table.toList = tableList := by
  simp only [Generated.Entities.table, Array.toList_append, tableList]

def bsearchL (l : List (Nat × Nat × Nat)) (k : Nat) : Nat → Nat → Nat → Option (Nat × Nat)
  | 0, _, _ => none
  | f+1, lo, hi =>
    if lo < hi then
      let mid := (lo + hi) / 2
      let e := (l[mid]?).getD default
      if e.1 == k then some e.2
      else if e.1 < k then bsearchL l k f (mid + 1) hi
      else bsearchL l k f lo mid
    else none

theorem table_get (i : Nat) :
    Generated.Entities.table[i]! = (Generated.Entities.table.toList[i]?).getD default := by
  rw [getElem!_def, Array.getElem?_toList]
  cases Generated.Entities.table[i]? <;> rfl

theorem bsearch_eq (k : Nat) : ∀ f lo hi,
    EntityTable.bsearch k f lo hi = bsearchL Generated.Entities.table.toList k f lo hi
  | 0, _, _ => rfl
  | f+1, lo, hi => by
    unfold EntityTable.bsearch bsearchL
    simp only [table_get, bsearch_eq k f]

theorem lookup_eq (name : Bytes) :
    EntityTable.lookup name = bsearchL tableList (nameKey name) 40 0 tableList.length := by
  unfold EntityTable.lookup
  rw [bsearch_eq, ← Array.length_toList, table_toList]

/-- a hit is a row of the list (or the default row, whose key is 0) -/
theorem bsearchL_some (l : List (Nat × Nat × Nat)) (k : Nat) : ∀ (f lo hi : Nat) (v : Nat × Nat),
    bsearchL l k f lo hi = some v → k = 0 ∨ (k, v) ∈ l
  | 0, _, _, _, h => by simp [bsearchL] at h
  | f+1, lo, hi, v, h => by
    unfold bsearchL at h
    split at h
    · simp only [] at h
      split at h
      · next heq =>
        cases h
        cases hm : l[(lo + hi) / 2]? with
        | none => rw [hm] at heq; exact Or.inl (eq_of_beq heq).symm
        | some e =>
          rw [hm] at heq
          exact Or.inr ((eq_of_beq heq : e.1 = k) ▸ List.mem_of_getElem? hm)
      · split at h <;> exact bsearchL_some l k f _ _ v h
    · cases h

theorem foldl_pos : ∀ (l : Bytes) (a : Nat), 1 ≤ a → 1 ≤ l.foldl (fun a b => a * 256 + b) a
  | [], _, h => h
  | _ :: l, a, h => foldl_pos l _ (show 1 ≤ a * 256 + _ by omega)

theorem lookup_mem (name : Bytes) (e : Nat × Nat) (h : EntityTable.lookup name = some e) :
    (nameKey name, e) ∈ tableList := by
  rw [lookup_eq] at h
  rcases bsearchL_some _ _ _ _ _ _ h with h0 | h1
  · have := foldl_pos name 1 (Nat.le_refl _)
    unfold nameKey at h0; omega
  · exact h1

/-! ### keys -/

theorem nameKey_snoc (l : Bytes) (b : Nat) (hb : b < 256) : nameKey (l ++ [b]) % 256 = b := by
  unfold nameKey
  rw [List.foldl_append]
  simp only [List.foldl_cons, List.foldl_nil]
  omega

theorem foldl_bounds : ∀ (l : Bytes) (a : Nat), (∀ b ∈ l, b < 256) →
    a * 256 ^ l.length ≤ l.foldl (fun a b => a * 256 + b) a ∧
    l.foldl (fun a b => a * 256 + b) a < (a + 1) * 256 ^ l.length
  | [], a, _ => by simp
  | b :: l, a, h => by
    have hb : b < 256 := h b (by simp)
    have ih := foldl_bounds l (a * 256 + b) (fun x hx => h x (by simp [hx]))
    simp only [List.foldl_cons, List.length_cons, Nat.pow_succ]
    generalize 256 ^ l.length = P at ih ⊢
    have h1 : a * 256 * P ≤ (a * 256 + b) * P := Nat.mul_le_mul_right P (by omega)
    have h2 : (a * 256 + b + 1) * P ≤ ((a + 1) * 256) * P := Nat.mul_le_mul_right P (by omega)
    have e1 : a * (P * 256) = a * 256 * P := by rw [Nat.mul_comm P 256, Nat.mul_assoc]
    have e2 : (a + 1) * (P * 256) = (a + 1) * 256 * P := by rw [Nat.mul_comm P 256, Nat.mul_assoc]
    rw [e1, e2]
    exact ⟨Nat.le_trans h1 ih.1, Nat.lt_of_lt_of_le ih.2 h2⟩

/-- `256 + first byte` of the name with key `k`: a key is `1`, then the bytes, in base 256, so its binary length
    tells the length of the name. (`log2` and `>>>` are GMP operations in the kernel; comparing `k` with
    `(256 + c) * 256 ^ n` for every possible `n` is an order of magnitude slower over the table.) -/
def lead (k : Nat) : Nat := k >>> (8 * (k.log2 / 8 - 1))

theorem lead_nameKey (c : Nat) (l : Bytes) (hc : c < 256) (hl : ∀ b ∈ l, b < 256) :
    lead (nameKey (c :: l)) = 256 + c := by
  have hb : (256 + c) * 256 ^ l.length ≤ nameKey (c :: l) ∧ nameKey (c :: l) < (256 + c + 1) * 256 ^ l.length :=
    foldl_bounds l (1 * 256 + c) hl
  generalize nameKey (c :: l) = k at hb
  rw [show 256 ^ l.length = 2 ^ (8 * l.length) by rw [Nat.pow_mul]] at hb
  have hlog : k.log2 = 8 * l.length + 8 := by
    have e1 : 2 ^ (8 * l.length + 8) = 2 ^ (8 * l.length) * 256 := Nat.pow_add 2 _ 8
    have e2 : 2 ^ (8 * l.length + 8 + 1) = 2 ^ (8 * l.length) * 512 := Nat.pow_add 2 _ 9
    have hpos : 0 < 2 ^ (8 * l.length) := Nat.pow_pos (by omega)
    generalize 2 ^ (8 * l.length) = P at hb e1 e2 hpos
    have h1 := Nat.mul_le_mul_right P (show 256 ≤ 256 + c by omega)
    have h2 := Nat.mul_le_mul_right P (show 256 + c + 1 ≤ 512 by omega)
    rw [Nat.log2_eq_iff (by omega), e1, e2]
    omega
  have he : 8 * (k.log2 / 8 - 1) = 8 * l.length := by omega
  rw [lead, he, Nat.shiftRight_eq_div_pow]
  exact Nat.div_eq_of_lt_le hb.1 hb.2

/-! ### the rows -/

def benign (o : Bytes) : Bool := stopHead o && !hasQH o && !hasWs o

/-- 304 = 256 + `'0'` and 314 = 256 + `':'` (`'9'` + 1): the first byte of the name is not a digit. -/
theorem table_rows : (tableList.all fun ent =>
    (lead ent.1 < 304 || 314 ≤ lead ent.1) && ent.2.1 != 0 &&
      (ent.1 % 256 == 59 || benign (encodeEntity ent.2))) = true := by
  decide +kernel

theorem lookup_facts (name : Bytes) (e : Nat × Nat) (h : EntityTable.lookup name = some e) :
    (lead (nameKey name) < 304 ∨ 314 ≤ lead (nameKey name)) ∧ e.1 ≠ 0 ∧
      (nameKey name % 256 = 59 ∨ benign (encodeEntity e) = true) := by
  simpa [and_assoc] using List.all_eq_true.1 table_rows _ (lookup_mem name e h)

theorem lookup_digit_none (c : Nat) (l : Bytes) (hc : isDigit c = true) (hl : ∀ b ∈ l, b < 256) :
    EntityTable.lookup (c :: l) = none := by
  cases hlk : EntityTable.lookup (c :: l) with
  | none => rfl
  | some v =>
    simp only [isDigit, Bool.and_eq_true, decide_eq_true_eq] at hc
    have := (lookup_facts _ v hlk).1
    rw [lead_nameKey c l (by omega) hl] at this
    omega

theorem lookup_legacy (i : Bytes) (x : Nat) (e : Nat × Nat) (hx : x < 256) (h59 : x ≠ 59)
    (h : EntityTable.lookup (i ++ [x]) = some e) : benign (encodeEntity e) = true := by
  rcases (lookup_facts _ e h).2.2 with h | h
  · rw [nameKey_snoc i x hx] at h; exact absurd h h59
  · exact h

theorem lookup_escaped :
    EntityTable.lookup [97, 109, 112, 59] = some (38, 0) ∧ EntityTable.lookup [108, 116, 59] = some (60, 0) ∧
    EntityTable.lookup [103, 116, 59] = some (62, 0) := by
  simp only [lookup_eq]
  decide +kernel

end SafeHtml.Proofs.EntityFacts
