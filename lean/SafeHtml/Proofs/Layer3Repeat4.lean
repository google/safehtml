/-
C06 without hypotheses on the tree, for the single-object worlds `New`; `Parse` and `New`; `Parse`; `CSPCompatible`
(`Layer3Repeat.fixedFrom_unset` applies to both), and C01 for later executions in a CSP-compatible set (the transfer
theorems of `CspMono` through `first_of_later`).
-/
import SafeHtml.Proofs.Layer3Repeat
import SafeHtml.Proofs.CspMono
set_option linter.unusedSimpArgs false
namespace SafeHtml.Proofs.Layer3Repeat4
open SafeHtml SafeHtml.Model SafeHtml.Model.Tmpl SafeHtml.Spec SafeHtml.Spec.HtmlTok SafeHtml.Generated.Policy
open SafeHtml.Props.C02 (Untrusted)
open SafeHtml.Proofs.HtmlTokSim
open SafeHtml.Proofs.Layer3 SafeHtml.Proofs.Layer3E2E SafeHtml.Proofs.Layer3Branch SafeHtml.Proofs.Layer3Calls
open SafeHtml.Proofs.Layer3Helpers SafeHtml.Proofs.Layer3Repeat
open SafeHtml.Proofs.CspMono

/-- the three possible outcomes of the analysis -/
theorem escapeTemplateTop_shape (w : World) (nsId : Nat) (name : String) :
    (∃ r, escapeTemplateTop w nsId name = .inl r) ∨
    (∃ e code, escapeTemplateTop w nsId name = .inr (markFailed w nsId name e code, some code)) ∨
    (∃ t e, escapeTemplateTop w nsId name = .inr (markOk w nsId name t e, none)) :=
  top_cases w nsId name

theorem fixedFrom_setupCsp (v : Validators) (fuel : Nat) (name : String) (tr : Tree) (hn : tr.name = name) :
    FixedFrom (setupCsp v fuel name tr) := by
  have h : setupCsp v fuel name tr =
      (setupW v fuel name tr).setNs 0 { (setupW v fuel name tr).ns 0 with csp := true } := by
    show (Api.step (setup v fuel name tr) (.csp 0)).1 = _
    rw [setup_eq v fuel name tr hn]
    simp only [Api.step, setupW_obj]
  rw [h]
  exact fixedFrom_unset _ 1 _ (setupW_obj v fuel name tr)
    (by rw [ns_setNs_same]; simp [setupW, World.ns, nlookup, alookup])

/-- C06, hypothesis-free, single-object world: for an ARBITRARY tree (no grammar / analysis hypothesis: the
    analysis may succeed, fail, panic or run out of fuel) the result of `Execute(d)` after any earlier `Execute`
    calls is the result of a first `Execute(d)`. -/
theorem C06_result_history_independent_any_single (v : Validators) (fuel : Nat) (name : String) (tr : Tree)
    (pre : List Value) (d : Value) :
    (Api.step (execs (setupW v fuel name tr) pre) (.exec 0 d)).2 =
      (Api.step (setupW v fuel name tr) (.exec 0 d)).2 :=
  step_execs_of_fixedFrom _ (fixedFrom_setupW v fuel name tr) pre d

theorem C06_result_history_independent_any_single' (v : Validators) (fuel : Nat) (name : String) (tr : Tree)
    (pre1 pre2 : List Value) (d : Value) :
    (Api.step (execs (setupW v fuel name tr) pre1) (.exec 0 d)).2 =
      (Api.step (execs (setupW v fuel name tr) pre2) (.exec 0 d)).2 :=
  history_independent_setupW v fuel name tr pre1 pre2 d

/-- the same from `setup` (the `Api.run` form; `tr.name = name` is what makes `Parse` register the tree under the
    object's own name) -/
theorem C06_result_history_independent_any_setup (v : Validators) (fuel : Nat) (name : String) (tr : Tree)
    (hn : tr.name = name) (pre : List Value) (d : Value) :
    (Api.step (execs (setup v fuel name tr) pre) (.exec 0 d)).2 = (Api.step (setup v fuel name tr) (.exec 0 d)).2 :=
  step_execs_of_fixedFrom _ (fixedFrom_setup v fuel name tr hn) pre d

/-- C06, hypothesis-free, CSP-compatible single-object world (`New`; `Parse`; `CSPCompatible`) -/
theorem C06_result_history_independent_any_single_csp (v : Validators) (fuel : Nat) (name : String) (tr : Tree)
    (hn : tr.name = name) (pre : List Value) (d : Value) :
    (Api.step (execs (setupCsp v fuel name tr) pre) (.exec 0 d)).2 =
      (Api.step (setupCsp v fuel name tr) (.exec 0 d)).2 :=
  step_execs_of_fixedFrom _ (fixedFrom_setupCsp v fuel name tr hn) pre d

theorem C06_result_history_independent_any_single_csp' (v : Validators) (fuel : Nat) (name : String) (tr : Tree)
    (hn : tr.name = name) (pre1 pre2 : List Value) (d : Value) :
    (Api.step (execs (setupCsp v fuel name tr) pre1) (.exec 0 d)).2 =
      (Api.step (execs (setupCsp v fuel name tr) pre2) (.exec 0 d)).2 :=
  history_independent (fixedFrom_setupCsp v fuel name tr hn) pre1 pre2 d

/-- C01 for a single straight-line template in a CSP-compatible set, later executions -/
theorem C01_api_single_template_csp_repeat (v : Validators) (fuel : Nat) (name : String) (tr : Tree)
    (ps : List Piece)
    (as : List Arg) (has : ∀ a ∈ as, ActArg a) (cf : Ctx) (es : List EPiece) (hn : tr.name = name)
    (hroot : tr.root = NodeList.ofList (toNodesA 0 ps as)) (hs : SimpleAll v {} ps)
    (ha : analyse v {} ps = some (cf, es)) (hfin : finalError cf = none) (hf : ps.length + 4 ≤ fuel)
    (pre1 pre2 : List Value)
    (d1 d2 : Value) (hu1 : LeavesUntrusted d1 as) (hu2 : LeavesUntrusted d2 as) (o1 o2 : Bytes) (w1 w2 : World)
    (h1 : Api.step (execs (setupCsp v fuel name tr) pre1) (.exec 0 d1) = (w1, .exec (.ok o1)))
    (h2 : Api.step (execs (setupCsp v fuel name tr) pre2) (.exec 0 d2) = (w2, .exec (.ok o2))) :
    skeleton (HtmlTok.tokenize o1).tokens = skeleton (HtmlTok.tokenize o2).tokens ∧
    (HtmlTok.tokenize o1).final = .data ∧ (HtmlTok.tokenize o2).final = .data :=
  C01_api_single_template_csp v fuel name tr ps as has cf es hn hroot hs ha hfin hf d1 d2 hu1 hu2 o1 o2 _ _
    (first_of_later _ (fixedFrom_setupCsp v fuel name tr hn) pre1 d1 w1 _ h1)
    (first_of_later _ (fixedFrom_setupCsp v fuel name tr hn) pre2 d2 w2 _ h2)

/-- C01 for a template with `if` / `with` / `range` in a CSP-compatible set, later executions -/
theorem C01_api_branch_template_csp_repeat (v : Validators) (fuel : Nat) (name : String) (tr : Tree) (tps : TPs)
    (cf : Ctx)
    (es : ERs) (hn : tr.name = name) (hroot : tr.root = nodesTL 0 tps) (hok : ArgsOKL tps)
    (hs : SimpleRL v {} (eraseL tps)) (ha : analyseRL v {} (eraseL tps) = some (cf, es))
    (hfin : finalError cf = none) (hf : fuelRL (eraseL tps) + 3 ≤ fuel) (pre1 pre2 : List Value) (d1 d2 : Value)
    (hpath : pathL tps d1 d1 = pathL tps d2 d2)
    (hu1 : ∀ x ∈ valsL tps d1 d1, Untrusted x) (hu2 : ∀ x ∈ valsL tps d2 d2, Untrusted x)
    (o1 o2 : Bytes) (w1 w2 : World)
    (h1 : Api.step (execs (setupCsp v fuel name tr) pre1) (.exec 0 d1) = (w1, .exec (.ok o1)))
    (h2 : Api.step (execs (setupCsp v fuel name tr) pre2) (.exec 0 d2) = (w2, .exec (.ok o2))) :
    skeleton (HtmlTok.tokenize o1).tokens = skeleton (HtmlTok.tokenize o2).tokens ∧
    (HtmlTok.tokenize o1).final = .data ∧ (HtmlTok.tokenize o2).final = .data :=
  C01_api_branch_template_csp v fuel name tr tps cf es hn hroot hok hs ha hfin hf d1 d2 hpath hu1 hu2 o1 o2 _ _
    (first_of_later _ (fixedFrom_setupCsp v fuel name tr hn) pre1 d1 w1 _ h1)
    (first_of_later _ (fixedFrom_setupCsp v fuel name tr hn) pre2 d2 w2 _ h2)

/-! ### non-vacuity: the sticky-error case and the fuel case

`exMainTree` (`Layer3Helpers`) calls the template "h"; parsed ALONE the set has no "h", so the first analysis FAILS:
the object is marked failed and every later `Execute` returns the same analysis error. With fuel 0 the analysis of
`exTree` runs out of fuel on every call (the object stays unset). -/

def isFailed (w : World) : Bool :=
  match nlookup w.objs 1 with
  | some o => (match o.status with | .failed _ => true | _ => false)
  | none => false

def retErr : Ret → Bool
  | .exec (.err _ _) => true
  | _ => false

def retFuel : Ret → Bool
  | .exec .fuel => true
  | _ => false

example : isFailed (Api.step (setup v0 100 "main" exMainTree) (.exec 0 (exData [60]))).1 = true := by
  decide +kernel

example : retErr (Api.step (execs (setup v0 100 "main" exMainTree) [exData [34, 62, 60], .str [1]])
    (.exec 0 (exData [60, 38]))).2 = true := by
  decide +kernel

example : retFuel (Api.step (execs (setup v0 0 "t" exTree) [exData [34, 62, 60]]) (.exec 0 (exData [60, 38]))).2
    = true := by
  decide +kernel

#print axioms C06_result_history_independent_any_single
#print axioms C06_result_history_independent_any_single'
#print axioms C06_result_history_independent_any_setup
#print axioms C06_result_history_independent_any_single_csp
#print axioms C06_result_history_independent_any_single_csp'
#print axioms C01_api_single_template_csp_repeat
#print axioms C01_api_branch_template_csp_repeat

end SafeHtml.Proofs.Layer3Repeat4
