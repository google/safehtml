/-
Facts about byte strings that several layers share: the hex digits every escaper writes, and splitting a string
at the first byte that fails a test. `Stops p l` says that `l` is empty or starts with such a byte; `span_split`
writes any list as a run of `p`-bytes followed by a list that stops. The srcset scanner and the hand reading of
the URL regexes both cut their input this way.
-/
import SafeHtml.Basic.Bytes
namespace SafeHtml

theorem hexDigitLower_cases (n : Nat) (h : n < 16) :
    (n < 10 ∧ hexDigitLower n = 48 + n) ∨ (10 ≤ n ∧ hexDigitLower n = 87 + n) := by
  unfold hexDigitLower; split <;> omega

end SafeHtml

namespace SafeHtml.Proofs.UrlSet
open SafeHtml

def Stops (p : Nat → Bool) (l : Bytes) : Prop := ∀ c ∈ l.head?, p c = false

theorem stops_nil (p) : Stops p [] := by simp [Stops]
theorem stops_cons (p) (c : Nat) (t : Bytes) (h : p c = false) : Stops p (c :: t) := by simp [Stops, h]

theorem takeWhile_stops (p : Nat → Bool) (l : Bytes) (h : Stops p l) : l.takeWhile p = [] := by
  cases l with
  | nil => rfl
  | cons c t => simp [Stops] at h; simp [List.takeWhile, h]

theorem dropWhile_stops (p : Nat → Bool) (l : Bytes) (h : Stops p l) : l.dropWhile p = l := by
  cases l with
  | nil => rfl
  | cons c t => simp [Stops] at h; simp [List.dropWhile, h]

theorem takeWhile_span (p : Nat → Bool) (a b : Bytes) (ha : ∀ x ∈ a, p x = true) (hb : Stops p b) :
    (a ++ b).takeWhile p = a := by
  rw [List.takeWhile_append_of_pos ha, takeWhile_stops p b hb, List.append_nil]

theorem dropWhile_span (p : Nat → Bool) (a b : Bytes) (ha : ∀ x ∈ a, p x = true) (hb : Stops p b) :
    (a ++ b).dropWhile p = b := by
  rw [List.dropWhile_append_of_pos ha, dropWhile_stops p b hb]

theorem stops_append (p : Nat → Bool) (a b : Bytes) (ha : a ≠ []) (h : Stops p a) : Stops p (a ++ b) := by
  cases a with
  | nil => exact absurd rfl ha
  | cons c t => simpa [Stops] using h

theorem stops_cases {p : Nat → Bool} {l : Bytes} (h : Stops p l) : l = [] ∨ ∃ d r, l = d :: r ∧ p d = false := by
  cases l with
  | nil => exact .inl rfl
  | cons d r => exact .inr ⟨d, r, rfl, by simpa [Stops] using h⟩

theorem mem_takeWhile_imp (p : Nat → Bool) (l : Bytes) (b : Nat) (h : b ∈ l.takeWhile p) : p b = true := by
  have := List.all_takeWhile (p := p) (l := l)
  rw [List.all_eq_true] at this
  exact this b h

theorem stops_dropWhile (p : Nat → Bool) (l : Bytes) : Stops p (l.dropWhile p) := by
  induction l with
  | nil => exact stops_nil p
  | cons c t ih =>
    by_cases h : p c = true
    · rw [List.dropWhile_cons_of_pos h]; exact ih
    · have h' : p c = false := by simpa using h
      rw [List.dropWhile_cons_of_neg h]; exact stops_cons p c t h'

theorem span_split (p : Nat → Bool) (t : Bytes) :
    ∃ a r, t = a ++ r ∧ t.takeWhile p = a ∧ t.dropWhile p = r ∧ (∀ b ∈ a, p b = true) ∧ Stops p r :=
  ⟨_, _, List.takeWhile_append_dropWhile.symm, rfl, rfl, mem_takeWhile_imp p t, stops_dropWhile p t⟩

end SafeHtml.Proofs.UrlSet
