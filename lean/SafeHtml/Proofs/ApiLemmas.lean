/- The API model (`Model/Tmpl/Api.lean`, `Step.lean`) seen from outside, so that no later proof unfolds it: world
   updates; what `markOk` / `markFailed` / `escapeTemplateTop` build; `critExecute` / `critExecuteTemplate`, the part
   of the two `Execute` entry points of /repo/template/template.go that runs under `nameSpace.mu`, tied to the model
   by `apiExecute_crit` / `apiExecuteTemplate_crit`; the first `Execute` on a handle and the later ones. -/
import SafeHtml.Model.Tmpl.Step
namespace SafeHtml.Model.Tmpl
open SafeHtml

/-! ### 1. association lists and world updates -/

theorem nlookup_nset_same {β} (l : List (Nat × β)) (k : Nat) (v : β) : nlookup (nset l k v) k = some v := by
  simp [nlookup, nset]

theorem nlookup_nset_other {β} (l : List (Nat × β)) (k k' : Nat) (v : β) (hne : k' ≠ k) :
    nlookup (nset l k v) k' = nlookup l k' := by
  unfold nlookup nset
  rw [List.find?_cons_of_neg (by simpa using fun h => hne h.symm), List.find?_filter]
  congr 2; funext p
  by_cases hp : p.1 = k' <;> simp [hp, hne]

theorem nlookup_nset {β} (l : List (Nat × β)) (k j : Nat) (v : β) :
    nlookup (nset l k v) j = if j = k then some v else nlookup l j := by
  by_cases h : j = k
  · subst h; rw [nlookup_nset_same, if_pos rfl]
  · rw [nlookup_nset_other _ _ _ _ h, if_neg h]

theorem nset_nset {β} (l : List (Nat × β)) (k : Nat) (v v' : β) : nset (nset l k v) k v' = nset l k v' := by
  simp [nset, List.filter_filter]

theorem ns_setNs_same (w : World) (k : Nat) (n : NS) : (w.setNs k n).ns k = n := by
  simp [World.ns, World.setNs, nlookup_nset_same]

theorem ns_setNs_other (w : World) (k k' : Nat) (n : NS) (h : k' ≠ k) : (w.setNs k n).ns k' = w.ns k' := by
  simp [World.ns, World.setNs, nlookup_nset_other _ _ _ _ h]

theorem ns_setNs (w : World) (k : Nat) (n : NS) (j : Nat) : (w.setNs k n).ns j = if j = k then n else w.ns j := by
  by_cases h : j = k
  · subst h; rw [ns_setNs_same, if_pos rfl]
  · rw [ns_setNs_other _ _ _ _ h, if_neg h]

theorem ns_setObj (w : World) (k : Nat) (o : TObj) (k' : Nat) : (w.setObj k o).ns k' = w.ns k' := rfl

theorem ns_bind (w : World) (h id k' : Nat) : (w.bind h id).ns k' = w.ns k' := rfl

theorem objs_setNs (w : World) (k : Nat) (n : NS) : (w.setNs k n).objs = w.objs := rfl
theorem handles_setNs (w : World) (k : Nat) (n : NS) : (w.setNs k n).handles = w.handles := rfl
theorem handles_setObj (w : World) (k : Nat) (o : TObj) : (w.setObj k o).handles = w.handles := rfl

theorem obj_setNs (w : World) (k : Nat) (n : NS) (h : Nat) : (w.setNs k n).obj h = w.obj h := rfl

theorem objs_setObj (w : World) (k : Nat) (o : TObj) (j : Nat) :
    nlookup (w.setObj k o).objs j = if j = k then some o else nlookup w.objs j :=
  nlookup_nset ..

theorem setNs_setNs (w : World) (k : Nat) (n n' : NS) : (w.setNs k n).setNs k n' = w.setNs k n' := by
  simp [World.setNs, nset_nset]

theorem setObj_setNs (w : World) (k j : Nat) (n : NS) (o : TObj) :
    (w.setObj j o).setNs k n = (w.setNs k n).setObj j o := rfl

theorem obj_inv {w : World} {h oid : Nat} {o : TObj} (ho : w.obj h = some (oid, o)) :
    nlookup w.handles h = some oid ∧ nlookup w.objs oid = some o := by
  unfold World.obj at ho
  cases h1 : nlookup w.handles h with
  | none => simp [h1] at ho
  | some id =>
    cases h2 : nlookup w.objs id with
    | none => simp [h1, h2] at ho
    | some o' =>
      simp [h1, h2] at ho
      obtain ⟨rfl, rfl⟩ := ho
      exact ⟨rfl, h2⟩

theorem obj_of {w : World} {h oid : Nat} {o : TObj} (h1 : nlookup w.handles h = some oid)
    (h2 : nlookup w.objs oid = some o) : w.obj h = some (oid, o) := by
  simp [World.obj, h1, h2]

theorem obj_setObj_same {w : World} {h oid : Nat} {o : TObj} (ho : w.obj h = some (oid, o)) (o' : TObj) :
    (w.setObj oid o').obj h = some (oid, o') :=
  obj_of (obj_inv ho).1 (by rw [objs_setObj, if_pos rfl])

theorem setNs_escaped_idem (w : World) (k : Nat) (n : NS) (he : n.escaped = true) :
    (w.setNs k n).setNs k { (w.setNs k n).ns k with escaped := true } = w.setNs k n := by
  rw [ns_setNs_same, setNs_setNs]
  cases n; simp_all

theorem foldl_inv_rel {α β} {I : α → Prop} {R : α → α → Prop} (hrefl : ∀ a, R a a)
    (htrans : ∀ {a b c}, R a b → R b c → R a c) {f : α → β → α} {l : List β}
    (hstep : ∀ a b, b ∈ l → I a → I (f a b) ∧ R a (f a b)) {a : α} (ha : I a) :
    I (l.foldl f a) ∧ R a (l.foldl f a) := by
  induction l generalizing a with
  | nil => exact ⟨ha, hrefl a⟩
  | cons b t ih =>
    obtain ⟨h1, h2⟩ := hstep a b (List.mem_cons_self ..) ha
    obtain ⟨h3, h4⟩ := ih (fun a c hc => hstep a c (List.mem_cons_of_mem _ hc)) h1
    exact ⟨h3, htrans h2 h4⟩

theorem foldl_rel {α β} {R : α → α → Prop} (hrefl : ∀ a, R a a) (htrans : ∀ {a b c}, R a b → R b c → R a c)
    {f : α → β → α} (hstep : ∀ a b, R a (f a b)) (l : List β) (a : α) : R a (l.foldl f a) :=
  (foldl_inv_rel (I := fun _ => True) hrefl htrans (fun a b _ _ => ⟨trivial, hstep a b⟩) trivial).2

/-! ### 2. `markFailed` and `markOk` -/

theorem markFailed_of {w : World} {n : Nat} {name : String} {oid : Nat} {o : TObj}
    (hid : alookup (w.ns n).set name = some oid) (ho : nlookup w.objs oid = some o) (e : Esc) (c : ErrCode) :
    markFailed w n name e c =
      (w.setNs n { w.ns n with esc := e }).setObj oid { o with status := .failed c, treeNil := true } := by
  simp only [markFailed, hid, objs_setNs, ho]

theorem markFailed_shape (w : World) (n : Nat) (name : String) (e : Esc) (c : ErrCode) :
    markFailed w n name e c = w.setNs n { w.ns n with esc := e } ∨
    ∃ oid o, alookup (w.ns n).set name = some oid ∧ nlookup w.objs oid = some o ∧
      markFailed w n name e c =
        (w.setNs n { w.ns n with esc := e }).setObj oid { o with status := .failed c, treeNil := true } := by
  cases hid : alookup (w.ns n).set name with
  | none => left; simp only [markFailed, hid]
  | some oid =>
    cases ho : nlookup w.objs oid with
    | none => left; simp only [markFailed, hid, objs_setNs, ho]
    | some o => exact .inr ⟨oid, o, rfl, ho, markFailed_of hid ho e c⟩

/-- the `Tree` field `markOk` gives the object: that of its text object in the committed set -/
def okTreeNil (o : TObj) (name : String) (t : TextSet) : Bool :=
  if o.registered then (match t.lookup name with | some (some _) => false | _ => true) else true

theorem okTreeNil_false {o : TObj} {name : String} {ts : TextSet} (h : okTreeNil o name ts = false) :
    o.registered = true ∧ ∃ tr, ts.lookup name = some (some tr) := by
  unfold okTreeNil at h
  cases hr : o.registered with
  | false => simp [hr] at h
  | true =>
    refine ⟨rfl, ?_⟩
    simp only [hr, if_true] at h
    split at h
    · exact ⟨_, by assumption⟩
    · cases h

theorem markOk_of {w : World} {n : Nat} {name : String} {oid : Nat} {o : TObj}
    (hid : alookup (w.ns n).set name = some oid) (ho : nlookup w.objs oid = some o) (t : TextSet) (e : Esc) :
    markOk w n name t e =
      (w.setNs n { w.ns n with esc := e, text := t }).setObj oid
        { o with status := .ok, treeNil := okTreeNil o name t } := by
  simp only [markOk, hid, objs_setNs, ho]
  rfl

theorem markOk_shape (w : World) (n : Nat) (name : String) (t : TextSet) (e : Esc) :
    markOk w n name t e = w.setNs n { w.ns n with esc := e, text := t } ∨
    ∃ oid o, alookup (w.ns n).set name = some oid ∧ nlookup w.objs oid = some o ∧
      markOk w n name t e =
        (w.setNs n { w.ns n with esc := e, text := t }).setObj oid
          { o with status := .ok, treeNil := okTreeNil o name t } := by
  cases hid : alookup (w.ns n).set name with
  | none => left; simp only [markOk, hid]
  | some oid =>
    cases ho : nlookup w.objs oid with
    | none => left; simp only [markOk, hid, objs_setNs, ho]
    | some o => exact .inr ⟨oid, o, rfl, ho, markOk_of hid ho t e⟩

theorem ns_markFailed (w : World) (n : Nat) (name : String) (e : Esc) (c : ErrCode) (k : Nat) :
    (markFailed w n name e c).ns k = if k = n then { w.ns n with esc := e } else w.ns k := by
  rcases markFailed_shape w n name e c with h | ⟨_, _, _, _, h⟩ <;> rw [h]
  · exact ns_setNs ..
  · exact (ns_setObj ..).trans (ns_setNs ..)

theorem ns_markOk (w : World) (n : Nat) (name : String) (t : TextSet) (e : Esc) (k : Nat) :
    (markOk w n name t e).ns k = if k = n then { w.ns n with esc := e, text := t } else w.ns k := by
  rcases markOk_shape w n name t e with h | ⟨_, _, _, _, h⟩ <;> rw [h]
  · exact ns_setNs ..
  · exact (ns_setObj ..).trans (ns_setNs ..)

theorem fields_markFailed (w : World) (n : Nat) (name : String) (e : Esc) (c : ErrCode) :
    (markFailed w n name e c).fuel = w.fuel ∧ (markFailed w n name e c).v = w.v ∧
    (markFailed w n name e c).next = w.next ∧ (markFailed w n name e c).handles = w.handles := by
  rcases markFailed_shape w n name e c with h | ⟨_, _, _, _, h⟩ <;> rw [h] <;> exact ⟨rfl, rfl, rfl, rfl⟩

theorem fields_markOk (w : World) (n : Nat) (name : String) (t : TextSet) (e : Esc) :
    (markOk w n name t e).fuel = w.fuel ∧ (markOk w n name t e).v = w.v ∧
    (markOk w n name t e).next = w.next ∧ (markOk w n name t e).handles = w.handles := by
  rcases markOk_shape w n name t e with h | ⟨_, _, _, _, h⟩ <;> rw [h] <;> exact ⟨rfl, rfl, rfl, rfl⟩

theorem objs_markFailed (w : World) (n : Nat) (name : String) (e : Esc) (c : ErrCode) (id : Nat) :
    nlookup (markFailed w n name e c).objs id = nlookup w.objs id ∨
    ∃ o, alookup (w.ns n).set name = some id ∧ nlookup w.objs id = some o ∧
      nlookup (markFailed w n name e c).objs id = some { o with status := .failed c, treeNil := true } := by
  rcases markFailed_shape w n name e c with h | ⟨oid, o, hid, ho, h⟩ <;> rw [h]
  · exact .inl rfl
  · rw [objs_setObj]
    by_cases hj : id = oid
    · subst hj; rw [if_pos rfl]; exact .inr ⟨o, hid, ho, rfl⟩
    · rw [if_neg hj]; exact .inl rfl

theorem objs_markOk (w : World) (n : Nat) (name : String) (t : TextSet) (e : Esc) (id : Nat) :
    nlookup (markOk w n name t e).objs id = nlookup w.objs id ∨
    ∃ o, alookup (w.ns n).set name = some id ∧ nlookup w.objs id = some o ∧
      nlookup (markOk w n name t e).objs id = some { o with status := .ok, treeNil := okTreeNil o name t } := by
  rcases markOk_shape w n name t e with h | ⟨oid, o, hid, ho, h⟩ <;> rw [h]
  · exact .inl rfl
  · rw [objs_setObj]
    by_cases hj : id = oid
    · subst hj; rw [if_pos rfl]; exact .inr ⟨o, hid, ho, rfl⟩
    · rw [if_neg hj]; exact .inl rfl

/-! ### 3. `escapeTemplateTop` -/

def analysisEnv (w : World) (k : Nat) : Env :=
  { text := (w.ns k).text, nsHas := fun n => (alookup (w.ns k).set n).isSome, csp := (w.ns k).csp, v := w.v }

theorem top_of_failed {w : World} {k : Nat} {name : String} {e : Esc} {c : Ctx} {d : String} {code : ErrCode}
    (he : escapeTree (analysisEnv w k) w.fuel (w.ns k).esc {} name = .ok (e, c, d))
    (hf : finalError c = some code) :
    escapeTemplateTop w k name = .inr (markFailed w k name e code, some code) := by
  unfold analysisEnv at he
  simp only [escapeTemplateTop, he, hf]

theorem top_of_ok {w : World} {k : Nat} {name : String} {e e' : Esc} {c : Ctx} {d : String} {t : TextSet}
    (he : escapeTree (analysisEnv w k) w.fuel (w.ns k).esc {} name = .ok (e, c, d))
    (hf : finalError c = none) (hc : commit (w.ns k).text e = .ok (t, e')) :
    escapeTemplateTop w k name = .inr (markOk w k name t e', none) := by
  unfold analysisEnv at he
  simp only [escapeTemplateTop, he, hf, hc]

theorem top_inr {w w' : World} {k : Nat} {name : String} {r : Option ErrCode}
    (h : escapeTemplateTop w k name = .inr (w', r)) :
    ∃ e c d, escapeTree (analysisEnv w k) w.fuel (w.ns k).esc {} name = .ok (e, c, d) ∧
      ((∃ code, finalError c = some code ∧ r = some code ∧ w' = markFailed w k name e code) ∨
       (∃ t e', finalError c = none ∧ commit (w.ns k).text e = .ok (t, e') ∧ r = none ∧
          w' = markOk w k name t e')) := by
  cases he : escapeTree (analysisEnv w k) w.fuel (w.ns k).esc {} name with
  | panic m => unfold analysisEnv at he; simp [escapeTemplateTop, he] at h
  | fuel => unfold analysisEnv at he; simp [escapeTemplateTop, he] at h
  | ok x =>
    obtain ⟨e, c, d⟩ := x
    refine ⟨e, c, d, rfl, ?_⟩
    cases hf : finalError c with
    | some code =>
      rw [top_of_failed he hf] at h
      cases h
      exact .inl ⟨code, rfl, rfl, rfl⟩
    | none =>
      cases hc : commit (w.ns k).text e with
      | panic m => unfold analysisEnv at he; simp [escapeTemplateTop, he, hf, hc] at h
      | fuel => unfold analysisEnv at he; simp [escapeTemplateTop, he, hf, hc] at h
      | ok y =>
        obtain ⟨t, e'⟩ := y
        rw [top_of_ok he hf hc] at h
        cases h
        exact .inr ⟨t, e', rfl, rfl, rfl, rfl⟩

theorem top_inl {w : World} {k : Nat} {name : String} {x : Res} (h : escapeTemplateTop w k name = .inl x) :
    (escapeTree (analysisEnv w k) w.fuel (w.ns k).esc {} name = .fuel ∧ x = .fuel) ∨
    (∃ m, escapeTree (analysisEnv w k) w.fuel (w.ns k).esc {} name = .panic m ∧ x = .panic m) ∨
    ∃ e c d, escapeTree (analysisEnv w k) w.fuel (w.ns k).esc {} name = .ok (e, c, d) ∧ finalError c = none ∧
      ((commit (w.ns k).text e = .fuel ∧ x = .fuel) ∨ ∃ m, commit (w.ns k).text e = .panic m ∧ x = .panic m) := by
  cases he : escapeTree (analysisEnv w k) w.fuel (w.ns k).esc {} name with
  | panic m =>
    unfold analysisEnv at he; simp only [escapeTemplateTop, he, Sum.inl.injEq] at h
    exact .inr (.inl ⟨m, rfl, h.symm⟩)
  | fuel =>
    unfold analysisEnv at he; simp only [escapeTemplateTop, he, Sum.inl.injEq] at h
    exact .inl ⟨rfl, h.symm⟩
  | ok y =>
    obtain ⟨e, c, d⟩ := y
    refine .inr (.inr ⟨e, c, d, rfl, ?_⟩)
    cases hf : finalError c with
    | some code => rw [top_of_failed he hf] at h; cases h
    | none =>
      refine ⟨rfl, ?_⟩
      cases hc : commit (w.ns k).text e with
      | panic m =>
        unfold analysisEnv at he; simp only [escapeTemplateTop, he, hf, hc, Sum.inl.injEq] at h
        exact .inr ⟨m, rfl, h.symm⟩
      | fuel =>
        unfold analysisEnv at he; simp only [escapeTemplateTop, he, hf, hc, Sum.inl.injEq] at h
        exact .inl ⟨rfl, h.symm⟩
      | ok z => obtain ⟨t, e'⟩ := z; rw [top_of_ok he hf hc] at h; cases h

theorem top_inl_res {w : World} {k : Nat} {name : String} {x : Res} (h : escapeTemplateTop w k name = .inl x) :
    x = .fuel ∨ ∃ m, x = .panic m := by
  rcases top_inl h with ⟨_, hx⟩ | ⟨m, _, hx⟩ | ⟨_, _, _, _, _, ⟨_, hx⟩ | ⟨m, _, hx⟩⟩
  · exact .inl hx
  · exact .inr ⟨m, hx⟩
  · exact .inl hx
  · exact .inr ⟨m, hx⟩

theorem top_cases (w : World) (k : Nat) (name : String) :
    (∃ x, escapeTemplateTop w k name = .inl x) ∨
    (∃ e code, escapeTemplateTop w k name = .inr (markFailed w k name e code, some code)) ∨
    (∃ t e, escapeTemplateTop w k name = .inr (markOk w k name t e, none)) := by
  cases h : escapeTemplateTop w k name with
  | inl x => exact .inl ⟨x, rfl⟩
  | inr p =>
    obtain ⟨w', r⟩ := p
    obtain ⟨e, _, _, _, ⟨code, _, rfl, rfl⟩ | ⟨t, e', _, _, rfl, rfl⟩⟩ := top_inr h
    · exact .inr (.inl ⟨e, code, rfl⟩)
    · exact .inr (.inr ⟨t, e', rfl⟩)

theorem ns_top {w w' : World} {k : Nat} {name : String} {r : Option ErrCode}
    (h : escapeTemplateTop w k name = .inr (w', r)) (j : Nat) (hj : j ≠ k) : w'.ns j = w.ns j := by
  obtain ⟨_, _, _, _, ⟨_, _, _, rfl⟩ | ⟨_, _, _, _, _, rfl⟩⟩ := top_inr h
  · rw [ns_markFailed, if_neg hj]
  · rw [ns_markOk, if_neg hj]

theorem fields_top {w w' : World} {k : Nat} {name : String} {r : Option ErrCode}
    (h : escapeTemplateTop w k name = .inr (w', r)) :
    w'.fuel = w.fuel ∧ w'.v = w.v ∧ w'.next = w.next ∧ w'.handles = w.handles := by
  obtain ⟨_, _, _, _, ⟨_, _, _, rfl⟩ | ⟨_, _, _, _, _, rfl⟩⟩ := top_inr h
  · exact fields_markFailed ..
  · exact fields_markOk ..

theorem escapeTemplateTop_escaped (w : World) (n : Nat) (name : String) (w' : World) (r : Option ErrCode)
    (h : escapeTemplateTop w n name = .inr (w', r)) : (w'.ns n).escaped = (w.ns n).escaped := by
  obtain ⟨_, _, _, _, ⟨_, _, _, rfl⟩ | ⟨_, _, _, _, _, rfl⟩⟩ := top_inr h
  · rw [ns_markFailed, if_pos rfl]
  · rw [ns_markOk, if_pos rfl]

theorem escapeTemplateTop_none_ok (w : World) (n : Nat) (name : String) (w' : World)
    (h : escapeTemplateTop w n name = .inr (w', none)) :
    ∃ t e, w' = markOk w n name t e := by
  obtain ⟨_, _, _, _, ⟨_, _, hr, _⟩ | ⟨t, e', _, _, _, hw⟩⟩ := top_inr h
  · cases hr
  · exact ⟨t, e', hw⟩

end SafeHtml.Model.Tmpl

namespace SafeHtml.Proofs.Frozen
open SafeHtml SafeHtml.Model.Tmpl

theorem finalError_none (c : Ctx) (h : finalError c = none) : c.err = none := by
  unfold finalError at h
  split at h
  · rename_i hs; rw [h] at hs; cases hs
  · cases hc : c.err with
    | none => rfl
    | some x => rename_i hs; rw [hc] at hs; exact absurd rfl hs

theorem finalError_text (c : Ctx) (h : finalError c = none) : c.state = .text := by
  unfold finalError at h
  split at h
  · rename_i hs; rw [h] at hs; cases hs
  · split at h
    · cases h
    · rename_i hs; simpa using hs

end SafeHtml.Proofs.Frozen

/-! ### 4. `Execute` and `ExecuteTemplate`: the part under the mutex, then the unlocked execution -/

namespace SafeHtml.Proofs.ConcApi
open SafeHtml SafeHtml.Model.Tmpl

/-- the part of `t.Execute` under `nameSpace.mu`: `inl` = the call is over, `inr o` = execute `o` unlocked.
    The model's `apiExecute` (Model/Tmpl/Api.lean) is one sequential function with this part written inline, as
    `Execute` reads in Go; the split into a locked and an unlocked part is what the concurrency model needs
    (`ConcApi.callOf`), so it is made here, and `apiExecute_crit` shows that nothing is lost by it. -/
def critExecute (w : World) (h : Nat) : World × (Res ⊕ TObj) :=
  match w.obj h with
  | none => (w, .inl .unsupported)
  | some (oid, o) =>
    let ns := w.ns o.ns
    let w := w.setNs o.ns { ns with escaped := true }
    match o.status with
    | .failed code => (w, .inl (.err (analysisCls code) []))
    | .ok => (w, .inr o)
    | .unset =>
      if o.treeNil then (w, .inl (.err "incomplete" []))
      else
        match escapeTemplateTop w o.ns o.name with
        | .inl r => (w, .inl r)
        | .inr (w', some code) => (w', .inl (.err (analysisCls code) []))
        | .inr (w', none) =>
          match nlookup w'.objs oid with
          | some o' => (w', .inr o')
          | none => (w', .inl .unsupported)

/-- the part of `t.ExecuteTemplate(name)` under `nameSpace.mu` -/
def critExecuteTemplate (w : World) (h : Nat) (name : String) : World × (Res ⊕ TObj) :=
  match w.obj h with
  | none => (w, .inl .unsupported)
  | some (_, o) =>
    let ns := w.ns o.ns
    let ns := { ns with escaped := true }
    let w := w.setNs o.ns ns
    match alookup ns.set name with
    | none => (w, .inl (.err "undefined" []))
    | some tid =>
      match nlookup w.objs tid with
      | none => (w, .inl .unsupported)
      | some t =>
        match t.status with
        | .failed code => (w, .inl (.err (analysisCls code) []))
        | st =>
          let textTreeNil := if t.registered then
              (match ns.text.lookup name with | some (some _) => false | _ => true) else true
          if textTreeNil then (w, .inl (.err "incomplete" []))
          else if (ns.text.lookup name).isNone then (w, .inl (.panic "template escaping out of sync"))
          else if st == .unset then
            match escapeTemplateTop w o.ns name with
            | .inl r => (w, .inl r)
            | .inr (w', some code) => (w', .inl (.err (analysisCls code) []))
            | .inr (w', none) =>
              match nlookup w'.objs tid with
              | some t' => (w', .inr t')
              | none => (w', .inl .unsupported)
          else (w, .inr t)

/-- how a call ends after an analysis of the template bound to `id`: with the analysis error, or by executing the
    object now stored under `id` -/
def AfterTop (w' : World) (id : Nat) (oc : Option ErrCode) (r : Res ⊕ TObj) : Prop :=
  (∃ code, oc = some code ∧ r = .inl (.err (analysisCls code) [])) ∨
  (oc = none ∧ ((∃ o', nlookup w'.objs id = some o' ∧ r = .inr o') ∨
                (nlookup w'.objs id = none ∧ r = .inl .unsupported)))

/-- No object; or the name space is marked executed and the call ends there (failed / ok / no tree / analysis
    aborted); or one analysis of the receiver's template is run from the marked world, and its world is the result. -/
theorem critExecute_cases (w : World) (h : Nat) :
    (w.obj h = none ∧ critExecute w h = (w, .inl .unsupported)) ∨
    ∃ oid o, w.obj h = some (oid, o) ∧
      ((∃ r, critExecute w h = (w.setNs o.ns { w.ns o.ns with escaped := true }, r) ∧
          ((∃ code, o.status = .failed code ∧ r = .inl (.err (analysisCls code) [])) ∨
           (o.status = .ok ∧ r = .inr o) ∨
           (o.status = .unset ∧ o.treeNil = true ∧ r = .inl (.err "incomplete" [])) ∨
           (∃ x, o.status = .unset ∧ o.treeNil = false ∧ r = .inl x ∧
              escapeTemplateTop (w.setNs o.ns { w.ns o.ns with escaped := true }) o.ns o.name = .inl x))) ∨
       (∃ w' oc r, o.status = .unset ∧ o.treeNil = false ∧
          escapeTemplateTop (w.setNs o.ns { w.ns o.ns with escaped := true }) o.ns o.name = .inr (w', oc) ∧
          critExecute w h = (w', r) ∧ AfterTop w' oid oc r)) := by
  unfold critExecute
  cases hobj : w.obj h with
  | none => exact .inl ⟨rfl, rfl⟩
  | some p =>
    obtain ⟨oid, o⟩ := p
    refine .inr ⟨oid, o, rfl, ?_⟩
    simp only []
    cases hs : o.status with
    | failed code => exact .inl ⟨_, rfl, .inl ⟨code, rfl, rfl⟩⟩
    | ok => exact .inl ⟨_, rfl, .inr (.inl ⟨rfl, rfl⟩)⟩
    | unset =>
      simp only []
      cases ht : o.treeNil with
      | true => exact .inl ⟨_, rfl, .inr (.inr (.inl ⟨trivial, rfl, rfl⟩))⟩
      | false =>
        simp only [Bool.false_eq_true, if_false]
        cases he : escapeTemplateTop (w.setNs o.ns { w.ns o.ns with escaped := true }) o.ns o.name with
        | inl x => exact .inl ⟨_, rfl, .inr (.inr (.inr ⟨x, trivial, trivial, rfl, rfl⟩))⟩
        | inr q =>
          obtain ⟨w', oc⟩ := q
          refine .inr ⟨w', oc, ?_⟩
          cases oc with
          | some code => exact ⟨_, trivial, trivial, rfl, rfl, .inl ⟨code, rfl, rfl⟩⟩
          | none =>
            simp only []
            cases hn : nlookup w'.objs oid with
            | some o' => exact ⟨_, trivial, trivial, trivial, rfl, .inr ⟨rfl, .inl ⟨o', hn, rfl⟩⟩⟩
            | none => exact ⟨_, trivial, trivial, trivial, rfl, .inr ⟨rfl, .inr ⟨hn, rfl⟩⟩⟩

theorem critExecuteTemplate_cases (w : World) (h : Nat) (name : String) :
    (w.obj h = none ∧ critExecuteTemplate w h name = (w, .inl .unsupported)) ∨
    ∃ oid o, w.obj h = some (oid, o) ∧
      ((∃ r, critExecuteTemplate w h name = (w.setNs o.ns { w.ns o.ns with escaped := true }, r) ∧
          ((alookup (w.ns o.ns).set name = none ∧ r = .inl (.err "undefined" [])) ∨
           ∃ tid, alookup (w.ns o.ns).set name = some tid ∧
             ((nlookup w.objs tid = none ∧ r = .inl .unsupported) ∨
              ∃ t, nlookup w.objs tid = some t ∧
                ((∃ code, t.status = .failed code ∧ r = .inl (.err (analysisCls code) [])) ∨
                 (okTreeNil t name (w.ns o.ns).text = true ∧ r = .inl (.err "incomplete" [])) ∨
                 (t.status = .ok ∧ okTreeNil t name (w.ns o.ns).text = false ∧ r = .inr t) ∨
                 (∃ x, t.status = .unset ∧ okTreeNil t name (w.ns o.ns).text = false ∧ r = .inl x ∧
                    escapeTemplateTop (w.setNs o.ns { w.ns o.ns with escaped := true }) o.ns name = .inl x))))) ∨
       (∃ tid t w' oc r, alookup (w.ns o.ns).set name = some tid ∧ nlookup w.objs tid = some t ∧
          t.status = .unset ∧ okTreeNil t name (w.ns o.ns).text = false ∧
          escapeTemplateTop (w.setNs o.ns { w.ns o.ns with escaped := true }) o.ns name = .inr (w', oc) ∧
          critExecuteTemplate w h name = (w', r) ∧ AfterTop w' tid oc r)) := by
  generalize hr : critExecuteTemplate w h name = r
  unfold critExecuteTemplate at hr
  split at hr
  · rename_i hobj; exact .inl ⟨hobj, hr.symm⟩
  · rename_i oid o hobj
    refine .inr ⟨oid, o, hobj, ?_⟩
    simp only [] at hr
    split at hr
    · rename_i hl; exact .inl ⟨_, hr.symm, .inl ⟨hl, rfl⟩⟩
    · rename_i tid hl
      split at hr
      · rename_i hn; exact .inl ⟨_, hr.symm, .inr ⟨tid, hl, .inl ⟨hn, rfl⟩⟩⟩
      · rename_i t hn
        have hn' : nlookup w.objs tid = some t := hn
        split at hr
        · rename_i code hs; exact .inl ⟨_, hr.symm, .inr ⟨tid, hl, .inr ⟨t, hn', .inl ⟨code, hs, rfl⟩⟩⟩⟩
        · rename_i hnf
          have hb : (if t.registered = true then
              (match (w.ns o.ns).text.lookup name with | some (some _) => false | _ => true) else true) =
              okTreeNil t name (w.ns o.ns).text := rfl
          rw [hb] at hr
          cases hb1 : okTreeNil t name (w.ns o.ns).text with
          | true =>
            rw [hb1, if_pos rfl] at hr
            exact .inl ⟨_, hr.symm, .inr ⟨tid, hl, .inr ⟨t, hn', .inr (.inl ⟨hb1, rfl⟩)⟩⟩⟩
          | false =>
            obtain ⟨_, tr, htr⟩ := okTreeNil_false hb1
            rw [hb1, if_neg Bool.false_ne_true, htr, if_neg (by simp)] at hr
            cases hs : t.status with
            | failed code => exact absurd hs (hnf code)
            | ok =>
              rw [hs, if_neg (by decide)] at hr
              exact .inl ⟨_, hr.symm, .inr ⟨tid, hl, .inr ⟨t, hn', .inr (.inr (.inl ⟨hs, hb1, rfl⟩))⟩⟩⟩
            | unset =>
              rw [hs, if_pos (by decide)] at hr
              split at hr
              · rename_i x he
                exact .inl ⟨_, hr.symm, .inr ⟨tid, hl, .inr ⟨t, hn', .inr (.inr (.inr ⟨x, hs, hb1, rfl, he⟩))⟩⟩⟩
              · rename_i w' code he
                exact .inr ⟨tid, t, w', some code, _, hl, hn', hs, hb1, he, hr.symm, .inl ⟨code, rfl, rfl⟩⟩
              · rename_i w' he
                split at hr
                · rename_i t' hn2
                  exact .inr ⟨tid, t, w', none, _, hl, hn', hs, hb1, he, hr.symm, .inr ⟨rfl, .inl ⟨t', hn2, rfl⟩⟩⟩
                · rename_i hn2
                  exact .inr ⟨tid, t, w', none, _, hl, hn', hs, hb1, he, hr.symm, .inr ⟨rfl, .inr ⟨hn2, rfl⟩⟩⟩

theorem AfterTop.inr {w' : World} {id : Nat} {oc : Option ErrCode} {r : Res ⊕ TObj} {o' : TObj}
    (h : AfterTop w' id oc r) (hr : r = .inr o') : oc = none ∧ nlookup w'.objs id = some o' := by
  rcases h with ⟨_, _, rfl⟩ | ⟨hoc, ⟨o2, ho2, rfl⟩ | ⟨_, rfl⟩⟩
  · cases hr
  · cases hr; exact ⟨hoc, ho2⟩
  · cases hr

theorem AfterTop.not_panic {w' : World} {id : Nat} {oc : Option ErrCode} {r : Res ⊕ TObj}
    (h : AfterTop w' id oc r) : (∀ m, r ≠ .inl (.panic m)) ∧ r ≠ .inl .fuel := by
  rcases h with ⟨_, _, rfl⟩ | ⟨_, ⟨_, _, rfl⟩ | ⟨_, rfl⟩⟩ <;>
    exact ⟨fun _ hx => (by cases hx), fun hx => (by cases hx)⟩

theorem critExecute_ind (I : World → Prop) (w : World) (h : Nat) (h0 : I w)
    (h1 : ∀ k, I (w.setNs k { w.ns k with escaped := true }))
    (h2 : ∀ k name w' r, escapeTemplateTop (w.setNs k { w.ns k with escaped := true }) k name = .inr (w', r) → I w') :
    I (critExecute w h).1 := by
  rcases critExecute_cases w h with ⟨_, hc⟩ | ⟨_, o, _, ⟨_, hc, _⟩ | ⟨w', r, _, _, _, he, hc, _⟩⟩ <;> rw [hc]
  · exact h0
  · exact h1 o.ns
  · exact h2 _ _ _ _ he

theorem critExecuteTemplate_ind (I : World → Prop) (w : World) (h : Nat) (name : String) (h0 : I w)
    (h1 : ∀ k, I (w.setNs k { w.ns k with escaped := true }))
    (h2 : ∀ k name w' r, escapeTemplateTop (w.setNs k { w.ns k with escaped := true }) k name = .inr (w', r) → I w') :
    I (critExecuteTemplate w h name).1 := by
  rcases critExecuteTemplate_cases w h name with
    ⟨_, hc⟩ | ⟨_, o, _, ⟨_, hc, _⟩ | ⟨_, _, w', r, _, _, _, _, _, he, hc, _⟩⟩ <;> rw [hc]
  · exact h0
  · exact h1 o.ns
  · exact h2 _ _ _ _ he

theorem critExecute_inr {w : World} {h : Nat} {o' : TObj} (hr : (critExecute w h).2 = .inr o') :
    ∃ oid o, w.obj h = some (oid, o) ∧
      ((o.status = .ok ∧ o' = o ∧ (critExecute w h).1 = w.setNs o.ns { w.ns o.ns with escaped := true }) ∨
       (o.status = .unset ∧ o.treeNil = false ∧
          escapeTemplateTop (w.setNs o.ns { w.ns o.ns with escaped := true }) o.ns o.name =
            .inr ((critExecute w h).1, none) ∧
          nlookup (critExecute w h).1.objs oid = some o')) := by
  rcases critExecute_cases w h with ⟨_, hc⟩ | ⟨oid, o, ho, ⟨r, hc, hr'⟩ | ⟨w', oc, r, hs, ht, he, hc, ha⟩⟩ <;>
    rw [hc] at hr ⊢
  · cases hr
  · refine ⟨oid, o, ho, .inl ?_⟩
    rcases hr' with ⟨_, _, rfl⟩ | ⟨hs, rfl⟩ | ⟨_, _, rfl⟩ | ⟨_, _, _, rfl, _⟩
    · cases hr
    · cases hr; exact ⟨hs, rfl, rfl⟩
    · cases hr
    · cases hr
  · obtain ⟨rfl, hn⟩ := ha.inr hr
    exact ⟨oid, o, ho, .inr ⟨hs, ht, he, hn⟩⟩

theorem critExecuteTemplate_inr {w : World} {h : Nat} {name : String} {o' : TObj}
    (hr : (critExecuteTemplate w h name).2 = .inr o') :
    ∃ oid o tid t, w.obj h = some (oid, o) ∧ alookup (w.ns o.ns).set name = some tid ∧
      nlookup w.objs tid = some t ∧ okTreeNil t name (w.ns o.ns).text = false ∧
      ((t.status = .ok ∧ o' = t ∧
          (critExecuteTemplate w h name).1 = w.setNs o.ns { w.ns o.ns with escaped := true }) ∨
       (t.status = .unset ∧
          escapeTemplateTop (w.setNs o.ns { w.ns o.ns with escaped := true }) o.ns name =
            .inr ((critExecuteTemplate w h name).1, none) ∧
          nlookup (critExecuteTemplate w h name).1.objs tid = some o')) := by
  rcases critExecuteTemplate_cases w h name with
    ⟨_, hc⟩ | ⟨oid, o, ho, ⟨r, hc, hr'⟩ | ⟨tid, t, w', oc, r, hl, hn, hs, hb, he, hc, ha⟩⟩ <;> rw [hc] at hr ⊢
  · cases hr
  · rcases hr' with ⟨_, rfl⟩ | ⟨tid, hl, ⟨_, rfl⟩ | ⟨t, hn, hr'⟩⟩
    · cases hr
    · cases hr
    · rcases hr' with ⟨_, _, rfl⟩ | ⟨_, rfl⟩ | ⟨hs, hb, rfl⟩ | ⟨_, _, _, rfl, _⟩
      · cases hr
      · cases hr
      · cases hr; exact ⟨oid, o, tid, _, ho, hl, hn, hb, .inl ⟨hs, rfl, rfl⟩⟩
      · cases hr
  · obtain ⟨rfl, hn2⟩ := ha.inr hr
    exact ⟨oid, o, tid, t, ho, hl, hn, hb, .inr ⟨hs, he, hn2⟩⟩

theorem critExecute_abort {w : World} {h : Nat} {x : Res} (hr : (critExecute w h).2 = .inl x)
    (hx : (∃ m, x = .panic m) ∨ x = .fuel) :
    ∃ oid o, w.obj h = some (oid, o) ∧ o.status = .unset ∧ o.treeNil = false ∧
      escapeTemplateTop (w.setNs o.ns { w.ns o.ns with escaped := true }) o.ns o.name = .inl x := by
  rcases critExecute_cases w h with ⟨_, hc⟩ | ⟨oid, o, ho, ⟨r, hc, hr'⟩ | ⟨w', oc, r, hs, ht, he, hc, ha⟩⟩ <;>
    rw [hc] at hr
  · cases hr; rcases hx with ⟨_, hx⟩ | hx <;> cases hx
  · rcases hr' with ⟨_, _, rfl⟩ | ⟨_, rfl⟩ | ⟨_, _, rfl⟩ | ⟨y, hs, ht, rfl, he⟩
    · cases hr; rcases hx with ⟨_, hx⟩ | hx <;> cases hx
    · cases hr
    · cases hr; rcases hx with ⟨_, hx⟩ | hx <;> cases hx
    · cases hr; exact ⟨oid, o, ho, hs, ht, he⟩
  · rcases hx with ⟨m, rfl⟩ | rfl
    · exact absurd hr (ha.not_panic.1 m)
    · exact absurd hr ha.not_panic.2

/-- the panic "template escaping out of sync" of `lookupAndEscapeTemplate` (template.go) cannot happen: a text object
    with a tree is in the text set -/
theorem critExecuteTemplate_abort {w : World} {h : Nat} {name : String} {x : Res}
    (hr : (critExecuteTemplate w h name).2 = .inl x) (hx : (∃ m, x = .panic m) ∨ x = .fuel) :
    ∃ oid o tid t, w.obj h = some (oid, o) ∧ alookup (w.ns o.ns).set name = some tid ∧
      nlookup w.objs tid = some t ∧ t.status = .unset ∧ okTreeNil t name (w.ns o.ns).text = false ∧
      escapeTemplateTop (w.setNs o.ns { w.ns o.ns with escaped := true }) o.ns name = .inl x := by
  rcases critExecuteTemplate_cases w h name with
    ⟨_, hc⟩ | ⟨oid, o, ho, ⟨r, hc, hr'⟩ | ⟨tid, t, w', oc, r, hl, hn, hs, hb, he, hc, ha⟩⟩ <;> rw [hc] at hr
  · cases hr; rcases hx with ⟨_, hx⟩ | hx <;> cases hx
  · rcases hr' with ⟨_, rfl⟩ | ⟨tid, hl, ⟨_, rfl⟩ | ⟨t, hn, hr'⟩⟩
    · cases hr; rcases hx with ⟨_, hx⟩ | hx <;> cases hx
    · cases hr; rcases hx with ⟨_, hx⟩ | hx <;> cases hx
    · rcases hr' with ⟨_, _, rfl⟩ | ⟨_, rfl⟩ | ⟨_, _, rfl⟩ | ⟨y, hs, hb, rfl, he⟩
      · cases hr; rcases hx with ⟨_, hx⟩ | hx <;> cases hx
      · cases hr; rcases hx with ⟨_, hx⟩ | hx <;> cases hx
      · cases hr
      · cases hr; exact ⟨oid, o, tid, t, ho, hl, hn, hs, hb, he⟩
  · rcases hx with ⟨m, rfl⟩ | rfl
    · exact absurd hr (ha.not_panic.1 m)
    · exact absurd hr ha.not_panic.2

theorem apiExecute_crit (w : World) (h : Nat) (d : Value) :
    apiExecute w h d = ((critExecute w h).1,
      match (critExecute w h).2 with
      | .inl r => r
      | .inr o => textExecute (critExecute w h).1 o d) := by
  unfold apiExecute critExecute
  cases hobj : w.obj h with
  | none => rfl
  | some p =>
    obtain ⟨oid, o⟩ := p
    simp only []
    cases hs : o.status with
    | failed code => rfl
    | ok => rfl
    | unset =>
      simp only []
      cases ht : o.treeNil with
      | true => rfl
      | false =>
        simp only [Bool.false_eq_true, if_false]
        cases he : escapeTemplateTop (w.setNs o.ns { w.ns o.ns with escaped := true }) o.ns o.name with
        | inl r => rfl
        | inr q =>
          obtain ⟨w', oc⟩ := q
          cases oc with
          | some code => rfl
          | none =>
            simp only []
            cases nlookup w'.objs oid <;> rfl

theorem apiExecuteTemplate_crit (w : World) (h : Nat) (name : String) (d : Value) :
    apiExecuteTemplate w h name d = ((critExecuteTemplate w h name).1,
      match (critExecuteTemplate w h name).2 with
      | .inl r => r
      | .inr o => textExecute (critExecuteTemplate w h name).1 o d) := by
  unfold apiExecuteTemplate critExecuteTemplate
  cases hobj : w.obj h with
  | none => rfl
  | some p =>
    obtain ⟨oid, o⟩ := p
    simp only []
    cases hl : alookup (w.ns o.ns).set name with
    | none => rfl
    | some tid =>
      simp only []
      cases hn : nlookup (w.setNs o.ns { w.ns o.ns with escaped := true }).objs tid with
      | none => rfl
      | some t =>
        simp only []
        cases hs : t.status with
        | failed code => rfl
        | ok =>
          simp only []
          generalize (if t.registered = true then _ else true) = b1
          generalize ((w.ns o.ns).text.lookup name).isNone = b2
          cases b1 <;> cases b2 <;> rfl
        | unset =>
          simp only []
          generalize (if t.registered = true then _ else true) = b1
          generalize ((w.ns o.ns).text.lookup name).isNone = b2
          cases b1
          · cases b2
            · simp only [show (Status.unset == Status.unset) = true from rfl, Bool.false_eq_true, if_false, if_true]
              cases he : escapeTemplateTop (w.setNs o.ns { w.ns o.ns with escaped := true }) o.ns name with
              | inl r => rfl
              | inr q =>
                obtain ⟨w', oc⟩ := q
                cases oc with
                | some code => rfl
                | none =>
                  simp only []
                  cases nlookup w'.objs tid <;> rfl
            · rfl
          · rfl

theorem step_exec (w : World) (h : Nat) (d : Value) :
    Api.step w (.exec h d) = ((critExecute w h).1,
      .exec (match (critExecute w h).2 with
        | .inl r => r
        | .inr o => textExecute (critExecute w h).1 o d)) := by
  show (let (w, r) := apiExecute w h d; (w, Ret.exec r)) = _
  rw [apiExecute_crit]

theorem step_execHTML (w : World) (h : Nat) (d : Value) :
    Api.step w (.execHTML h d) = ((critExecute w h).1,
      .html (zeroOnError (match (critExecute w h).2 with
        | .inl r => r
        | .inr o => textExecute (critExecute w h).1 o d))) := by
  show (let (w, r) := apiExecute w h d; (w, Ret.html (zeroOnError r))) = _
  rw [apiExecute_crit]

theorem step_execT (w : World) (h : Nat) (name : String) (d : Value) :
    Api.step w (.execT h name d) = ((critExecuteTemplate w h name).1,
      .exec (match (critExecuteTemplate w h name).2 with
        | .inl r => r
        | .inr o => textExecute (critExecuteTemplate w h name).1 o d)) := by
  show (let (w, r) := apiExecuteTemplate w h name d; (w, Ret.exec r)) = _
  rw [apiExecuteTemplate_crit]

theorem step_execTHTML (w : World) (h : Nat) (name : String) (d : Value) :
    Api.step w (.execTHTML h name d) = ((critExecuteTemplate w h name).1,
      .html (zeroOnError (match (critExecuteTemplate w h name).2 with
        | .inl r => r
        | .inr o => textExecute (critExecuteTemplate w h name).1 o d))) := by
  show (let (w, r) := apiExecuteTemplate w h name d; (w, Ret.html (zeroOnError r))) = _
  rw [apiExecuteTemplate_crit]

end SafeHtml.Proofs.ConcApi

/-! ### 5. the first `Execute` and the later ones -/

namespace SafeHtml.Model.Tmpl
open SafeHtml SafeHtml.Proofs.ConcApi

theorem analysisEnv_setEscaped (w : World) (k : Nat) :
    analysisEnv (w.setNs k { w.ns k with escaped := true }) k = analysisEnv w k := by
  unfold analysisEnv; rw [ns_setNs_same]; rfl

theorem apiExecute_first {w : World} {h oid : Nat} {o : TObj} {E E' : Esc} {cf : Ctx} {dn : String} {t' : TextSet}
    (ho : w.obj h = some (oid, o)) (hs : o.status = .unset) (ht : o.treeNil = false)
    (hid : alookup (w.ns o.ns).set o.name = some oid)
    (he : escapeTree (analysisEnv w o.ns) w.fuel (w.ns o.ns).esc {} o.name = .ok (E, cf, dn))
    (hf : finalError cf = none) (hc : commit (w.ns o.ns).text E = .ok (t', E')) (d : Value) :
    apiExecute w h d =
      (markOk (w.setNs o.ns { w.ns o.ns with escaped := true }) o.ns o.name t' E',
       textExecute (markOk (w.setNs o.ns { w.ns o.ns with escaped := true }) o.ns o.name t' E')
         { o with status := .ok, treeNil := okTreeNil o o.name t' } d) := by
  have hns : (w.setNs o.ns { w.ns o.ns with escaped := true }).ns o.ns = { w.ns o.ns with escaped := true } :=
    ns_setNs_same ..
  have htop : escapeTemplateTop (w.setNs o.ns { w.ns o.ns with escaped := true }) o.ns o.name =
      .inr (markOk (w.setNs o.ns { w.ns o.ns with escaped := true }) o.ns o.name t' E', none) :=
    top_of_ok (by rw [analysisEnv_setEscaped, hns]; exact he) hf (by rw [hns]; exact hc)
  have hm := markOk_of (w := w.setNs o.ns { w.ns o.ns with escaped := true }) (by rw [hns]; exact hid)
    (obj_inv ho).2 t' E'
  have hl : nlookup (markOk (w.setNs o.ns { w.ns o.ns with escaped := true }) o.ns o.name t' E').objs oid =
      some { o with status := .ok, treeNil := okTreeNil o o.name t' } := by
    rw [hm, objs_setObj, if_pos rfl]
  unfold apiExecute
  simp only [ho, hs, ht, htop, hl, Bool.false_eq_true, if_false]

theorem textExecute_congr {w w' : World} {o o' : TObj} (hns : (w'.ns o'.ns).text = (w.ns o.ns).text)
    (hf : w'.fuel = w.fuel) (hn : o'.name = o.name) (hr : o'.registered = o.registered) (d : Value) :
    textExecute w' o' d = textExecute w o d := by
  unfold textExecute
  simp only []
  rw [hns, hf, hn, hr]

theorem critExecute_unset {w : World} {h oid : Nat} {o : TObj} (ho : w.obj h = some (oid, o))
    (hs : o.status = .unset) (ht : o.treeNil = false) :
    critExecute w h =
      match escapeTemplateTop (w.setNs o.ns { w.ns o.ns with escaped := true }) o.ns o.name with
      | .inl x => (w.setNs o.ns { w.ns o.ns with escaped := true }, .inl x)
      | .inr (w', some code) => (w', .inl (.err (analysisCls code) []))
      | .inr (w', none) =>
        match nlookup w'.objs oid with
        | some o' => (w', .inr o')
        | none => (w', .inl .unsupported) := by
  unfold critExecute
  simp only [ho, hs, ht, Bool.false_eq_true, if_false]

theorem critExecuteTemplate_unset {w : World} {h oid tid : Nat} {o t : TObj} {name : String}
    (ho : w.obj h = some (oid, o)) (hl : alookup (w.ns o.ns).set name = some tid)
    (hn : nlookup w.objs tid = some t) (hs : t.status = .unset) (hb : okTreeNil t name (w.ns o.ns).text = false) :
    critExecuteTemplate w h name =
      match escapeTemplateTop (w.setNs o.ns { w.ns o.ns with escaped := true }) o.ns name with
      | .inl x => (w.setNs o.ns { w.ns o.ns with escaped := true }, .inl x)
      | .inr (w', some code) => (w', .inl (.err (analysisCls code) []))
      | .inr (w', none) =>
        match nlookup w'.objs tid with
        | some t' => (w', .inr t')
        | none => (w', .inl .unsupported) := by
  obtain ⟨hreg, tr, htr⟩ := okTreeNil_false hb
  unfold critExecuteTemplate
  simp only [ho, hl, objs_setNs, hn, hs, hreg, htr, Option.isNone_some, Bool.false_eq_true, if_false, if_true,
    show (Status.unset == Status.unset) = true from rfl]

theorem apiExecuteTemplate_first {w : World} {h oid tid : Nat} {o t : TObj} {name : String} {E E' : Esc} {cf : Ctx}
    {dn : String} {t' : TextSet} (ho : w.obj h = some (oid, o)) (hl : alookup (w.ns o.ns).set name = some tid)
    (hn : nlookup w.objs tid = some t) (hs : t.status = .unset) (hb : okTreeNil t name (w.ns o.ns).text = false)
    (he : escapeTree (analysisEnv w o.ns) w.fuel (w.ns o.ns).esc {} name = .ok (E, cf, dn))
    (hf : finalError cf = none) (hc : commit (w.ns o.ns).text E = .ok (t', E')) (d : Value) :
    apiExecuteTemplate w h name d =
      (markOk (w.setNs o.ns { w.ns o.ns with escaped := true }) o.ns name t' E',
       textExecute (markOk (w.setNs o.ns { w.ns o.ns with escaped := true }) o.ns name t' E')
         { t with status := .ok, treeNil := okTreeNil t name t' } d) := by
  have hns : (w.setNs o.ns { w.ns o.ns with escaped := true }).ns o.ns = { w.ns o.ns with escaped := true } :=
    ns_setNs_same ..
  have htop : escapeTemplateTop (w.setNs o.ns { w.ns o.ns with escaped := true }) o.ns name =
      .inr (markOk (w.setNs o.ns { w.ns o.ns with escaped := true }) o.ns name t' E', none) :=
    top_of_ok (by rw [analysisEnv_setEscaped, hns]; exact he) hf (by rw [hns]; exact hc)
  have hl2 : nlookup (markOk (w.setNs o.ns { w.ns o.ns with escaped := true }) o.ns name t' E').objs tid =
      some { t with status := .ok, treeNil := okTreeNil t name t' } := by
    rw [markOk_of (w := w.setNs o.ns { w.ns o.ns with escaped := true }) (by rw [hns]; exact hl) hn,
      objs_setObj, if_pos rfl]
  rw [apiExecuteTemplate_crit, critExecuteTemplate_unset ho hl hn hs hb]
  simp only [htop, hl2]

/-- after the first `Execute` on handle `h` the world no longer depends on the data and is a fixed point of
    `Execute` on `h`, whose result is the same function of the data as the first call's -/
def ExecFixed (W : World) (h : Nat) : Prop :=
  ∃ W', (∀ d, (apiExecute W h d).1 = W') ∧ ∀ d, apiExecute W' h d = (W', (apiExecute W h d).2)

theorem setObj_escaped_idem (w : World) (k oid : Nat) (n : NS) (o' : TObj) (he : n.escaped = true) :
    ((w.setNs k n).setObj oid o').setNs k { ((w.setNs k n).setObj oid o').ns k with escaped := true } =
      (w.setNs k n).setObj oid o' := by
  rw [ns_setObj, setObj_setNs, setNs_escaped_idem w k n he]

theorem apiExecute_setEscaped {w : World} {h oid : Nat} {o : TObj} (ho : w.obj h = some (oid, o)) (d : Value) :
    apiExecute (w.setNs o.ns { w.ns o.ns with escaped := true }) h d = apiExecute w h d := by
  have h1 : (w.setNs o.ns { w.ns o.ns with escaped := true }).obj h = some (oid, o) := ho
  unfold apiExecute
  simp only [h1, ho, setNs_escaped_idem w o.ns { w.ns o.ns with escaped := true } rfl]

theorem apiExecute_settled {w : World} {k h oid : Nat} {n : NS} {o' : TObj} (he : n.escaped = true)
    (ho : ((w.setNs k n).setObj oid o').obj h = some (oid, o')) (hk : o'.ns = k) (hs : o'.status ≠ .unset)
    (d : Value) :
    apiExecute ((w.setNs k n).setObj oid o') h d =
      ((w.setNs k n).setObj oid o',
        match o'.status with
        | .failed code => .err (analysisCls code) []
        | _ => textExecute ((w.setNs k n).setObj oid o') o' d) := by
  subst hk
  unfold apiExecute
  simp only [ho, setObj_escaped_idem w o'.ns oid n o' he]
  cases hst : o'.status with
  | unset => exact absurd hst hs
  | ok => rfl
  | failed code => rfl

/-- Later executions repeat the first (used for C06). If an unset receiver with a tree is bound to its own name, the
    first `Execute` decides everything: analysis aborted — the world is only marked and the same analysis is rerun;
    error — the object is failed for good; success — the object is ok and only executed from then on. -/
theorem execFixed (W : World) (h : Nat)
    (hself : ∀ oid o, W.obj h = some (oid, o) → o.status = .unset → o.treeNil = false →
      alookup (W.ns o.ns).set o.name = some oid) : ExecFixed W h := by
  cases hobj : W.obj h with
  | none =>
    have h0 : ∀ d, apiExecute W h d = (W, .unsupported) := fun d => by unfold apiExecute; simp only [hobj]
    exact ⟨W, fun d => by rw [h0], fun d => by rw [h0]⟩
  | some p =>
    obtain ⟨oid, o⟩ := p
    have hmarked : (∀ d, (apiExecute W h d).1 = W.setNs o.ns { W.ns o.ns with escaped := true }) → ExecFixed W h :=
      fun hw => ⟨_, hw, fun d => by rw [apiExecute_setEscaped hobj]; exact Prod.ext (hw d) rfl⟩
    rcases critExecute_cases W h with ⟨hn, _⟩ | ⟨oid', o', ho', ⟨r, hc, _⟩ | ⟨w', oc, r, hs, ht, he, hc, ha⟩⟩
    · rw [hobj] at hn; cases hn
    · rw [hobj] at ho'; cases ho'
      exact hmarked fun d => by rw [apiExecute_crit, hc]
    · rw [hobj] at ho'; cases ho'
      have hW' : ∀ d, (apiExecute W h d).1 = w' := fun d => by rw [apiExecute_crit, hc]
      have hid1 : alookup ((W.setNs o.ns { W.ns o.ns with escaped := true }).ns o.ns).set o.name = some oid := by
        rw [ns_setNs_same]; exact hself oid o hobj hs ht
      have hesc1 : ((W.setNs o.ns { W.ns o.ns with escaped := true }).ns o.ns).escaped = true := by
        rw [ns_setNs_same]
      have hobj1 : (W.setNs o.ns { W.ns o.ns with escaped := true }).obj h = some (oid, o) := hobj
      generalize W.setNs o.ns { W.ns o.ns with escaped := true } = W1 at he hid1 hesc1 hobj1
      have hoo1 := (obj_inv hobj1).2
      obtain ⟨e, _, _, _, ⟨code, _, rfl, rfl⟩ | ⟨t, e', _, _, rfl, rfl⟩⟩ := top_inr he
      · rw [markFailed_of hid1 hoo1] at hW' ha hc
        refine ⟨_, hW', fun d => ?_⟩
        rw [apiExecute_settled (n := { W1.ns o.ns with esc := e })
          (o' := { o with status := .failed code, treeNil := true }) hesc1
          (obj_setObj_same (by rw [obj_setNs]; exact hobj1) _) rfl (by intro hx; cases hx), apiExecute_crit, hc]
        rcases ha with ⟨_, hx, rfl⟩ | ⟨hx, _⟩
        · cases hx; rfl
        · cases hx
      · rw [markOk_of hid1 hoo1] at hW' ha hc
        refine ⟨_, hW', fun d => ?_⟩
        rw [apiExecute_settled (n := { W1.ns o.ns with esc := e', text := t })
          (o' := { o with status := .ok, treeNil := okTreeNil o o.name t }) hesc1
          (obj_setObj_same (by rw [obj_setNs]; exact hobj1) _) rfl (by intro hx; cases hx), apiExecute_crit, hc]
        rcases ha with ⟨_, hx, _⟩ | ⟨_, ⟨o2, ho2, rfl⟩ | ⟨ho2, _⟩⟩
        · cases hx
        · rw [objs_setObj, if_pos rfl] at ho2; cases ho2; rfl
        · rw [objs_setObj, if_pos rfl] at ho2; cases ho2

end SafeHtml.Model.Tmpl
