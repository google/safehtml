/-
Lemmas for C10: decode ∘ encode round trip, html.EscapeString on encoded runes, the escaper lands in
`Spec.Esc` and is inverted by `Spec.unescape5`, the regenerated range tables equal the spec's bad set.
-/
import SafeHtml.Model.Html
import SafeHtml.Spec.Esc
import SafeHtml.Spec.Interchange
import SafeHtml.Proofs.Utf8More
import SafeHtml.Proofs.RangeCover
namespace SafeHtml.HtmlFacts
open SafeHtml SafeHtml.Utf8 SafeHtml.Model SafeHtml.Spec

/-! ### UTF-8 round trip -/

theorem encodeRune_multi (r : Nat) (h : 128 ≤ r) (hs : isScalar r = true) :
    ∃ b p, encodeRune r = b :: p ∧ Multi b p r := by
  simp only [isScalar, Bool.and_eq_true, decide_eq_true_eq, Bool.not_eq_true', Bool.and_eq_false_iff,
    decide_eq_false_iff_not] at hs
  have cast : ∀ {b p r'}, Multi b p r' → r' = r → Multi b p r := fun hm e => e ▸ hm
  -- omega does not relate the nested quotients by itself
  have e1 : r / 4096 / 64 = r / 262144 := Nat.div_div_eq_div_mul r 4096 64
  have e2 : r / 64 / 64 = r / 4096 := Nat.div_div_eq_div_mul r 64 64
  unfold encodeRune
  rw [if_neg (by omega)]
  split
  · exact ⟨_, _, rfl, cast (.two _ (by omega) (by omega) (by omega)) (by omega)⟩
  rw [if_neg (by simp; omega)]
  split
  · exact ⟨_, _, rfl, cast (.three _ _ (by omega) (by omega) (by omega)) (by omega)⟩
  · exact ⟨_, _, rfl, cast (.four _ _ _ (by omega) (by omega) (by omega)) (by omega)⟩

theorem decodeSyms_encodeRune (r : Nat) (hs : isScalar r = true) (rest : Bytes) :
    decodeSyms (encodeRune r ++ rest) = ⟨r, encodeRune r⟩ :: decodeSyms rest := by
  by_cases h : r < 128
  · rw [encodeRune_ascii r h]
    exact decodeSyms_cons_ascii r rest h
  · obtain ⟨b, p, e, hm⟩ := encodeRune_multi r (by omega) hs
    rw [e, List.cons_append, decodeSyms_cons, decode1_multi hm rest]
    simp

theorem decodeSyms_encodeRunes (rs : List Nat) (h : ∀ r ∈ rs, isScalar r = true) :
    decodeSyms (encodeRunes rs) = rs.map fun r => ⟨r, encodeRune r⟩ := by
  induction rs with
  | nil => simp [encodeRunes, decodeSyms_nil]
  | cons r t ih =>
    have := decodeSyms_encodeRune r (h r (by simp)) (encodeRunes t)
    simp only [encodeRunes, List.flatMap_cons, List.map_cons] at this ih ⊢
    rw [this, ih (fun x hx => h x (by simp [hx]))]

theorem decodeRunes_encodeRunes (rs : List Nat) (h : ∀ r ∈ rs, isScalar r = true) :
    decodeRunes (encodeRunes rs) = rs := by
  unfold decodeRunes
  rw [decodeSyms_encodeRunes rs h, List.map_map]
  clear h
  induction rs with
  | nil => rfl
  | cons r t ih => simp only [List.map_cons, Function.comp]; rw [← ih]; simp [Function.comp_def]

theorem decodeRunes_scalar (s : Bytes) : ∀ r ∈ decodeRunes s, isScalar r = true := by
  intro r hr
  obtain ⟨x, hx, rfl⟩ := List.mem_map.1 hr
  rcases decodeSyms_symOK s x hx with ⟨h, _⟩ | ⟨_, _, _, h⟩ <;> simp [isScalar] <;> omega

theorem validUtf8_encodeRunes (rs : List Nat) (h : ∀ r ∈ rs, isScalar r = true) :
    validUtf8 (encodeRunes rs) = true := by
  unfold validUtf8
  rw [decodeSyms_encodeRunes rs h, List.all_map, List.all_eq_true]
  intro r _
  simp only [Function.comp, Bool.not_eq_true', Bool.and_eq_false_iff, beq_eq_false_iff_ne]
  by_cases hr : r = 0xFFFD
  · right; subst hr; decide
  · left; exact hr

theorem zero_notin_encodeRunes (rs : List Nat) (h : 0 ∉ rs) : 0 ∉ encodeRunes rs := by
  intro hm
  simp only [encodeRunes, List.mem_flatMap] at hm
  obtain ⟨r, hr, hb⟩ := hm
  by_cases h128 : r < 128
  · rw [encodeRune_ascii r h128] at hb
    simp at hb; subst hb; exact h hr
  · have := encodeRune_nonascii r (by omega) 0 hb
    omega

/-! ### html.EscapeString -/

def escRune (r : Nat) : List Nat :=
  if r = 38 then [38, 97, 109, 112, 59]
  else if r = 39 then [38, 35, 51, 57, 59]
  else if r = 60 then [38, 108, 116, 59]
  else if r = 62 then [38, 103, 116, 59]
  else if r = 34 then [38, 35, 51, 52, 59]
  else [r]

theorem escapeByte_plain (b : Nat) (h : b ≠ 38 ∧ b ≠ 39 ∧ b ≠ 60 ∧ b ≠ 62 ∧ b ≠ 34) : escapeByte b = [b] := by
  simp [escapeByte, h]

theorem escapeByte_cases (b : Nat) : b = 38 ∨ b = 39 ∨ b = 60 ∨ b = 62 ∨ b = 34 ∨
    ((b ≠ 38 ∧ b ≠ 39 ∧ b ≠ 60 ∧ b ≠ 62 ∧ b ≠ 34) ∧ escapeByte b = [b]) := by
  by_cases h1 : b = 38
  · exact .inl h1
  by_cases h2 : b = 39
  · exact .inr (.inl h2)
  by_cases h3 : b = 60
  · exact .inr (.inr (.inl h3))
  by_cases h4 : b = 62
  · exact .inr (.inr (.inr (.inl h4)))
  by_cases h5 : b = 34
  · exact .inr (.inr (.inr (.inr (.inl h5))))
  · exact .inr (.inr (.inr (.inr (.inr ⟨⟨h1, h2, h3, h4, h5⟩, escapeByte_plain b ⟨h1, h2, h3, h4, h5⟩⟩))))

theorem escapeByte_nonascii (b : Nat) (h : 128 ≤ b) : escapeByte b = [b] :=
  escapeByte_plain b (by omega)

theorem flatMap_escapeByte_nonascii (l : Bytes) (h : ∀ b ∈ l, 128 ≤ b) : l.flatMap escapeByte = l := by
  induction l with
  | nil => rfl
  | cons b t ih =>
    simp only [List.flatMap_cons, escapeByte_nonascii b (h b (by simp)), ih (fun x hx => h x (by simp [hx]))]
    rfl

theorem escape_encodeRune (r : Nat) : (encodeRune r).flatMap escapeByte = encodeRunes (escRune r) := by
  by_cases hr : r < 128
  · rw [encodeRune_ascii r hr]
    simp only [List.flatMap_cons, List.flatMap_nil, List.append_nil]
    show escapeByte r = encodeRunes (escapeByte r)
    rcases escapeByte_cases r with rfl | rfl | rfl | rfl | rfl | ⟨_, he⟩
    · decide
    · decide
    · decide
    · decide
    · decide
    · simp [he, encodeRunes, encodeRune_ascii r hr]
  · rw [flatMap_escapeByte_nonascii _ (encodeRune_nonascii r (by omega))]
    show encodeRune r = encodeRunes (escapeByte r)
    simp [escapeByte_nonascii r (by omega), encodeRunes]

theorem htmlEscapeString_encodeRunes (rs : List Nat) :
    htmlEscapeString (encodeRunes rs) = encodeRunes (rs.flatMap escRune) := by
  unfold htmlEscapeString
  induction rs with
  | nil => rfl
  | cons r t ih =>
    simp only [encodeRunes, List.flatMap_cons, List.flatMap_append] at ih ⊢
    rw [ih, escape_encodeRune]; rfl

/-! ### `Esc` and `unescape5` -/

theorem Esc_escapeByte (b : Nat) (rest : Bytes) (hb : b ≠ 0) : Esc (escapeByte b ++ rest) = Esc rest := by
  rcases escapeByte_cases b with rfl | rfl | rfl | rfl | rfl | ⟨hn, he⟩
  · simp [escapeByte, Esc, isSpecial, refAt, fiveRefs, List.isPrefixOf]
  · simp [escapeByte, Esc, isSpecial, refAt, fiveRefs, List.isPrefixOf]
  · simp [escapeByte, Esc, isSpecial, refAt, fiveRefs, List.isPrefixOf]
  · simp [escapeByte, Esc, isSpecial, refAt, fiveRefs, List.isPrefixOf]
  · simp [escapeByte, Esc, isSpecial, refAt, fiveRefs, List.isPrefixOf]
  · simp [he, hn, Esc, isSpecial, hb]

theorem Esc_htmlEscapeString (w : Bytes) (h0 : 0 ∉ w) : Esc (htmlEscapeString w) = true := by
  unfold htmlEscapeString
  induction w with
  | nil => rfl
  | cons b t ih =>
    simp only [List.flatMap_cons]
    rw [Esc_escapeByte b _ (by intro h; exact h0 (by simp [h]))]
    exact ih (fun hm => h0 (by simp [hm]))

theorem unescape5Go_escapeByte (b : Nat) (rest : Bytes) :
    unescape5Go 0 (escapeByte b ++ rest) = b :: unescape5Go 0 rest := by
  rcases escapeByte_cases b with rfl | rfl | rfl | rfl | rfl | ⟨hn, he⟩
  · simp [escapeByte, unescape5Go, refAt, fiveRefs, List.isPrefixOf]
  · simp [escapeByte, unescape5Go, refAt, fiveRefs, List.isPrefixOf]
  · simp [escapeByte, unescape5Go, refAt, fiveRefs, List.isPrefixOf]
  · simp [escapeByte, unescape5Go, refAt, fiveRefs, List.isPrefixOf]
  · simp [escapeByte, unescape5Go, refAt, fiveRefs, List.isPrefixOf]
  · simp [he, hn, unescape5Go]

theorem unescape5_htmlEscapeString (w : Bytes) : unescape5 (htmlEscapeString w) = w := by
  unfold unescape5 htmlEscapeString
  induction w with
  | nil => rfl
  | cons b t ih =>
    simp only [List.flatMap_cons]
    rw [unescape5Go_escapeByte, ih]

theorem refAt_append (t u : Bytes) (h : (refAt t).isSome = true) : (refAt (t ++ u)).isSome = true := by
  unfold refAt at h ⊢
  cases hf : fiveRefs.find? (fun r => r.1.isPrefixOf t) with
  | none => rw [hf] at h; simp at h
  | some r =>
    have hp := List.find?_some hf
    have hm := List.mem_of_find?_eq_some hf
    have hp' : r.1.isPrefixOf (t ++ u) = true := by
      rw [List.isPrefixOf_iff_prefix] at hp ⊢
      exact List.IsPrefix.trans hp (List.prefix_append t u)
    cases hf2 : fiveRefs.find? (fun r => r.1.isPrefixOf (t ++ u)) with
    | none =>
      have := List.find?_eq_none.1 hf2 r hm
      simp [hp'] at this
    | some r2 => simp

/-- `Esc` is closed under concatenation (HTMLConcat keeps inert text inert) -/
theorem Esc_append (a b : Bytes) (ha : Esc a = true) (hb : Esc b = true) : Esc (a ++ b) = true := by
  induction a with
  | nil => simpa using hb
  | cons c t ih =>
    simp only [Esc, Bool.and_eq_true] at ha
    simp only [List.cons_append, Esc, Bool.and_eq_true]
    refine ⟨?_, ih ha.2⟩
    by_cases hc : (c == 38) = true
    · simp only [hc, if_true] at ha ⊢
      exact refAt_append t b ha.1
    · simp only [hc] at ha ⊢
      exact ha.1

theorem Esc_flatten (hs : List Bytes) (h : ∀ x ∈ hs, Esc x = true) : Esc hs.flatten = true := by
  induction hs with
  | nil => rfl
  | cons x t ih =>
    simp only [List.flatten_cons]
    exact Esc_append _ _ (h x (by simp)) (ih (fun y hy => h y (by simp [hy])))

theorem Esc_mem (o : Bytes) (h : Esc o = true) : ∀ b ∈ o, b ≠ 60 ∧ b ≠ 62 ∧ b ≠ 34 ∧ b ≠ 39 ∧ b ≠ 0 := by
  induction o with
  | nil => simp
  | cons c t ih =>
    simp only [Esc, Bool.and_eq_true] at h
    intro b hb
    rcases List.mem_cons.1 hb with rfl | hb
    · by_cases hc : (b == 38) = true
      · have : b = 38 := by simpa using hc
        subst this; decide
      · simp only [hc] at h
        have := h.1
        simp [isSpecial] at this
        omega
    · exact ih h.2 b hb

theorem Esc_amp (pre post : Bytes) (h : Esc (pre ++ 38 :: post) = true) : (refAt post).isSome = true := by
  induction pre with
  | nil => simp only [List.nil_append, Esc, Bool.and_eq_true] at h; simpa using h.1
  | cons c t ih =>
    simp only [List.cons_append, Esc, Bool.and_eq_true] at h
    exact ih h.2

/-! ### the regenerated tables are the spec's bad set -/

/-- the planes' last two code points, as one arithmetic condition -/
theorem inRanges_planes (r : Nat) : ∀ n,
    RangeCover.inRanges ((List.range n).map fun k => (65536 * k + 65534, 65536 * k + 65535)) r
      = (decide (65534 ≤ r % 65536) && decide (r / 65536 < n)) := by
  intro n
  induction n with
  | zero => simp [RangeCover.inRanges]
  | succ n ih =>
    rw [List.range_succ, List.map_append, RangeCover.inRanges_append, ih, Bool.eq_iff_iff]
    simp [RangeCover.inRanges]
    omega

theorem isBadRune_ranges (r : Nat) : isBadRune r = RangeCover.inRanges badRanges r := by
  have e : badRanges = [(0, 8), (11, 11), (14, 31), (127, 159), (0xFDD0, 0xFDEF)] ++
      (List.range 17).map fun k => (65536 * k + 65534, 65536 * k + 65535) := by decide
  rw [e, RangeCover.inRanges_append, inRanges_planes, Bool.eq_iff_iff]
  simp [isBadRune, RangeCover.inRanges]
  omega

theorem model_inRanges (rs : List (Nat × Nat)) (c : Nat) : Model.inRanges rs c = RangeCover.inRanges rs c := rfl

end SafeHtml.HtmlFacts
