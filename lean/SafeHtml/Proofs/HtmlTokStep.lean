/-
The tokenizer spec (Spec/HtmlTok) state by state: what `step` does in each of the states that the
correspondence proofs visit, and the runs that stay in one state (character data, attribute values,
bytes the state ignores); at the end, under the names of `Props.C01`, their instances for the positions at which
the engine accepts data (`InertPos`). Core Lean only.
-/
import SafeHtml.Spec.HtmlTok
namespace SafeHtml.Spec.HtmlTok
open SafeHtml

section
variable {t : T} {f c : Nat}

theorem step_data (h : t.st = .data) :
    step (f+1) t c = if c == 60 then { t with st := .tagOpen } else emitChar t c := by
  simp only [step, h]

theorem step_rcdata (h : t.st = .rcdata) :
    step (f+1) t c = if c == 60 then { t with st := .textLt 1 } else emitChar t c := by
  simp only [step, h]

theorem step_rawtext (h : t.st = .rawtext) :
    step (f+1) t c = if c == 60 then { t with st := .textLt 2 } else emitChar t c := by
  simp only [step, h]

theorem step_script (h : t.st = .script) :
    step (f+1) t c = if c == 60 then { t with st := .textLt 3 } else emitChar t c := by
  simp only [step, h]

theorem step_tagOpen (h : t.st = .tagOpen) :
    step (f+1) t c =
      if c == 33 then { t with st := .markupDeclOpen, pend := [] }
      else if c == 47 then { t with st := .endTagOpen }
      else if isAlpha c then step f { (newTag (flush t "data") false) with st := .tagName } c
      else if c == 63 then step f { (flush t "data") with st := .bogusComment, cmt := [], bogus := true } c
      else step f { (emitChar t 60) with st := .data } c := by
  simp only [step, h]

theorem step_endTagOpen (h : t.st = .endTagOpen) :
    step (f+1) t c =
      if isAlpha c then step f { (newTag (flush t "data") true) with st := .tagName } c
      else if c == 62 then { t with st := .data }
      else step f { (flush t "data") with st := .bogusComment, cmt := [], bogus := true } c := by
  simp only [step, h]

theorem step_tagName (h : t.st = .tagName) :
    step (f+1) t c =
      if isWs c then { t with st := .beforeAttrName }
      else if c == 47 then { t with st := .selfClosingStart }
      else if c == 62 then emitTag t "data"
      else { t with name := lower c :: t.name } := by
  simp only [step, h]

theorem step_textLt {k : Nat} (h : t.st = .textLt k) :
    step (f+1) t c =
      if c == 47 then { t with st := .textEndOpen k, tmp := [] }
      else if k == 3 && c == 33 then { (emitChars t [60, 33]) with st := .scriptEscStart }
      else step f { (emitChar t 60) with st := textState k } c := by
  simp only [step, h]

theorem step_textEndOpen {k : Nat} (h : t.st = .textEndOpen k) :
    step (f+1) t c =
      if isAlpha c then step f { (newTag t true) with st := .textEndName k } c
      else step f { (emitChars t [60, 47]) with st := textState k } c := by
  simp only [step, h]

theorem step_textEndName {k : Nat} (h : t.st = .textEndName k) :
    step (f+1) t c =
      if isWs c && t.name.reverse == t.lastStart then { t with st := .beforeAttrName, tmp := [] }
      else if c == 47 && t.name.reverse == t.lastStart then { t with st := .selfClosingStart, tmp := [] }
      else if c == 62 && t.name.reverse == t.lastStart then emitTag { t with tmp := [] } (kindOf (textState k))
      else if isAlpha c then { t with name := lower c :: t.name, tmp := c :: t.tmp }
      else step f { (emitChars t ([60, 47] ++ t.tmp.reverse)) with st := textState k, tmp := [], name := [] } c := by
  simp only [step, h]

theorem step_beforeAttrName (h : t.st = .beforeAttrName) :
    step (f+1) t c =
      if isWs c then t
      else if c == 47 || c == 62 then step f { t with st := .afterAttrName } c
      else if c == 61 then { (finishAttr t) with st := .attrName, an := [61], av := [], hasAttr := true }
      else step f { (finishAttr t) with st := .attrName, an := [], av := [], hasAttr := true } c := by
  simp only [step, h]

theorem step_attrName (h : t.st = .attrName) :
    step (f+1) t c =
      if isWs c || c == 47 || c == 62 then step f { t with st := .afterAttrName } c
      else if c == 61 then { t with st := .beforeAttrValue }
      else { t with an := lower c :: t.an } := by
  simp only [step, h]

theorem step_afterAttrName (h : t.st = .afterAttrName) :
    step (f+1) t c =
      if isWs c then t
      else if c == 47 then { t with st := .selfClosingStart }
      else if c == 61 then { t with st := .beforeAttrValue }
      else if c == 62 then emitTag t "data"
      else step f { (finishAttr t) with st := .attrName, an := [], av := [], hasAttr := true } c := by
  simp only [step, h]

theorem step_beforeAttrValue (h : t.st = .beforeAttrValue) :
    step (f+1) t c =
      if isWs c then t
      else if c == 34 then { t with st := .attrValueDq }
      else if c == 39 then { t with st := .attrValueSq }
      else if c == 62 then emitTag t "data"
      else step f { t with st := .attrValueUnq } c := by
  simp only [step, h]

theorem step_attrValueDq (h : t.st = .attrValueDq) :
    step (f+1) t c = if c == 34 then { t with st := .afterAttrValueQ } else { t with av := c :: t.av } := by
  simp only [step, h]

theorem step_attrValueSq (h : t.st = .attrValueSq) :
    step (f+1) t c = if c == 39 then { t with st := .afterAttrValueQ } else { t with av := c :: t.av } := by
  simp only [step, h]

theorem step_attrValueUnq (h : t.st = .attrValueUnq) :
    step (f+1) t c =
      if isWs c then { t with st := .beforeAttrName }
      else if c == 62 then emitTag t "data"
      else { t with av := c :: t.av } := by
  simp only [step, h]

theorem step_afterAttrValueQ (h : t.st = .afterAttrValueQ) :
    step (f+1) t c =
      if isWs c then { t with st := .beforeAttrName }
      else if c == 47 then { t with st := .selfClosingStart }
      else if c == 62 then emitTag t "data"
      else step f { t with st := .beforeAttrName } c := by
  simp only [step, h]

theorem step_selfClosingStart (h : t.st = .selfClosingStart) :
    step (f+1) t c =
      if c == 62 then emitTag { t with selfClosing := true } "data"
      else step f { t with st := .beforeAttrName } c := by
  simp only [step, h]

end

/-! ### runs that stay in one state -/

theorem run_fix (t : T) : ∀ (w : Bytes), (∀ c ∈ w, step 4 t c = t) → run t w = t
  | [], _ => rfl
  | c :: w, h => by
    show run (step 4 t c) w = t
    rw [h c (List.mem_cons_self ..)]
    exact run_fix t w fun d hd => h d (List.mem_cons_of_mem _ hd)

theorem run_txt : ∀ (x : Bytes) (t : T), t.st = .data ∨ t.st = .rcdata ∨ t.st = .rawtext ∨ t.st = .script →
    (∀ c ∈ x, c ≠ 60) → run t x = { t with txt := x.reverse ++ t.txt }
  | [], _, _, _ => rfl
  | c :: x, t, hst, h => by
    have hc : (c == 60) = false := beq_false_of_ne (h c (List.mem_cons_self ..))
    have h1 : step 4 t c = emitChar t c := by
      rcases hst with e | e | e | e
      · rw [step_data e, hc]; rfl
      · rw [step_rcdata e, hc]; rfl
      · rw [step_rawtext e, hc]; rfl
      · rw [step_script e, hc]; rfl
    show run (step 4 t c) x = _
    rw [h1, run_txt x (emitChar t c) hst fun d hd => h d (List.mem_cons_of_mem _ hd)]
    simp [emitChar]

theorem run_av : ∀ (x : Bytes) (t : T) (q : Nat), t.st = .attrValueDq ∧ q = 34 ∨ t.st = .attrValueSq ∧ q = 39 →
    (∀ c ∈ x, c ≠ q) → run t x = { t with av := x.reverse ++ t.av }
  | [], _, _, _, _ => rfl
  | c :: x, t, q, hst, h => by
    have hc : (c == q) = false := beq_false_of_ne (h c (List.mem_cons_self ..))
    have h1 : step 4 t c = { t with av := c :: t.av } := by
      rcases hst with ⟨e, rfl⟩ | ⟨e, rfl⟩
      · rw [step_attrValueDq e, hc]; rfl
      · rw [step_attrValueSq e, hc]; rfl
    show run (step 4 t c) x = _
    rw [h1, run_av x { t with av := c :: t.av } q hst fun d hd => h d (List.mem_cons_of_mem _ hd)]
    simp

end SafeHtml.Spec.HtmlTok

/-! ### the runs and positions that the statements of C01 speak of -/

namespace SafeHtml.Props.C01
open SafeHtml SafeHtml.Spec.HtmlTok

theorem run_nil (t : T) : run t [] = t := rfl
theorem run_cons (t : T) (c : Nat) (s : Bytes) : run t (c :: s) = run (step 4 t c) s := rfl

theorem run_data (x : Bytes) (t : T) (h : t.st = .data) (hx : ∀ c ∈ x, c ≠ 60) :
    run t x = { t with txt := x.reverse ++ t.txt } := run_txt x t (.inl h) hx

theorem run_rcdata (x : Bytes) (t : T) (h : t.st = .rcdata) (hx : ∀ c ∈ x, c ≠ 60) :
    run t x = { t with txt := x.reverse ++ t.txt } := run_txt x t (.inr (.inl h)) hx

theorem run_dq (x : Bytes) (t : T) (h : t.st = .attrValueDq) (hx : ∀ c ∈ x, c ≠ 34) :
    run t x = { t with av := x.reverse ++ t.av } := run_av x t 34 (.inl ⟨h, rfl⟩) hx

theorem run_sq (x : Bytes) (t : T) (h : t.st = .attrValueSq) (hx : ∀ c ∈ x, c ≠ 39) :
    run t x = { t with av := x.reverse ++ t.av } := run_av x t 39 (.inr ⟨h, rfl⟩) hx

theorem run_append (t : T) (a b : Bytes) : run t (a ++ b) = run (run t a) b := by
  simp [run, List.foldl_append]

/-- the positions at which the engine lets untrusted data through (escaped) -/
def InertPos (s : St) : Prop := s = .data ∨ s = .rcdata ∨ s = .attrValueDq ∨ s = .attrValueSq

end SafeHtml.Props.C01
