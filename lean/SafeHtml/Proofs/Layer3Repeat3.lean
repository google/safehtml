/-
C01 for later executions of a main template plus a helper called inside an element or a quoted attribute value
(`C01_api_main_plus_derived_helper_repeat`, from `Layer3Derived` by `first_of_later`), and C06 (the result of
`Execute(d)`, successful or failed, does not depend on the earlier `Execute` calls) written out for the template
shapes of the C01 theorems. C06 holds for arbitrary trees (`Layer3Repeat.history_independent_setupW`,
`Layer3Repeat2.history_independent_setupW2`); the shape, analysis and fuel hypotheses below are not needed.
-/
import SafeHtml.Proofs.Layer3Derived
import SafeHtml.Proofs.Layer3Repeat2
set_option linter.unusedSimpArgs false
namespace SafeHtml.Proofs.Layer3Repeat3
open SafeHtml SafeHtml.Model SafeHtml.Model.Tmpl SafeHtml.Spec SafeHtml.Spec.HtmlTok SafeHtml.Generated.Policy
open SafeHtml.Props.C01 (InertPos run_nil run_cons run_append)
open SafeHtml.Props.C02 (Untrusted)
open SafeHtml.Proofs.HtmlTokSim
open SafeHtml.Proofs.Layer3 SafeHtml.Proofs.Layer3E2E SafeHtml.Proofs.Layer3Branch SafeHtml.Proofs.Layer3Calls
open SafeHtml.Proofs.Layer3Helpers SafeHtml.Proofs.Layer3Repeat SafeHtml.Proofs.Layer3Repeat2
open SafeHtml.Proofs.Layer3Derived

/-! ### main template plus derived helper -/

theorem step_execsD (v : Validators) (fuel : Nat) (m h : String) (hmh : m ≠ h) (trm trh : Tree)
    (ms : List MP) (hps : List Piece) (asH : List Arg) (cc cc' cf : Ctx) (es : List EM) (esH : List EPiece)
    (hrootM : trm.root = NodeList.ofList (nodesM h 0 ms))
    (hrootH : trh.root = NodeList.ofList (toNodesA 0 hps asH))
    (hokM : ArgsOKM ms) (hasH : ∀ a ∈ asH, ActArg a) (hcall : MP.call ∈ ms)
    (htop : TopCtx cc = false) (hcoll : mangle cc h ≠ m) (hcc : cc.state ≠ .error) (hcc' : cc'.state ≠ .error)
    (hH : analyse v cc hps = some (cc', esH)) (hM : analyseD v cc cc' {} ms = some (cf, es))
    (hfin : finalError cf = none) (hf : ms.length + hps.length + 9 ≤ fuel) (pre : List Value) (d : Value) :
    (Api.step (execs (setupW2 v fuel m h trm trh) pre) (.exec 0 d)).2 =
      .exec (resOf (walkList false
        [(m, some { trm with root := NodeList.ofList (outM (mangle cc h) 0 es) }), (h, some trh),
          (mangle cc h, some { ({ trh with name := mangle cc h } : Tree) with
            root := NodeList.ofList (outNodes 0 esH asH) })] 0 fuel d d []
        (NodeList.ofList (outM (mangle cc h) 0 es)))) := by
  obtain ⟨f', rfl⟩ : ∃ f', fuel = f' + 3 := ⟨fuel - 3, by omega⟩
  obtain ⟨E, E', het, hc⟩ := derived_first v f' m h hmh trm trh ms hps asH cc cc' cf es esH hrootM hrootH hokM hasH hcall
    htop hcoll hcc hcc' hH hM hfin hf
  rw [step_execs_of_fixedFrom _ (fixedFrom_setupW2 v (f' + 3) m h trm trh), step_exec,
    apiExecute2_first v (f' + 3) m h trm trh { trm with root := NodeList.ofList (outM (mangle cc h) 0 es) } cf E E'
    _ d het hfin hc (by simp [TextSet.lookup])]

/-- C01 for a main template plus a helper called in a non-default context, later executions. As
    `Layer3Derived.C01_api_main_plus_derived_helper`, but each of the two executions compared comes after an arbitrary
    list of earlier `Execute` calls on the main template object (`pre1`, `pre2`: any data, no hypothesis). -/
theorem C01_api_main_plus_derived_helper_repeat (v : Validators) (fuel : Nat) (m h : String) (hmh : m ≠ h)
    (trm trh : Tree)
    (ms : List MP) (hps : List Piece) (asH : List Arg) (cc cc' cf : Ctx) (es : List EM) (esH : List EPiece)
    (hnm : trm.name = m) (hnh : trh.name = h)
    (hrootM : trm.root = NodeList.ofList (nodesM h 0 ms))
    (hrootH : trh.root = NodeList.ofList (toNodesA 0 hps asH))
    (hokM : ArgsOKM ms) (hasH : ∀ a ∈ asH, ActArg a) (hcall : MP.call ∈ ms)
    (htop : TopCtx cc = false) (hcoll : mangle cc h ≠ m) (hcc : cc.state ≠ .error) (hcc' : cc'.state ≠ .error)
    (hH : analyse v cc hps = some (cc', esH)) (hM : analyseD v cc cc' {} ms = some (cf, es))
    (hs : SimpleAll v {} (inlineP hps ms))
    (hfin : finalError cf = none) (hf : ms.length + hps.length + 9 ≤ fuel) (pre1 pre2 : List Value) (d1 d2 : Value)
    (hu1 : ∀ vs, valsM d1 esH asH es = some vs → ∀ x ∈ vs, Untrusted x)
    (hu2 : ∀ vs, valsM d2 esH asH es = some vs → ∀ x ∈ vs, Untrusted x)
    (o1 o2 : Bytes) (w1 w2 : World)
    (h1 : Api.step (execs (setup2 v fuel m trm trh) pre1) (.exec 0 d1) = (w1, .exec (.ok o1)))
    (h2 : Api.step (execs (setup2 v fuel m trm trh) pre2) (.exec 0 d2) = (w2, .exec (.ok o2))) :
    skeleton (HtmlTok.tokenize o1).tokens = skeleton (HtmlTok.tokenize o2).tokens ∧
    (HtmlTok.tokenize o1).final = .data ∧ (HtmlTok.tokenize o2).final = .data :=
  C01_api_main_plus_derived_helper v fuel m h hmh trm trh ms hps asH cc cc' cf es esH hnm hnh hrootM hrootH hokM hasH
    hcall htop hcoll hcc hcc' hH hM hs hfin hf d1 d2 hu1 hu2 o1 o2 _ _
    (first_of_later _ (fixedFrom_setup2 v fuel m h hmh trm trh hnm hnh) pre1 d1 w1 _ h1)
    (first_of_later _ (fixedFrom_setup2 v fuel m h hmh trm trh hnm hnh) pre2 d2 w2 _ h2)

/-! ### C06: the result of an execution does not depend on the earlier executions

Each statement carries the hypotheses of the C01 theorem for its shape, so that the two can be read side by side; none
of them is used. -/

set_option linter.unusedVariables false in

theorem C06_result_history_independent_single (v : Validators) (fuel : Nat) (name : String) (tr : Tree)
    (ps : List Piece) (as : List Arg) (has : ∀ a ∈ as, ActArg a) (cf : Ctx) (es : List EPiece)
    (hroot : tr.root = NodeList.ofList (toNodesA 0 ps as)) (ha : analyse v {} ps = some (cf, es))
    (hfin : finalError cf = none) (hf : ps.length + 4 ≤ fuel) (pre1 pre2 : List Value) (d : Value) :
    (Api.step (execs (setupW v fuel name tr) pre1) (.exec 0 d)).2 =
      (Api.step (execs (setupW v fuel name tr) pre2) (.exec 0 d)).2 :=
  history_independent_setupW v fuel name tr pre1 pre2 d

set_option linter.unusedVariables false in
theorem C06_result_history_independent_main_plus_derived_helper (v : Validators) (fuel : Nat) (m h : String)
    (hmh : m ≠ h) (trm trh : Tree)
    (ms : List MP) (hps : List Piece) (asH : List Arg) (cc cc' cf : Ctx) (es : List EM) (esH : List EPiece)
    (hrootM : trm.root = NodeList.ofList (nodesM h 0 ms))
    (hrootH : trh.root = NodeList.ofList (toNodesA 0 hps asH))
    (hokM : ArgsOKM ms) (hasH : ∀ a ∈ asH, ActArg a) (hcall : MP.call ∈ ms)
    (htop : TopCtx cc = false) (hcoll : mangle cc h ≠ m) (hcc : cc.state ≠ .error) (hcc' : cc'.state ≠ .error)
    (hH : analyse v cc hps = some (cc', esH)) (hM : analyseD v cc cc' {} ms = some (cf, es))
    (hfin : finalError cf = none) (hf : ms.length + hps.length + 9 ≤ fuel) (pre1 pre2 : List Value) (d : Value) :
    (Api.step (execs (setupW2 v fuel m h trm trh) pre1) (.exec 0 d)).2 =
      (Api.step (execs (setupW2 v fuel m h trm trh) pre2) (.exec 0 d)).2 :=
  history_independent_setupW2 v fuel m h trm trh pre1 pre2 d

set_option linter.unusedVariables false in
theorem C06_result_history_independent_branch (v : Validators) (fuel : Nat) (name : String) (tr : Tree) (tps : TPs)
    (cf : Ctx) (es : ERs) (hroot : tr.root = nodesTL 0 tps) (hok : ArgsOKL tps)
    (ha : analyseRL v {} (eraseL tps) = some (cf, es))
    (hfin : finalError cf = none) (hf : fuelRL (eraseL tps) + 3 ≤ fuel) (pre1 pre2 : List Value) (d : Value) :
    (Api.step (execs (setupW v fuel name tr) pre1) (.exec 0 d)).2 =
      (Api.step (execs (setupW v fuel name tr) pre2) (.exec 0 d)).2 :=
  history_independent_setupW v fuel name tr pre1 pre2 d

set_option linter.unusedVariables false in
theorem C06_result_history_independent_main_plus_helper (v : Validators) (fuel : Nat) (m h : String) (hmh : m ≠ h)
    (trm trh : Tree)
    (ms : List MP) (hps : List Piece) (asH : List Arg) (cf : Ctx) (es : List EM) (esH : List EPiece)
    (hrootM : trm.root = NodeList.ofList (nodesM h 0 ms))
    (hrootH : trh.root = NodeList.ofList (toNodesA 0 hps asH))
    (hokM : ArgsOKM ms) (hasH : ∀ a ∈ asH, ActArg a) (hcall : MP.call ∈ ms)
    (hH : analyse v {} hps = some ({}, esH)) (hM : analyseM v {} ms = some (cf, es))
    (hfin : finalError cf = none) (hf : ms.length + hps.length + 9 ≤ fuel) (pre1 pre2 : List Value) (d : Value) :
    (Api.step (execs (setupW2 v fuel m h trm trh) pre1) (.exec 0 d)).2 =
      (Api.step (execs (setupW2 v fuel m h trm trh) pre2) (.exec 0 d)).2 :=
  history_independent_setupW2 v fuel m h trm trh pre1 pre2 d

set_option linter.unusedVariables false in
/-- single template, with the outcome of the first analysis and commit named (`het`, `hfin`, `hc`: not needed either) -/
theorem C06_result_history_independent_gen (v : Validators) (fuel : Nat) (name : String) (tr tr' : Tree) (cf : Ctx)
    (E E' : Esc)
    (het : escapeTree ⟨[(name, some tr)], fun n => (alookup [(name, 1)] n).isSome, false, v⟩ fuel {} {} name =
      .ok (E, cf, name))
    (hfin : finalError cf = none) (hc : commit [(name, some tr)] E = .ok ([(name, some tr')], E'))
    (pre1 pre2 : List Value) (d : Value) :
    (Api.step (execs (setupW v fuel name tr) pre1) (.exec 0 d)).2 =
      (Api.step (execs (setupW v fuel name tr) pre2) (.exec 0 d)).2 :=
  history_independent_setupW v fuel name tr pre1 pre2 d

#print axioms C01_api_main_plus_derived_helper_repeat
#print axioms step_execsD
#print axioms C06_result_history_independent_single
#print axioms C06_result_history_independent_branch
#print axioms C06_result_history_independent_main_plus_helper
#print axioms C06_result_history_independent_main_plus_derived_helper
#print axioms C06_result_history_independent_gen

end SafeHtml.Proofs.Layer3Repeat3
