/-
The RFC 8259 decoder of Spec/Json reads back what the model of encoding/json writes:
strings (escape by escape), numbers, literals, arrays and objects.
-/
import SafeHtml.Proofs.GoJson
import SafeHtml.Oracle.C17
namespace SafeHtml.Model.GoJson
open SafeHtml SafeHtml.Spec.Json

/-! ### strings -/

theorem hexv_hexDigitLower (n : Nat) (h : n < 16) : hexv (hexDigitLower n) = some n := by
  unfold hexv
  rcases hexDigitLower_cases n h with ⟨h10, e⟩ | ⟨h10, e⟩ <;> rw [e]
  · rw [if_pos (by simp; omega)]; congr 1; omega
  · rw [if_neg (by simp; omega), if_pos (by simp; omega)]; congr 1; omega

theorem parseEscape_u00 (b : Nat) (hb : b < 256) (Y : Bytes) :
    parseEscape (117 :: 48 :: 48 :: hexDigitLower (b / 16 % 16) :: hexDigitLower (b % 16) :: Y) = some (b, Y) := by
  have h0 : hexv 48 = some 0 := by decide
  simp only [parseEscape, hex4, h0, hexv_hexDigitLower _ (Nat.mod_lt _ (by decide : 0 < 16))]
  have : 0 * 4096 + 0 * 256 + b / 16 % 16 * 16 + b % 16 = b := by omega
  simp only [this, surrogate]
  have : isHighSurr b = false := by simp [isHighSurr]; omega
  simp [this]

theorem strBody_esc (f : Nat) (e cp : Nat) (Y X : Bytes) (h : parseEscape (e :: X) = some (cp, Y)) :
    strBody false (f + 1) (92 :: e :: X) = consCp cp (strBody false f Y) := by
  simp [strBody, h]

theorem strBody_plain (f : Nat) (b : Nat) (Y : Bytes) (h1 : 32 ≤ b) (h2 : b < 128) (h3 : b ≠ 34) (h4 : b ≠ 92) :
    strBody false (f + 1) (b :: Y) = consCp b (strBody false f Y) := by
  have : ¬ b < 32 := by omega
  simp [strBody, h3, h4, this, h2]

theorem escByte_step (f b : Nat) (hb : b < 128) (Y : Bytes) :
    strBody false (f + 1) (escByte b ++ Y) = consCp b (strBody false f Y) := by
  refine escByte_elim (P := fun x => strBody false (f + 1) (x ++ Y) = consCp b (strBody false f Y)) b ?_ ?_
    (fun _ => strBody_esc _ _ _ _ _ (parseEscape_u00 b (by omega) Y)) ?_
  · rintro (rfl | rfl) <;> exact strBody_esc _ _ _ _ _ rfl
  · intro c h
    simp only [List.mem_cons, Prod.mk.injEq, List.not_mem_nil, or_false] at h
    rcases h with ⟨rfl, rfl⟩ | ⟨rfl, rfl⟩ | ⟨rfl, rfl⟩ | ⟨rfl, rfl⟩ | ⟨rfl, rfl⟩ <;> exact strBody_esc _ _ _ _ _ rfl
  · intro h; exact strBody_plain f b Y h.1 hb h.2.1 h.2.2.1

theorem strBody_multi {b : Nat} {p : Bytes} {r : Nat} (hm : Utf8.Multi b p r) (f : Nat) (Y : Bytes) :
    strBody false (f + 1) (b :: p ++ Y) = consCp r (strBody false f Y) := by
  obtain ⟨hb, hp, _⟩ := hm.facts
  have n1 : (b == 34) = false ∧ (b == 92) = false := by simp only [beq_eq_false_iff_ne]; omega
  have n2 : ¬ b < 32 ∧ ¬ b < 128 := by omega
  have hl : (p.length + 1 == 1) = false := by cases p with
    | nil => exact absurd rfl hp
    | cons _ _ => simp
  simp only [List.cons_append, strBody, n1, n2, Utf8.decode1_multi hm Y, hl, Bool.and_false, Bool.false_eq_true,
    if_false, List.drop_succ_cons, List.drop_left]

theorem encSym_reads {x : Sym} (hk : Utf8.SymKind x) :
    1 ≤ (encSym x).length ∧
      ∀ f Y, strBody false (f + 1) (encSym x ++ Y) = consCp x.rune (strBody false f Y) := by
  cases hk with
  | ascii b hb =>
    rw [encSym_ascii b hb]
    exact ⟨escByte_elim (P := fun x => 1 ≤ x.length) b (by simp) (by simp) (by simp [u00]) (by simp),
      fun f Y => escByte_step f b hb Y⟩
  | bad b _ => rw [encSym_bad]; exact ⟨by decide, fun f Y => strBody_esc _ _ _ _ _ rfl⟩
  | multi hm =>
    rw [encSym_multi hm]
    split
    · rename_i h
      refine ⟨by simp [u202], fun f Y => ?_⟩
      rcases h with rfl | rfl
      · exact strBody_esc _ _ _ _ _ rfl
      · exact strBody_esc _ _ _ _ _ rfl
    · exact ⟨by simp, strBody_multi hm⟩

theorem strBody_encSyms (s rest : Bytes) (f : Nat) (hf : ((Utf8.decodeSyms s).flatMap encSym).length < f) :
    strBody false f ((Utf8.decodeSyms s).flatMap encSym ++ 34 :: rest) =
      some ((Utf8.decodeSyms s).map (·.rune), rest) := by
  have hk := Utf8.decodeSyms_kinds s
  generalize Utf8.decodeSyms s = xs at hk hf ⊢
  induction xs generalizing f with
  | nil =>
    obtain ⟨f, rfl⟩ : ∃ f', f = f' + 1 := ⟨f - 1, by simp at hf; omega⟩
    simp [strBody]
  | cons x xs ih =>
    obtain ⟨h1, hs⟩ := encSym_reads (hk x (by simp))
    rw [List.flatMap_cons, List.length_append] at hf
    obtain ⟨f, rfl⟩ : ∃ f', f = f' + 1 := ⟨f - 1, by omega⟩
    rw [List.flatMap_cons, List.append_assoc, hs, ih f (fun y hy => hk y (by simp [hy])) (by omega)]
    rfl

theorem parseString_encodeString (s rest : Bytes) :
    ∃ body, encodeString s ++ rest = 34 :: body ∧
      parseString false body = some (Utf8.decodeRunes s, rest) := by
  refine ⟨(Utf8.decodeSyms s).flatMap encSym ++ 34 :: rest, by simp [encodeString], ?_⟩
  unfold parseString
  rw [strBody_encSyms s rest _ (by simp only [List.length_append, List.length_cons]; omega)]
  rfl

/-! ### values -/

/-- what may follow a value inside the encoder's output: nothing, `,`, `]`, `}` -/
def follow : Bytes → Bool
  | [] => true
  | c :: _ => c == 44 || c == 93 || c == 125

def valueStart (c : Nat) : Bool :=
  c == 110 || c == 116 || c == 102 || c == 34 || c == 91 || c == 123 || c == 45 || isDigit c

/-- the text begins with a byte that starts a value (so no white space is skipped in front of it) -/
def Starts (J : Bytes) : Prop := ∃ c t, J = c :: t ∧ valueStart c = true

/-- the text `J` (followed by anything that may follow a value) parses as `e` -/
def Reads (J : Bytes) (e : JsonValue) : Prop :=
  (∀ f rest, J.length < f → follow rest = true → parseValue false f (J ++ rest) = some (e, rest)) ∧ Starts J

/-- `parseValue` only unfolds on fuel `f + 1` -/
theorem Reads.intro {J : Bytes} {e : JsonValue} (hs : Starts J)
    (h : ∀ f rest, J.length ≤ f → follow rest = true → parseValue false (f + 1) (J ++ rest) = some (e, rest)) :
    Reads J e := by
  refine ⟨fun f rest hf hfo => ?_, hs⟩
  obtain ⟨f, rfl⟩ : ∃ f', f = f' + 1 := ⟨f - 1, by omega⟩
  exact h f rest (by omega) hfo

theorem valueStart_notWs (c : Nat) (h : valueStart c = true) : isWs c = false ∧ c ≠ 93 ∧ c ≠ 125 := by
  simp only [valueStart, isDigit, Bool.or_eq_true, beq_iff_eq, Bool.and_eq_true, decide_eq_true_eq] at h
  simp only [isWs, Bool.or_eq_false_iff, beq_eq_false_iff_ne, ne_eq]
  omega

theorem Starts.append {J : Bytes} (h : Starts J) (X : Bytes) : Starts (J ++ X) := by
  obtain ⟨c, t, rfl, hv⟩ := h
  exact ⟨c, t ++ X, rfl, hv⟩

theorem skipWs_starts {J : Bytes} (h : Starts J) : skipWs J = J := by
  obtain ⟨c, t, rfl, hv⟩ := h
  simp [skipWs, (valueStart_notWs c hv).1]

theorem skipWs_sep (c : Nat) (t : Bytes) (h : c = 44 ∨ c = 93 ∨ c = 125 ∨ c = 58) : skipWs (c :: t) = c :: t := by
  have : isWs c = false := by
    simp only [isWs, Bool.or_eq_false_iff, beq_eq_false_iff_ne, ne_eq]; omega
  simp [skipWs, this]

theorem joinComma_cons₂ (a b : Bytes) (t : List Bytes) :
    joinComma (a :: b :: t) = a ++ 44 :: joinComma (b :: t) := by simp [joinComma]

theorem starts_joinComma {a : Bytes} (h : Starts a) (es : List Bytes) (X : Bytes) :
    Starts (joinComma (a :: es) ++ X) := by
  cases es with
  | nil => exact h.append X
  | cons b es => rw [joinComma_cons₂, List.append_assoc]; exact h.append _

inductive Forall₂ {α β} (R : α → β → Prop) : List α → List β → Prop
  | nil : Forall₂ R [] []
  | cons {a b l₁ l₂} : R a b → Forall₂ R l₁ l₂ → Forall₂ R (a :: l₁) (b :: l₂)

theorem parseElems_join (f0 : Nat) (rest : Bytes) {es : List Bytes} {vs : List JsonValue}
    (h : Forall₂ Reads es vs) (hne : es ≠ []) (h0 : (joinComma es).length < f0) :
    ∀ f, (joinComma es).length < f →
      parseElems (parseValue false f0) f (joinComma es ++ 93 :: rest) = some (vs, rest) := by
  induction h with
  | nil => exact absurd rfl hne
  | @cons a v es vs hav ht ih =>
    intro f hf
    obtain ⟨f, rfl⟩ : ∃ f', f = f' + 1 := ⟨f - 1, by omega⟩
    cases ht with
    | nil =>
      have hp := hav.1 f0 (93 :: rest) h0 rfl
      simp [joinComma, parseElems, hp, skipWs_sep 93 rest]
    | @cons b w es vs hbw ht =>
      rw [joinComma_cons₂, List.length_append, List.length_cons] at h0 hf
      have hp := hav.1 f0 (44 :: (joinComma (b :: es) ++ 93 :: rest)) (by omega) rfl
      have hX := skipWs_starts (starts_joinComma hbw.2 es (93 :: rest))
      rw [joinComma_cons₂, List.append_assoc, List.cons_append]
      simp [parseElems, hp, skipWs_sep 44, hX, ih (by simp) (by omega) f (by omega)]

def ReadsKV (p : Bytes × Bytes) (q : Bytes × JsonValue) : Prop := p.1 = q.1 ∧ Reads p.2 q.2

theorem member_eq (p : Bytes × Bytes) (X : Bytes) :
    member p ++ X = encodeString p.1 ++ 58 :: (p.2 ++ X) := by simp [member]

theorem starts_member (p : Bytes × Bytes) : Starts (member p) :=
  ⟨34, _, by simp [member, encodeString]; rfl, rfl⟩

theorem parseMembers_join (f0 : Nat) (rest : Bytes) {ps : List (Bytes × Bytes)} {qs : List (Bytes × JsonValue)}
    (h : Forall₂ ReadsKV ps qs) (hne : ps ≠ []) (h0 : (joinComma (ps.map member)).length < f0) :
    ∀ f, (joinComma (ps.map member)).length < f →
      parseMembers false (parseValue false f0) f (joinComma (ps.map member) ++ 125 :: rest) =
        some (qs.map fun q => (Utf8.decodeRunes q.1, q.2), rest) := by
  induction h with
  | nil => exact absurd rfl hne
  | @cons p q ps qs hpq ht ih =>
    intro f hf
    obtain ⟨f, rfl⟩ : ∃ f', f = f' + 1 := ⟨f - 1, by omega⟩
    obtain ⟨k, a⟩ := p
    obtain ⟨k', v⟩ := q
    obtain ⟨hk, hr, hst⟩ := hpq
    cases hk
    dsimp only at hr hst
    have hlen : a.length < (member (k, a)).length := by simp [member]; omega
    cases ht with
    | nil =>
      obtain ⟨body, hb, hps⟩ := parseString_encodeString k (58 :: (a ++ 125 :: rest))
      have hp := hr f0 (125 :: rest) (by simp only [List.map_cons, List.map_nil, joinComma] at h0; omega) rfl
      simp [joinComma, member_eq, hb, parseMembers, hps, skipWs_sep 58, skipWs_starts (hst.append _), hp, skipWs_sep 125 rest]
    | @cons p' q' ps qs hpq' ht =>
      rw [List.map_cons, List.map_cons, joinComma_cons₂, List.length_append, List.length_cons] at h0 hf
      rw [← List.map_cons] at h0 hf
      have hX := skipWs_starts (starts_joinComma (starts_member p') (ps.map member) (125 :: rest))
      rw [← List.map_cons] at hX
      obtain ⟨body, hb, hps⟩ := parseString_encodeString k
        (58 :: (a ++ 44 :: (joinComma ((p' :: ps).map member) ++ 125 :: rest)))
      have hp := hr f0 (44 :: (joinComma ((p' :: ps).map member) ++ 125 :: rest)) (by omega) rfl
      have hrec := ih (by simp) (by omega) f (by omega)
      rw [List.map_cons, List.map_cons, joinComma_cons₂, ← List.map_cons, List.append_assoc, List.cons_append,
        member_eq, hb]
      generalize joinComma ((p' :: ps).map member) ++ 125 :: rest = T at hX hps hp hrec ⊢
      simp [parseMembers, hps, skipWs_sep 58, skipWs_starts (hst.append _), hp, skipWs_sep 44, hX, hrec]

/-! ### sorting: the oracle's own sort is the model's sort, and it moves encoded and expected members alike -/

theorem ltB_eq : ∀ a b : Bytes, Oracle.C17.ltB a b = ltBytes a b
  | [], [] => rfl
  | [], _ :: _ => rfl
  | _ :: _, [] => rfl
  | a :: s, b :: t => by simp only [Oracle.C17.ltB, ltBytes, ltB_eq s t]

theorem ins_eq {α} (kv : Bytes × α) (l : List (Bytes × α)) : Oracle.C17.ins kv l = insertKV kv l := by
  induction l with
  | nil => rfl
  | cons x t ih => simp only [Oracle.C17.ins, insertKV, ltB_eq, ih]

theorem sortByKey_eq {α} (l : List (Bytes × α)) : Oracle.C17.sortByKey l = sortKV l := by
  induction l with
  | nil => rfl
  | cons x t ih =>
    show Oracle.C17.ins x (Oracle.C17.sortByKey t) = insertKV x (sortKV t)
    rw [ih, ins_eq]

theorem forall₂_insertKV {α β} {R : Bytes × α → Bytes × β → Prop} (hk : ∀ p q, R p q → p.1 = q.1)
    {p : Bytes × α} {q : Bytes × β} (hpq : R p q) {ps : List (Bytes × α)} {qs : List (Bytes × β)}
    (h : Forall₂ R ps qs) : Forall₂ R (insertKV p ps) (insertKV q qs) := by
  induction h with
  | nil => exact .cons hpq .nil
  | @cons x y ps qs hxy ht ih =>
    simp only [insertKV, ← hk p q hpq, ← hk x y hxy]
    split
    · exact .cons hpq (.cons hxy ht)
    · exact .cons hxy ih

theorem forall₂_sortKV {α β} {R : Bytes × α → Bytes × β → Prop} (hk : ∀ p q, R p q → p.1 = q.1)
    {ps : List (Bytes × α)} {qs : List (Bytes × β)} (h : Forall₂ R ps qs) :
    Forall₂ R (sortKV ps) (sortKV qs) := by
  induction h with
  | nil => exact .nil
  | cons hxy _ ih => exact forall₂_insertKV hk hxy ih

/-! ### the tree -/

mutual
/-- no json.Marshaler / json.RawMessage node -/
def noRaw : JVal → Bool
  | .raw _ => false
  | .arr xs => noRawL xs
  | .obj _ kvs => noRawM kvs
  | _ => true
def noRawL : List JVal → Bool
  | [] => true
  | x :: t => noRaw x && noRawL t
def noRawM : List (Bytes × JVal) → Bool
  | [] => true
  | (_, x) :: t => noRaw x && noRawM t
end

theorem spanNum_append (lit rest : Bytes) (h1 : lit.all isNumCh = true) (h2 : follow rest = true) :
    spanNum (lit ++ rest) = (lit, rest) := by
  induction lit with
  | nil =>
    cases rest with
    | nil => rfl
    | cons c t =>
      simp only [follow, Bool.or_eq_true, beq_iff_eq] at h2
      have : isNumCh c = false := by
        simp only [isNumCh, isDigit, Bool.or_eq_false_iff, Bool.and_eq_false_iff, decide_eq_false_iff_not,
          beq_eq_false_iff_ne, ne_eq]
        omega
      simp [spanNum, this]
  | cons c t ih =>
    simp only [List.all_cons, Bool.and_eq_true] at h1
    simp only [List.cons_append, spanNum, h1.1, if_true, ih h1.2]

theorem reads_num (lit : Bytes) (h : isNumber lit = true) : Reads lit (.num lit) := by
  obtain ⟨hall, c, t, rfl, hc⟩ := isNumber_numch lit h
  have n2 : (c == 45 || isDigit c) = true := by
    rcases hc with rfl | hc
    · rfl
    · simp [hc]
  refine .intro ⟨c, t, rfl, by simp only [valueStart, Bool.or_assoc, n2, Bool.or_true]⟩ fun f rest hf hfo => ?_
  have hsp := spanNum_append (c :: t) rest hall hfo
  have n1 : c ≠ 110 ∧ c ≠ 116 ∧ c ≠ 102 ∧ c ≠ 34 ∧ c ≠ 91 ∧ c ≠ 123 := by
    rcases hc with rfl | hc
    · decide
    · simp only [isDigit, Bool.and_eq_true, decide_eq_true_eq] at hc; omega
  simp only [List.cons_append] at hsp
  simp only [List.cons_append, parseValue, beq_iff_eq, n1, if_false, n2, if_true, hsp, h]

theorem reads_str (s : Bytes) : Reads (encodeString s) (.str (Utf8.decodeRunes s)) := by
  refine .intro ⟨34, (Utf8.decodeSyms s).flatMap encSym ++ [34], by simp [encodeString], rfl⟩ fun f rest _ _ => ?_
  obtain ⟨body, hb, hps⟩ := parseString_encodeString s rest
  rw [hb]
  simp [parseValue, hps]

theorem parseValue_arr (f : Nat) (t : Bytes) :
    parseValue false (f + 1) (91 :: t) =
      match skipWs t with
      | [] => none
      | d :: t' =>
        if d == 93 then some (.arr [], t')
        else (parseElems (parseValue false f) (t.length + 1) (d :: t')).map fun p => (.arr p.1, p.2) := by
  simp only [parseValue, Nat.reduceBEq, Bool.false_eq_true, ↓reduceIte]
  cases skipWs t <;> rfl

theorem parseValue_obj (f : Nat) (t : Bytes) :
    parseValue false (f + 1) (123 :: t) =
      match skipWs t with
      | [] => none
      | d :: t' =>
        if d == 125 then some (.obj [], t')
        else (parseMembers false (parseValue false f) (t.length + 1) (d :: t')).map fun p => (.obj p.1, p.2) := by
  simp only [parseValue, Nat.reduceBEq, Bool.false_eq_true, ↓reduceIte]
  cases skipWs t <;> rfl

theorem reads_arr {es : List Bytes} {vs : List JsonValue} (h : Forall₂ Reads es vs) :
    Reads ([91] ++ joinComma es ++ [93]) (.arr vs) := by
  refine .intro ⟨91, joinComma es ++ [93], by simp, rfl⟩ fun f rest hf hfo => ?_
  have e : [91] ++ joinComma es ++ [93] ++ rest = 91 :: (joinComma es ++ 93 :: rest) := by simp
  rw [e, parseValue_arr]
  cases h with
  | nil => simp [joinComma, skipWs_sep 93 rest]
  | @cons a v es vs hav ht =>
    have hs := starts_joinComma hav.2 es (93 :: rest)
    rw [skipWs_starts hs]
    obtain ⟨c, t, hc, hv⟩ := hs
    simp only [List.length_append, List.length_cons, List.length_nil] at hf
    simp only [hc, show (c == 93) = false by simpa using (valueStart_notWs c hv).2.1, Bool.false_eq_true,
      if_false]
    rw [← hc, parseElems_join f rest (.cons hav ht) (by simp) (by omega) _ (by simp only [List.length_append]; omega)]
    rfl

theorem reads_obj {ps : List (Bytes × Bytes)} {qs : List (Bytes × JsonValue)} (h : Forall₂ ReadsKV ps qs) :
    Reads ([123] ++ joinComma (ps.map member) ++ [125]) (.obj (qs.map fun q => (Utf8.decodeRunes q.1, q.2))) := by
  refine .intro ⟨123, joinComma (ps.map member) ++ [125], by simp, rfl⟩ fun f rest hf hfo => ?_
  have e : [123] ++ joinComma (ps.map member) ++ [125] ++ rest =
      123 :: (joinComma (ps.map member) ++ 125 :: rest) := by simp
  rw [e, parseValue_obj]
  cases h with
  | nil => simp [joinComma, skipWs_sep 125 rest]
  | @cons p q ps qs hpq ht =>
    have hs := starts_joinComma (starts_member p) (ps.map member) (125 :: rest)
    rw [← List.map_cons] at hs
    rw [skipWs_starts hs]
    obtain ⟨c, t, hc, hv⟩ := hs
    simp only [List.length_append, List.length_cons, List.length_nil] at hf
    simp only [hc, show (c == 125) = false by simpa using (valueStart_notWs c hv).2.2, Bool.false_eq_true,
      if_false]
    rw [← hc, parseMembers_join f rest (.cons hpq ht) (by simp) (by omega) _ (by simp only [List.length_append]; omega)]
    rfl

/-- Round trip: whatever the model of `json.Marshal` writes for a tree without Marshaler/RawMessage
    nodes, the RFC 8259 decoder reads back as the JSON value of the data -/
theorem enc_reads : ∀ (v : JVal) (J : Bytes) (e : JsonValue), noRaw v = true → enc v = some J →
    Oracle.C17.expected v = some e → Reads J e := by
  apply JVal.induct
    (P := fun v => ∀ J e, noRaw v = true → enc v = some J → Oracle.C17.expected v = some e → Reads J e)
    (PL := fun xs => ∀ es vs, noRawL xs = true → encL xs = some es → Oracle.C17.expectedL xs = some vs →
      Forall₂ Reads es vs)
    (PM := fun kvs => ∀ ps qs, noRawM kvs = true → encM kvs = some ps → Oracle.C17.expectedM kvs = some qs →
      Forall₂ ReadsKV ps qs)
  · intro J e _ h he; cases h; cases he
    exact .intro ⟨110, _, rfl, rfl⟩ fun f rest _ _ => by simp [litNull, parseValue, litRest, List.isPrefixOf]
  · intro b J e _ h he; cases h; cases he
    cases b
    · exact .intro ⟨102, _, rfl, rfl⟩ fun f rest _ _ => by simp [litFalse, parseValue, litRest, List.isPrefixOf]
    · exact .intro ⟨116, _, rfl, rfl⟩ fun f rest _ _ => by simp [litTrue, parseValue, litRest, List.isPrefixOf]
  · intro l J e _ h he
    cases h
    simp only [Oracle.C17.expected] at he
    split at he <;> cases he
    exact reads_num _ ‹_›
  · intro s J e _ h he; cases h; cases he; exact reads_str s
  · intro xs ih J e hn h he
    obtain ⟨es, hes, rfl⟩ := Option.map_eq_some_iff.1 h
    obtain ⟨vs, hvs, rfl⟩ := Option.map_eq_some_iff.1 he
    exact reads_arr (ih es vs (by simpa [noRaw] using hn) hes hvs)
  · intro m kvs ih J e hn h he
    obtain ⟨ps, hps, rfl⟩ := Option.map_eq_some_iff.1 h
    obtain ⟨qs, hqs, rfl⟩ := Option.map_eq_some_iff.1 he
    have hz := ih ps qs (by simpa [noRaw] using hn) hps hqs
    cases m
    · exact reads_obj hz
    · simp only [if_true, sortByKey_eq]
      exact reads_obj (forall₂_sortKV (fun _ _ h => h.1) hz)
  · intro b J e hn; simp [noRaw] at hn
  · intro s J e _ h he; cases h; cases he; exact reads_str s
  · intro J e _ h; cases h
  · intro es vs _ h he; cases h; cases he; exact .nil
  · intro x t ihx iht es vs hn h he
    simp only [noRawL, Bool.and_eq_true] at hn
    simp only [encL] at h
    simp only [Oracle.C17.expectedL] at he
    split at h <;> cases h
    split at he <;> cases he
    exact .cons (ihx _ _ hn.1 ‹_› ‹_›) (iht _ _ hn.2 ‹_› ‹_›)
  · intro ps qs _ h he; cases h; cases he; exact .nil
  · intro k x t ihx iht ps qs hn h he
    simp only [noRawM, Bool.and_eq_true] at hn
    simp only [encM] at h
    simp only [Oracle.C17.expectedM] at he
    split at h <;> cases h
    split at he <;> cases he
    exact .cons ⟨rfl, ihx _ _ hn.1 ‹_› ‹_›⟩ (iht _ _ hn.2 ‹_› ‹_›)

theorem decode_of_reads (J : Bytes) (e : JsonValue) (h : Reads J e) : decode J = some e := by
  obtain ⟨hp, c, t, rfl, hv⟩ := h
  unfold decode decodeWith
  rw [skipWs_starts ⟨c, t, rfl, hv⟩]
  have := hp ((c :: t).length + 1) [] (by omega) rfl
  simp only [List.append_nil] at this
  rw [this]
  rfl

end SafeHtml.Model.GoJson
