/-
Byte-level matching lemmas for the shapes that occur in the repo's patterns: a concatenation of
single classes (literals, case-insensitive literals), and `C+D` with `D` disjoint from `C`.
-/
import SafeHtml.Proofs.RxAscii
import SafeHtml.Spec.TruUrl
namespace SafeHtml
namespace Rx

def clsSeq : Re → Option (List (List (Nat × Nat)))
  | .cls rs => some [rs]
  | .eps => some []
  | .cat a b =>
    match clsSeq a, clsSeq b with
    | some x, some y => some (x ++ y)
    | _, _ => none
  | _ => none

def matchSeq : List (List (Nat × Nat)) → Bytes → Bool
  | [], _ => true
  | _ :: _, [] => false
  | rs :: cs, b :: t => inCls rs b && matchSeq cs t

theorem matchSeq_length_le (x : List (List (Nat × Nat))) (s : Bytes) (h : matchSeq x s = true) :
    x.length ≤ s.length := by
  induction x generalizing s with
  | nil => simp
  | cons r x ih =>
    cases s with
    | nil => simp [matchSeq] at h
    | cons b t =>
      simp only [matchSeq, Bool.and_eq_true] at h
      have := ih t h.2
      simp only [List.length_cons]; omega

theorem matchSeq_append (x y : List (List (Nat × Nat))) (s : Bytes) :
    matchSeq (x ++ y) s = (matchSeq x s && matchSeq y (s.drop x.length)) := by
  induction x generalizing s with
  | nil => simp [matchSeq]
  | cons r x ih =>
    cases s with
    | nil => simp [matchSeq]
    | cons b t =>
      simp only [List.cons_append, matchSeq, List.length_cons, List.drop_succ_cons, ih, Bool.and_assoc]

theorem lensB_clsSeq (r : Re) (cs : List (List (Nat × Nat))) (h : clsSeq r = some cs) (s : Bytes) :
    lensB r s = if matchSeq cs s then [cs.length] else [] := by
  induction r generalizing cs s with
  | eps =>
    simp only [clsSeq, Option.some.injEq] at h; subst h
    simp [lensB, matchSeq]
  | cls rs =>
    simp only [clsSeq, Option.some.injEq] at h; subst h
    cases s with
    | nil => simp [lensB, matchSeq]
    | cons c t => simp [lensB, matchSeq]
  | cat a b iha ihb =>
    simp only [clsSeq] at h
    cases ha : clsSeq a with
    | none => simp [ha] at h
    | some x =>
      cases hb : clsSeq b with
      | none => simp [ha, hb] at h
      | some y =>
        simp only [ha, hb, Option.some.injEq] at h; subst h
        simp only [lensB]
        rw [iha x ha s, matchSeq_append]
        by_cases h1 : matchSeq x s = true
        · simp only [h1, if_true, List.flatMap_cons, List.flatMap_nil, List.append_nil, Bool.true_and]
          rw [ihb y hb]
          split <;> simp
        · simp [h1]
  | alt a b _ _ => simp [clsSeq] at h
  | star a g _ => simp [clsSeq] at h
  | bot => simp [clsSeq] at h
  | eot => simp [clsSeq] at h
  | cap _ _ _ => simp [clsSeq] at h

/-- the class the translator prints for a literal byte under ASCII case-insensitivity -/
def ciCls (l : Nat) : List (Nat × Nat) := if isLowerAlpha l then [(l - 32, l - 32), (l, l)] else [(l, l)]

theorem inCls_ciCls (l c : Nat) (hl : isUpperAlpha l = false) :
    inCls (ciCls l) c = (asciiLower c == l) := by
  unfold ciCls asciiLower isLowerAlpha
  simp only [isUpperAlpha] at hl ⊢
  rw [Bool.eq_iff_iff]
  by_cases h1 : (decide (97 ≤ l) && decide (l ≤ 122)) = true <;>
    by_cases h2 : (decide (65 ≤ c) && decide (c ≤ 90)) = true <;>
    simp only [h1, h2, if_true] <;> simp [inCls] at * <;> omega

theorem matchSeq_ciCls (lit : Bytes) (hl : ∀ l ∈ lit, isUpperAlpha l = false) (s : Bytes) :
    matchSeq (lit.map ciCls) s = Spec.TruUrl.ciPrefix lit s := by
  induction lit generalizing s with
  | nil => simp [matchSeq, Spec.TruUrl.ciPrefix]
  | cons l ls ih =>
    cases s with
    | nil => simp [matchSeq, Spec.TruUrl.ciPrefix]
    | cons c t =>
      simp only [List.map_cons, matchSeq, Spec.TruUrl.ciPrefix]
      rw [inCls_ciCls l c (hl l (by simp)), ih (fun x hx => hl x (by simp [hx]))]

theorem matchSeq_exact (lit : Bytes) (s : Bytes) :
    matchSeq (lit.map fun l => [(l, l)]) s = lit.isPrefixOf s := by
  induction lit generalizing s with
  | nil => simp [matchSeq]
  | cons l ls ih =>
    cases s with
    | nil => simp [matchSeq]
    | cons c t =>
      simp only [List.map_cons, matchSeq, List.isPrefixOf]
      rw [cls_lit, ih, Bool.beq_comm]

def headIn (rs : List (Nat × Nat)) : Bytes → Bool
  | [] => false
  | b :: _ => inCls rs b

theorem lensB_cls_eq (D : List (Nat × Nat)) (u : Bytes) :
    lensB (.cls D) u = if headIn D u then [1] else [] := by
  cases u with
  | nil => simp [lensB, headIn]
  | cons b u => by_cases h : inCls D b = true <;> simp [lensB, headIn, h]

theorem headIn_drop_of_lt_spanB (C : List (Nat × Nat)) (t : Bytes) (m : Nat) (h : m < spanB C t) :
    headIn C (t.drop m) = true := by
  induction t generalizing m with
  | nil => simp [spanB] at h
  | cons c t ih =>
    simp only [spanB] at h
    split at h
    · rename_i hc
      cases m with
      | zero => simpa [headIn] using hc
      | succ m => simp only [List.drop_succ_cons]; exact ih m (by omega)
    · omega

theorem headIn_disjoint (C D : List (Nat × Nat)) (hd : ∀ b, inCls D b = true → inCls C b = false)
    (u : Bytes) (h : headIn C u = true) : headIn D u = false := by
  cases u with
  | nil => rfl
  | cons b u =>
    simp only [headIn] at h ⊢
    cases hD : inCls D b with
    | false => rfl
    | true => rw [hd b hD] at h; exact absurd h (by simp)

theorem lensB_plus_then (C D : List (Nat × Nat)) (hd : ∀ b, inCls D b = true → inCls C b = false) (t : Bytes) :
    lensB (.cat (Re.plus (.cls C) true) (.cls D)) t =
      if 1 ≤ spanB C t && headIn D (t.drop (spanB C t)) then [spanB C t + 1] else [] := by
  cases t with
  | nil => simp [Re.plus, lensB, spanB]
  | cons c t' =>
    simp only [Re.plus, lensB, spanB]
    by_cases hc : inCls C c = true
    · simp only [hc, if_true, List.flatMap_cons, List.flatMap_nil, List.append_nil,
        List.drop_succ_cons, List.drop_zero]
      rw [List.range_succ, List.reverse_append]
      simp only [List.reverse_cons, List.reverse_nil, List.nil_append, List.singleton_append,
        List.map_cons, List.flatMap_cons, lensB_cls_eq]
      have h2 : List.flatMap (fun n => List.map (fun x => n + x)
            (if headIn D (List.drop n (c :: t')) = true then [1] else []))
          (List.map (fun x => 1 + x) (List.range (spanB C t')).reverse) = [] := by
        rw [List.flatMap_eq_nil_iff]
        intro n hn
        simp only [List.mem_map, List.mem_reverse, List.mem_range] at hn
        obtain ⟨m, hm, rfl⟩ := hn
        rw [Nat.add_comm 1 m, List.drop_succ_cons,
          headIn_disjoint C D hd _ (headIn_drop_of_lt_spanB C t' m hm)]
        simp
      rw [h2, Nat.add_comm 1 (spanB C t'), List.drop_succ_cons]
      by_cases h3 : headIn D (List.drop (spanB C t') t') = true <;> simp [h3]
    · simp [hc]

theorem spanB_eq_takeWhile (rs : List (Nat × Nat)) (t : Bytes) :
    spanB rs t = (t.takeWhile (inCls rs)).length := by
  induction t with
  | nil => simp [spanB]
  | cons c t ih =>
    simp only [spanB, List.takeWhile_cons]
    split <;> simp [ih]

theorem lensB_cat_single (a b : Re) (s : Bytes) (c : Bool) (n : Nat)
    (h : lensB a s = if c then [n] else []) :
    lensB (.cat a b) s = if c then (lensB b (s.drop n)).map (n + ·) else [] := by
  simp only [lensB]
  rw [h]
  cases c <;> simp

end Rx
end SafeHtml
