/-
The template-level statement of C03 for straight-line templates, in three parts, numbered as in the rest of the file:
(1) outside the context its type contract covers a safe-typed value is treated exactly like the plain string with the
same contents; (2) the context in which it is emitted unchanged is the one the tokenizer is in; (3) attribute values
are always escaped. `analyse` / `exec` (`Layer3E2E`) and `Rel` (`Layer3`) are combined with `Props/C03` (`C03_chain`,
`C03_attr_escaped`, `allowedFn`) and with an engine-only invariant `Inv` of the contexts that holds along an accepted
template (`analyse_inv`). Not covered: values `.ptr (.safe τ b)` in (1) (`C03_bypass_ptr` covers the type-aware
functions only); unquoted attribute values (the engine rejects actions there); branches / template calls.
-/
import SafeHtml.Proofs.Layer3E2E
import SafeHtml.Proofs.Analysis
import SafeHtml.Props.C03
set_option linter.unusedSimpArgs false
namespace SafeHtml.Proofs.Layer3Typed
open SafeHtml SafeHtml.Model SafeHtml.Model.Tmpl SafeHtml.Spec SafeHtml.Spec.HtmlTok SafeHtml.Generated.Policy
open SafeHtml.Props.C02 (Untrusted)
open SafeHtml.Props.C03
open SafeHtml.Proofs.HtmlTokSim
open SafeHtml.Proofs.Layer3 SafeHtml.Proofs.Layer3E2E

/-! ### the chains the analysis chooses -/

theorem sanitizerName_reserved (sc : SC) : sc.sanitizerName = "" ∨ sc.sanitizerName ∈ reservedFns := by
  cases sc <;> simp [SC.sanitizerName, reservedFns]

theorem chain_first (v : Validators) (c : Ctx) (ch : List String) (h : sanitizerForContext v c = some ch) :
    ∃ f fs, ch = f :: fs ∧ f ∈ reservedFns := by
  rcases sanitizerForContext_cases h with ⟨_, rfl⟩ | ⟨_, _, rfl⟩ | ⟨_, _, hattr⟩ | ⟨_, _, _, s, _, rfl, hs⟩
  · exact ⟨_, _, rfl, by simp [fnHTMLComment, reservedFns]⟩
  · exact ⟨_, _, rfl, by simp [fnHTML, reservedFns]⟩
  · obtain ⟨sc0, f, fs, _, rfl, hf⟩ := attr_chain_head v c ch hattr
    refine ⟨f, fs, rfl, ?_⟩
    rcases hf with ⟨rfl, hne⟩ | hf
    · exact (sanitizerName_reserved sc0).resolve_left hne
    · exact hf.1
  · refine ⟨s, [], rfl, ?_⟩
    rcases hs with rfl | rfl | rfl | rfl <;> simp [reservedFns]

/-! ### (1) a typed value outside its own context is treated like the plain string -/

/-- does the first function of the chain pass values of type `τ` through unchanged? -/
def firstAllows (ch : List String) (τ : SafeT) : Bool :=
  match ch with
  | f :: _ => (allowedFn f).contains τ
  | [] => false

/-- at one action position: if the chain chosen for the context does not start with a function whose contract covers
    `τ`, the typed value and the plain string with the same contents give the same result (same bytes or same error) -/
theorem C03_action_typed_vs_plain (v : Validators) (c : Ctx) (ch : List String) (τ : SafeT) (b : Bytes)
    (h : sanitizerForContext v c = some ch) (hn : firstAllows ch τ = false) :
    runChain ch (.safe τ b) = runChain ch (.str b) := by
  obtain ⟨f, fs, rfl, hf⟩ := chain_first v c ch h
  rw [C03_chain f fs hf τ b]
  simp only [firstAllows] at hn
  rw [if_neg (by rw [hn]; simp)]

/-- if the contract of the chain's first function covers `τ`, the value passes that function unchanged (the rest of
    the chain still runs) -/
theorem C03_action_typed_own (v : Validators) (c : Ctx) (ch : List String) (τ : SafeT) (b : Bytes)
    (h : sanitizerForContext v c = some ch) (hn : firstAllows ch τ = true) :
    runChain ch (.safe τ b) = runChain ch.tail (.str b) := by
  obtain ⟨f, fs, rfl, hf⟩ := chain_first v c ch h
  rw [C03_chain f fs hf τ b]
  simp only [firstAllows] at hn
  rw [if_pos hn]
  rfl

/-- the chains of the actions of an analysed template, in order -/
def chainsOf : List EPiece → List (List String)
  | [] => []
  | .text _ :: es => chainsOf es
  | .action ch :: es => ch :: chainsOf es

theorem analyse_chains {v : Validators} {ps : List Piece} {c cf : Ctx} {es : List EPiece}
    (h : analyse v c ps = some (cf, es)) {ch : List String} (hch : ch ∈ chainsOf es) :
    ∃ c', sanitizerForContext v c' = some ch := by
  induction ps generalizing c es with
  | nil => cases h; cases hch
  | cons p ps ih =>
    cases p with
    | text s =>
      obtain ⟨c', _, es', _, _, hrec, rfl⟩ := analyse_text h
      exact ih hrec hch
    | action =>
      obtain ⟨c', ch', es', hact, hrec, rfl⟩ := analyse_action h
      rcases List.mem_cons.1 hch with rfl | hch
      · exact ⟨c', actionStep_chain v c c' _ hact⟩
      · exact ih hrec hch

/-- (1), per position: in an accepted straight-line template, at the `i`-th action: if the chain chosen for its
    context does not start with a function whose contract covers `τ`, a value of type `τ` is treated exactly like
    the plain string with the same contents. -/
theorem C03_straight_line_typed_vs_plain (v : Validators) (ps : List Piece) (c cf : Ctx) (es : List EPiece)
    (ha : analyse v c ps = some (cf, es)) (i : Nat) (ch : List String) (hi : (chainsOf es)[i]? = some ch)
    (τ : SafeT) (b : Bytes) (hn : firstAllows ch τ = false) :
    runChain ch (.safe τ b) = runChain ch (.str b) := by
  obtain ⟨c', hc⟩ := analyse_chains ha (List.mem_of_getElem? hi)
  exact C03_action_typed_vs_plain v c' ch τ b hc hn

theorem exec_congr {es : List EPiece} {vs ws : List Value} (hl : vs.length = ws.length)
    (h : ∀ (i : Nat) (ch : List String) (x y : Value), (chainsOf es)[i]? = some ch → vs[i]? = some x →
      ws[i]? = some y → runChain ch x = runChain ch y) :
    exec es vs = exec es ws := by
  induction es generalizing vs ws with
  | nil => cases vs <;> cases ws <;> first | rfl | cases hl
  | cons e es ih =>
    cases e with
    | text o => simp only [exec]; rw [ih hl h]
    | action ch =>
      cases vs <;> cases ws <;> first | rfl | cases hl | skip
      next x vs y ws =>
      simp only [exec]
      rw [h 0 ch x y rfl rfl rfl, ih (Nat.succ.inj hl) fun i ch' x' y' h1 h2 h3 => h (i + 1) ch' x' y' h1 h2 h3]

/-- (1), whole outputs: two value lists that agree position-wise except that at some positions one has a typed
    value and the other the plain string with the same contents: if at every such position the chain does not start
    with a function whose contract covers the type, the two executions give the same result. -/
theorem C03_straight_line_typed_vs_plain_outputs (v : Validators) (ps : List Piece) (c cf : Ctx) (es : List EPiece)
    (ha : analyse v c ps = some (cf, es)) (vs ws : List Value) (hl : vs.length = ws.length)
    (hd : ∀ (i : Nat) (x y : Value), vs[i]? = some x → ws[i]? = some y →
      x = y ∨ ∃ τ b, x = .safe τ b ∧ y = .str b ∧ ∀ ch, (chainsOf es)[i]? = some ch → firstAllows ch τ = false) :
    exec es vs = exec es ws := by
  refine exec_congr hl (fun i ch x y h1 h2 h3 => ?_)
  rcases hd i x y h2 h3 with rfl | ⟨τ, b, rfl, rfl, hn⟩
  · rfl
  · exact C03_straight_line_typed_vs_plain v ps c cf es ha i ch h1 τ b (hn ch h1)

/-! ### an invariant of the engine's contexts along a straight-line template -/

/-- no conditional names (they only arise from `join`); outside a tag no attribute name is recorded; at and after an
    attribute name, up to the end of the value, the recorded attribute name is not empty -/
def Inv (c : Ctx) : Prop :=
  c.elemNames = [] ∧ c.attrNames = [] ∧
  ((c.state = .text ∨ c.state = .specialBody ∨ c.state = .htmlCmt) → c.attrName = []) ∧
  ((c.state = .attrName ∨ c.state = .afterName ∨ c.state = .beforeValue ∨ c.state = .attr) → c.attrName ≠ [])

theorem Inv_empty : Inv {} := ⟨rfl, rfl, fun _ => rfl, fun h => by simp at h⟩

/-! ### the invariant is preserved by `escapeText` and by an action -/

theorem Inv_closed : Analysis.TextClosed Inv where
  err := fun _ => ⟨rfl, rfl, fun h => by simp [Ctx.errorCtx] at h, fun h => by simp [Ctx.errorCtx] at h⟩
  step := by
    intro c c' h hc
    -- every step but `attrStart` builds the new context from fields of `c` and constants, in a state that decides
    -- both implications of `Inv`; `attrStart` records a name of `n ≠ 0` bytes
    cases h <;> try (simp_all [Inv]; done)
    case tagEnd st _ hst => rcases hst with rfl | ⟨rfl, _⟩ <;> simp_all [Inv]
    case tagEndVoid st _ hst => rcases hst with rfl | rfl <;> simp_all [Inv]
    case attrStart st r n _ hst hn hn0 =>
      refine ⟨hc.1, rfl, fun h => ?_, fun _ => goToLower_ne_nil _ ?_⟩
      · rcases hst with rfl | rfl <;> simp at h
      · cases r with
        | nil => exact absurd (Option.some.inj hn).symm hn0
        | cons x r' =>
          cases n with
          | zero => exact absurd rfl hn0
          | succ k => simp

theorem scan_inv (c c' : Ctx) (s out : Bytes) (hc : Inv c) (h : scan c s = some (c', out)) : Inv c' := by
  unfold scan at h
  split at h
  · next c'' hr => cases h; exact Analysis.escapeText_closed Inv_closed hr hc
  · next c'' b hr => cases h; exact Analysis.escapeText_closed Inv_closed hr hc
  · cases h

theorem actionStep_inv (v : Validators) (c c' : Ctx) (ch : List String) (hc : Inv c)
    (h : actionStep v c = some (c', ch)) : Inv c' := by
  rcases actionStep_cases v c c' ch h with ⟨rfl, _⟩ | ⟨hs, rfl⟩
  · exact hc
  · exact ⟨hc.1, hc.2.1, fun h' => by simp at h', fun _ => hc.2.2.2 (Or.inr (Or.inr (Or.inl hs)))⟩

/-! ### (3) what an accepted action emits for ARBITRARY values -/

/-- the value carries (through any number of pointers) a safe type that the first function of the chain passes
    through unchanged -/
def PassesTyped (ch : List String) (x : Value) : Prop :=
  ∃ τ b, x.indirect = .safe τ b ∧ firstAllows ch τ = true

theorem not_passes_of_untrusted (ch : List String) (x : Value) (h : Untrusted x) : ¬ PassesTyped ch x :=
  fun ⟨τ, b, hi, _⟩ => h τ b hi

/-- every accepted action emits inert text, whatever the value, unless the value carries a safe type that the
    first function of the chain passes through; inside a quoted attribute value even then -/
theorem ctx_chain_esc_gen {v : Validators} {c : Ctx} {ch : List String} {val : Value} {d : Bytes}
    (h : sanitizerForContext v c = some ch) (hattr : c.state = .attr → c.attrName ≠ [])
    (hv : c.state = .attr ∨ ¬ PassesTyped ch val) (hrun : runChain ch val = .ok (.str d)) : Esc d = true :=
  esc_of_str ((chain_esc_or h hrun).resolve_right fun ⟨hna, τ, b, f, fs, hi, hch, hc⟩ => by
    subst hch
    rcases hv with hv | hv
    · exact hattr hv (hna hv)
    · exact hv ⟨τ, b, hi, hc⟩)

/-! ### (3) C01 for straight-line templates with arbitrary values at attribute positions -/

/-- the condition on the values: at a quoted-attribute position any value at all; at every other position any value
    that does not carry a safe type which the first function of the position's chain passes through (HTML in element
    content, Script in a script body, StyleSheet in a style body) -/
def ValsOK (v : Validators) : Ctx → List Piece → List Value → Prop
  | _, [], _ => True
  | c, .text s :: ps, vs => ValsOK v (scanD c s).1 ps vs
  | _, .action :: _, [] => True
  | c, .action :: ps, x :: vs =>
    match actionStep v c with
    | some (c', ch) => (c'.state = .attr ∨ ¬ PassesTyped ch x) ∧ ValsOK v c' ps vs
    | none => True

theorem ValsOK_of_untrusted (v : Validators) : ∀ (ps : List Piece) (c : Ctx) (vs : List Value),
    (∀ x ∈ vs, Untrusted x) → ValsOK v c ps vs
  | [], _, _, _ => trivial
  | .text s :: ps, c, vs, h => ValsOK_of_untrusted v ps _ vs h
  | .action :: ps, c, [], _ => trivial
  | .action :: ps, c, x :: vs, h => by
    simp only [ValsOK]
    split
    · exact ⟨Or.inr (not_passes_of_untrusted _ x (h x (by simp))),
        ValsOK_of_untrusted v ps _ vs (fun y hy => h y (by simp [hy]))⟩
    · trivial

theorem analyse_inv {v : Validators} {ps : List Piece} {c cf : Ctx} {es : List EPiece} (hinv : Inv c)
    (han : analyse v c ps = some (cf, es)) : Inv cf ∧ ∀ vs, ValsOK v c ps vs → EscOut es vs := by
  induction ps generalizing c es with
  | nil => cases han; exact ⟨hinv, fun _ _ => trivial⟩
  | cons p ps ih =>
    cases p with
    | text s =>
      obtain ⟨c1, out, es', hsc, _, hrec, rfl⟩ := analyse_text han
      refine (ih (scan_inv c c1 s out hinv hsc) hrec).imp_right fun h vs hv => h vs ?_
      simpa only [ValsOK, scanD_of_scan hsc] using hv
    | action =>
      obtain ⟨c', ch, es', hact, hrec, rfl⟩ := analyse_action han
      have hinv' := actionStep_inv v c c' ch hinv hact
      refine (ih hinv' hrec).imp_right fun h vs hv => ?_
      cases vs with
      | nil => trivial
      | cons x vs =>
        simp only [ValsOK, hact] at hv
        exact ⟨fun d hd => ctx_chain_esc_gen (actionStep_chain v c c' ch hact)
          (fun hs => hinv'.2.2.2 (Or.inr (Or.inr (Or.inr hs)))) hv.1 hd, h vs hv.2⟩

/-- C01 for straight-line templates with arbitrary values at attribute positions: as `C01_straight_line`, but
    the values need not be untrusted: at quoted-attribute positions they are arbitrary (typed or not); elsewhere they
    are arbitrary except for values of the position's own type (`ValsOK`). -/
theorem C01_straight_line_typed (v : Validators) (ps : List Piece) (cf : Ctx) (es : List EPiece)
    (vs ws : List Value) (o1 o2 : Bytes)
    (hs : SimpleAll v {} ps) (ha : analyse v {} ps = some (cf, es))
    (hu : ValsOK v {} ps vs) (hw : ValsOK v {} ps ws)
    (h1 : exec es vs = some o1) (h2 : exec es ws = some o2) :
    skeleton (HtmlTok.tokenize o1).tokens = skeleton (HtmlTok.tokenize o2).tokens ∧
    (HtmlTok.tokenize o1).final = (HtmlTok.tokenize o2).final ∧
    (cf.state = .text → (HtmlTok.tokenize o1).final = .data ∧ (HtmlTok.tokenize o2).final = .data) := by
  obtain ⟨hr1, hr2, hsim⟩ := straight_line_sim rel_init rel_init (Sim.refl _) hs ha
    ((analyse_inv Inv_empty ha).2 vs hu) ((analyse_inv Inv_empty ha).2 ws hw) h1 h2
  exact C01_of_sim hr1 hr2 hsim

/-! ### (2) the context for which the engine lets a typed value through is the context the tokenizer is in -/

def styleName : Bytes := [115, 116, 121, 108, 101]

/-- the facts used about the generated table `elementContent`: exactly the special elements have a content other
    than HTML; Script content is the content of `script`, StyleSheet content the content of `style` -/
theorem content_table : elementContent.all (fun r =>
    ((r.2.2 == .HTML) == !memKey specialElements r.2.1) && (r.2.2 != .Script || r.2.1 == scriptName) &&
      (r.2.2 != .StyleSheet || r.2.1 == styleName)) = true := by decide +kernel

/-- (2), at one action position: `c` is the engine's context at an accepted action, `ch` its chain, `t` the
    tokenizer state on the output emitted so far (`Rel c t`). If the first function of the chain passes the safe type
    `τ` through, then one of four cases holds; in each the tokenizer is in the state that belongs to the context. -/
theorem own_context_local (v : Validators) (c : Ctx) (ch : List String) (t : T) (hr : Rel c t) (hinv : Inv c)
    (hst : ActionState c.state) (hch : sanitizerForContext v c = some ch) (τ : SafeT) (hτ : firstAllows ch τ = true) :
    -- element content of an element that is not script/style/textarea/title: HTML, the tokenizer is in the data state
    (c.state = .text ∧ τ = .HTML ∧ ch = ["_sanitizeHTML"] ∧ t.st = .data) ∨
    -- the body of `script`: Script, the tokenizer is in the script data state of a `script` start tag
    (c.state = .specialBody ∧ τ = .Script ∧ ch = ["_sanitizeScript"] ∧ c.elemName = scriptName ∧
      t.lastStart = scriptName ∧ t.st = .script) ∨
    -- the body of `style`: StyleSheet, the tokenizer is in the RAWTEXT state of a `style` start tag
    (c.state = .specialBody ∧ τ = .StyleSheet ∧ ch = ["_sanitizeStyleSheet"] ∧ c.elemName = styleName ∧
      t.lastStart = styleName ∧ t.st = .rawtext) ∨
    -- a quoted attribute value: the first function is the sanitizer of the sanitization context of (element,
    -- attribute, link rel), these being the tokenizer's current tag name and attribute name; the tokenizer is in
    -- the attribute value state of the engine's quote
    (c.state = .attr ∧ c.attrName ≠ [] ∧ t.an.reverse = c.attrName ∧
      (if c.elemName = [] then t.isEnd = true else t.isEnd = false ∧ t.name.reverse = c.elemName) ∧
      ((c.delim = .dq ∧ t.st = .attrValueDq) ∨ (c.delim = .sq ∧ t.st = .attrValueSq)) ∧
      ∃ sc0 fs, sanitizationContextForAttrVal c.elemName c.attrName c.linkRel = some sc0 ∧
        ch = sc0.sanitizerName :: fs ∧ τ ∈ allowedFn sc0.sanitizerName) := by
  obtain ⟨hen, han, hout, hin⟩ := hinv
  rcases sanitizerForContext_cases hch with ⟨_, rfl⟩ | ⟨hs, _, rfl⟩ | ⟨hn, _, hattr⟩ | ⟨ha0, _, hcmt, s, hsan, rfl, _⟩
  · -- comment: no type passes
    simp [firstAllows, fnHTMLComment, allowedFn] at hτ
  · -- top-level text
    simp only [Rel, hs] at hr
    simp [firstAllows, fnHTML, allowedFn] at hτ
    exact Or.inl ⟨hs, hτ, rfl, hr.2.2⟩
  · -- quoted attribute value
    have hane : c.attrName ≠ [] := hn.resolve_right (fun h => h han)
    have hs : c.state = .attr := by
      rcases hst with h | h | h | h
      · exact absurd (hout (.inl h)) hane
      · exact absurd (hout (.inr (.inl h))) hane
      · exact absurd (hout (.inr (.inr h))) hane
      · exact h
    simp only [Rel, hs] at hr
    obtain ⟨sc0, f, fs, hsc, rfl, hf⟩ := attr_chain_head v c _ hattr
    rw [attrSC_single hen han] at hsc
    refine Or.inr (Or.inr (Or.inr ⟨hs, hane, hr.2.1, hr.1.2, hr.2.2, sc0, fs, hsc, ?_⟩))
    rcases hf with ⟨rfl, _⟩ | hf
    · exact ⟨rfl, by simpa [firstAllows] using hτ⟩
    · simp [firstAllows, hf.2] at hτ
  · -- element content
    obtain ⟨e, he, hcs⟩ := content_sanitizer c s hsan
    cases he hen
    have hsc : ∃ sc, s = sc.sanitizerName ∧ contentSC sc = true ∧
        ((sc == .HTML) = !memKey specialElements c.elemName ∧ (¬sc = .Script ∨ c.elemName = scriptName)) ∧
        (¬sc = .StyleSheet ∨ c.elemName = styleName) := by
      rcases hcs with ⟨he, rfl⟩ | ⟨sc, hl, rfl⟩
      · exact ⟨.HTML, rfl, rfl, ⟨by simp [he, memKey, specialElements], Or.inl nofun⟩, Or.inl nofun⟩
      · obtain ⟨r, hrm, hr1, hr2⟩ := lookupSC_mem _ _ _ hl
        have h1 := List.all_eq_true.1 content_table r hrm
        rw [hr1, hr2] at h1
        exact ⟨sc, rfl, content_sc _ sc hl, by simpa using h1⟩
    obtain ⟨sc, rfl, hc, ⟨hhtml, hscript⟩, hstyle⟩ := hsc
    rcases hst with hs | hs | hs | hs
    · simp only [Rel, hs] at hr
      rw [hr.2.1] at hhtml
      cases beq_iff_eq.1 hhtml
      simp [firstAllows, SC.sanitizerName, allowedFn] at hτ
      exact Or.inl ⟨hs, hτ, rfl, hr.2.2⟩
    · simp only [Rel, hs] at hr
      rw [hr.2.1] at hhtml
      cases sc <;> simp [contentSC] at hc hhtml
      · simp [firstAllows, SC.sanitizerName, allowedFn] at hτ
      · simp [firstAllows, SC.sanitizerName, allowedFn] at hτ
        have h2 := hscript.resolve_left (by simp)
        exact Or.inr (Or.inl ⟨hs, hτ, rfl, h2, by rw [hr.2.2.1, h2], by rw [hr.2.2.2, h2]; decide⟩)
      · simp [firstAllows, SC.sanitizerName, allowedFn] at hτ
        have h3 := hstyle.resolve_left (by simp)
        exact Or.inr (Or.inr (Or.inl ⟨hs, hτ, rfl, h3, by rw [hr.2.2.1, h3], by rw [hr.2.2.2, h3]; decide⟩))
    · exact absurd hs hcmt
    · exact absurd ha0 (hin (Or.inr (Or.inr (Or.inr hs))))

/-! ### (2) at a position of a straight-line template -/

theorem analyse_split {v : Validators} {pre q : List Piece} {c cf : Ctx} {es : List EPiece}
    (h : analyse v c (pre ++ q) = some (cf, es)) (hs : SimpleAll v c (pre ++ q)) :
    ∃ c1 e1 e2, analyse v c pre = some (c1, e1) ∧ analyse v c1 q = some (cf, e2) ∧ es = e1 ++ e2 ∧
      SimpleAll v c pre ∧ SimpleAll v c1 q := by
  induction pre generalizing c es with
  | nil => exact ⟨c, [], es, rfl, h, rfl, trivial, hs⟩
  | cons p pre ih =>
    cases p with
    | text s =>
      obtain ⟨c', out, ex, hsc, hne, hrec, rfl⟩ := analyse_text h
      simp only [List.cons_append, SimpleAll, scanD_of_scan hsc] at hs ⊢
      obtain ⟨c1, e1, e2, h1, h2, rfl, s1, s2⟩ := ih hrec hs.2
      exact ⟨c1, .text out :: e1, e2, by simp [analyse, hsc, hne, h1], h2, rfl, ⟨hs.1, s1⟩, s2⟩
    | action =>
      obtain ⟨c', ch, ex, hact, hrec, rfl⟩ := analyse_action h
      simp only [List.cons_append, SimpleAll, hact] at hs ⊢
      obtain ⟨c1, e1, e2, h1, h2, rfl, s1, s2⟩ := ih hrec hs.2
      exact ⟨c1, .action ch :: e1, e2, by simp [analyse, hact, h1], h2, rfl, ⟨hs.1, s1⟩, s2⟩

/-- (2), template level: for an accepted straight-line template `pre ++ {{action}} ++ post`: let `c` be the
    context the analysis reaches after `pre`, `ch` the chain it chooses for the action, and `o` the output of any
    execution of `pre` (values as in `ValsOK`). Then the tokenizer state `run {} o` on the output emitted so far is
    `Rel`-related to `c`, and whenever the first function of `ch` passes a safe type `τ` through, the tokenizer is in
    the state belonging to that type's context (the four cases of `own_context_local`). -/
theorem C03_straight_line_own_context (v : Validators) (pre post : List Piece) (cf : Ctx) (es : List EPiece)
    (hs : SimpleAll v {} (pre ++ .action :: post)) (ha : analyse v {} (pre ++ .action :: post) = some (cf, es)) :
    ∃ c ch esPre esPost, analyse v {} pre = some (c, esPre) ∧ actionStep v c = some (c, ch) ∧
      analyse v c post = some (cf, esPost) ∧ es = esPre ++ .action ch :: esPost ∧
      ∀ (vs : List Value) (o : Bytes), ValsOK v {} pre vs → exec esPre vs = some o →
        Rel c (run {} o) ∧
        ∀ τ, firstAllows ch τ = true →
          (c.state = .text ∧ τ = .HTML ∧ ch = ["_sanitizeHTML"] ∧ (run {} o).st = .data) ∨
          (c.state = .specialBody ∧ τ = .Script ∧ ch = ["_sanitizeScript"] ∧ c.elemName = scriptName ∧
            (run {} o).lastStart = scriptName ∧ (run {} o).st = .script) ∨
          (c.state = .specialBody ∧ τ = .StyleSheet ∧ ch = ["_sanitizeStyleSheet"] ∧ c.elemName = styleName ∧
            (run {} o).lastStart = styleName ∧ (run {} o).st = .rawtext) ∨
          (c.state = .attr ∧ c.attrName ≠ [] ∧ (run {} o).an.reverse = c.attrName ∧
            (if c.elemName = [] then (run {} o).isEnd = true
              else (run {} o).isEnd = false ∧ (run {} o).name.reverse = c.elemName) ∧
            ((c.delim = .dq ∧ (run {} o).st = .attrValueDq) ∨ (c.delim = .sq ∧ (run {} o).st = .attrValueSq)) ∧
            ∃ sc0 fs, sanitizationContextForAttrVal c.elemName c.attrName c.linkRel = some sc0 ∧
              ch = sc0.sanitizerName :: fs ∧ τ ∈ allowedFn sc0.sanitizerName) := by
  obtain ⟨c, esPre, e2, hpre, hrest, rfl, spre, srest⟩ := analyse_split ha hs
  obtain ⟨c', ch, ex, hact, hrec, rfl⟩ := analyse_action hrest
  simp only [SimpleAll, hact] at srest
  obtain ⟨rfl, hst, hch⟩ := actionStep_same v c c' ch srest.1 hact
  refine ⟨c', ch, esPre, ex, hpre, hact, hrec, rfl, fun vs o hv he => ?_⟩
  -- any execution of the prefix keeps the correspondence
  obtain ⟨hinv, hesc⟩ := analyse_inv Inv_empty hpre
  have hr := (straight_line_sim rel_init rel_init (Sim.refl _) spre hpre (hesc vs hv) (hesc vs hv) he he).1
  exact ⟨hr, fun τ hτ => own_context_local v c' ch (run {} o) hr hinv hst hch τ hτ⟩

/-! ### non-vacuity: `<p title="{{.}}">{{.}}</p>` (`exTemplate` of `Layer3E2E`) -/

/-- (1) a URL-typed value is treated like the plain string at both positions; an HTML-typed value at the attribute
    position -/
example (τ : SafeT) (hτ : τ ≠ .HTML) (b1 b2 : Bytes) :
    exec exOut [.safe .HTML b1, .safe τ b2] = exec exOut [.str b1, .str b2] := by
  refine C03_straight_line_typed_vs_plain_outputs v0 exTemplate {} {} exOut ex_analyse _ _ rfl ?_
  intro i x y hx hy
  match i with
  | 0 =>
    simp at hx hy; subst hx hy
    exact Or.inr ⟨_, _, rfl, rfl, fun ch hch => by simp [exOut, chainsOf] at hch; subst hch; decide⟩
  | 1 =>
    simp at hx hy; subst hx hy
    refine Or.inr ⟨_, _, rfl, rfl, fun ch hch => ?_⟩
    simp [exOut, chainsOf] at hch; subst hch
    cases τ <;> simp [firstAllows, allowedFn] at hτ ⊢
  | n + 2 => simp at hx

/-- (3) the attribute value is arbitrary (typed or not), the element content untrusted -/
example (x y x' y' : Value) (hy : Untrusted y) (hy' : Untrusted y') (o1 o2 : Bytes)
    (h1 : exec exOut [x, y] = some o1) (h2 : exec exOut [x', y'] = some o2) :
    skeleton (HtmlTok.tokenize o1).tokens = skeleton (HtmlTok.tokenize o2).tokens ∧
    (HtmlTok.tokenize o1).final = .data ∧ (HtmlTok.tokenize o2).final = .data := by
  have hv : ∀ x y, Untrusted y → ValsOK v0 {} exTemplate [x, y] := by
    intro x y hy
    simp only [exTemplate, ValsOK, ex_scan0, ex_act0, ex_scan1, ex_act1]
    exact ⟨Or.inl rfl, Or.inr (not_passes_of_untrusted _ y hy), trivial⟩
  have := C01_straight_line_typed v0 exTemplate {} exOut _ _ o1 o2 ex_simpleAll ex_analyse (hv x y hy) (hv x' y' hy')
    h1 h2
  exact ⟨this.1, this.2.2 rfl⟩

/-- (2) at the second action (element content of `p`): the chain passes exactly HTML through, and the tokenizer is
    in the data state after whatever the first part emitted -/
example (x : Value) (o : Bytes) (h : exec [.text t0, .action ["_evalArgs", "_sanitizeHTML"], .text t1] [x] = some o) :
    (run {} o).st = .data := by
  obtain ⟨c, ch, esPre, esPost, hpre, hact, hpost, hes, hall⟩ :=
    C03_straight_line_own_context v0 [.text t0, .action, .text t1] [.text t2] {} exOut ex_simpleAll ex_analyse
  have hp : analyse v0 {} [.text t0, .action, .text t1] =
      some (cText, [.text t0, .action ["_evalArgs", "_sanitizeHTML"], .text t1]) := by decide +kernel
  cases hp.symm.trans hpre
  cases ex_act1.symm.trans hact
  have hv : ValsOK v0 {} [.text t0, .action, .text t1] [x] := by
    simp only [ValsOK, ex_scan0, ex_act0, ex_scan1]
    exact ⟨Or.inl rfl, trivial⟩
  obtain ⟨_, hown⟩ := hall [x] o hv h
  rcases hown .HTML (by decide) with h | h | h | h
  · exact h.2.2.2
  · exact absurd h.1 (by decide)
  · exact absurd h.1 (by decide)
  · exact absurd h.1 (by decide)

/-! ### non-vacuity: `<a href="{{.}}">x</a>` — a URL-typed value passes, in the `href` value of an `a` tag -/

def aO : Bytes := [60, 97, 32, 104, 114, 101, 102, 61, 34]       -- `<a href="`
def aC : Bytes := [34, 62, 120, 60, 47, 97, 62]                  -- `">x</a>`
example : B "<a href=\"" = aO ∧ B "\">x</a>" = aC := by decide +kernel

def exHref : List Piece := [.text aO, .action, .text aC]
def cHref : Ctx := { state := .attr, delim := .dq, elemName := [97], attrName := [104, 114, 101, 102] }
def exHrefOut : List EPiece := [.text aO, .action ["_sanitizeTrustedResourceURLOrURL", "_normalizeURL", "_sanitizeHTML"], .text aC]

theorem exHref_analyse : analyse v0 {} exHref = some ({}, exHrefOut) := by decide +kernel
theorem exHref_scan0 : scanD {} aO = (cHref, aO) := by decide +kernel
theorem exHref_act : actionStep v0 cHref = some (cHref, ["_sanitizeTrustedResourceURLOrURL", "_normalizeURL", "_sanitizeHTML"]) := by
  decide +kernel
theorem exHref_scan1 : scanD cHref aC = ({}, aC) := by decide +kernel

theorem exHref_simple1 : Simple false [97] .attr .dq aC aC .text :=
  Simple.closeQ _ .dq [] _ _ (Or.inl rfl) (by decide)
    (Simple.tagEnd _ [] [] _ _ (by decide) (fun h => absurd h (by decide))
      (Simple.closeTag _ [120] 97 [] _ _ (by decide) (by decide) (by decide)
        (Simple.tagEnd _ [] [] [] [] (by decide) (fun h => absurd h (by decide)) (Simple.nil _ _ _))))

theorem exHref_simpleAll : SimpleAll v0 {} exHref := by
  simp only [exHref, SimpleAll, exHref_scan0, exHref_act, exHref_scan1]
  -- `aO` is `Layer3.exHref` byte for byte, so its derivation `ex_a_href` serves
  refine ⟨⟨false, aO, .attr, ex_a_href false, fun h => absurd h (by decide), fun h => by simp at h⟩, ?_, ?_⟩
  · intro h; cases h
  · exact ⟨⟨false, aC, .text, exHref_simple1, fun h => absurd h (by decide), fun h => by simp at h⟩, trivial⟩

/-- (2) the action of `<a href="{{.}}">`: the chain starts with `_sanitizeTrustedResourceURLOrURL`, which passes URL- and TrustedResourceURL-typed values; the
    tokenizer is inside a double-quoted attribute value, the current attribute is `href`, the current tag a start tag
    `a`; and `TrustedResourceURLOrURL` is the sanitization context of (`a`, `href`) -/
example : (run {} aO).st = .attrValueDq ∧ (run {} aO).an.reverse = [104, 114, 101, 102] ∧
    (run {} aO).isEnd = false ∧ (run {} aO).name.reverse = [97] ∧
    sanitizationContextForAttrVal [97] [104, 114, 101, 102] [] = some .TrustedResourceURLOrURL := by
  obtain ⟨c, ch, esPre, esPost, hpre, hact, hpost, hes, hall⟩ :=
    C03_straight_line_own_context v0 [.text aO] [.text aC] {} exHrefOut exHref_simpleAll exHref_analyse
  have hp : analyse v0 {} [.text aO] = some (cHref, [.text aO]) := by decide +kernel
  cases hp.symm.trans hpre
  cases exHref_act.symm.trans hact
  obtain ⟨_, hown⟩ := hall [] aO (by simp [ValsOK]) (by simp [exec])
  rcases hown .URL (by decide) with h | h | h | h
  · exact absurd h.1 (by decide)
  · exact absurd h.1 (by decide)
  · exact absurd h.1 (by decide)
  · obtain ⟨_, _, han, htag, hq, _⟩ := h
    have hq' := hq.resolve_right fun h => absurd h.1 (by decide)
    have htag' : (run {} aO).isEnd = false ∧ (run {} aO).name.reverse = [97] := by simpa [cHref] using htag
    exact ⟨hq'.2, han, htag'.1, htag'.2, by decide +kernel⟩

/-- (1)+(2) at that position a URL-typed value skips `_sanitizeTrustedResourceURLOrURL` (but is still normalized and HTML-escaped), while
    an HTML-typed value is sanitized like the plain string -/
example (b : Bytes) :
    runChain ["_sanitizeTrustedResourceURLOrURL", "_normalizeURL", "_sanitizeHTML"] (.safe .URL b) =
      runChain ["_normalizeURL", "_sanitizeHTML"] (.str b) ∧
    runChain ["_sanitizeTrustedResourceURLOrURL", "_normalizeURL", "_sanitizeHTML"] (.safe .HTML b) =
      runChain ["_sanitizeTrustedResourceURLOrURL", "_normalizeURL", "_sanitizeHTML"] (.str b) :=
  ⟨C03_action_typed_own v0 cHref _ .URL b (actionStep_chain v0 cHref cHref _ exHref_act) (by decide),
   C03_action_typed_vs_plain v0 cHref _ .HTML b (actionStep_chain v0 cHref cHref _ exHref_act) (by decide)⟩

end SafeHtml.Proofs.Layer3Typed
