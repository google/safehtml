/-
What every proof about the template analysis (the model of `escaper` in /repo/template/escape.go) needs, each proved
once: association lists; the loop of `escapeText` with its invariant principle; equations, `.ok` inversions and fuel
induction for the six mutually recursive escaper functions; predicates on contexts closed under the transition
functions and `join`; Hoare rules (`Sat`, `*_sat`) for the escaper component of a result.
-/
import SafeHtml.Model.Tmpl.Escaper
namespace SafeHtml.Proofs.Analysis
open SafeHtml SafeHtml.Model.Tmpl

/-! ### association lists -/

theorem alookup_nil {β} (k : String) : alookup ([] : List (String × β)) k = none := rfl

theorem alookup_cons {β} (p : String × β) (t : List (String × β)) (k : String) :
    alookup (p :: t) k = if p.1 = k then some p.2 else alookup t k := by
  unfold alookup
  by_cases h : p.1 = k
  · simp [h]
  · have : (p.1 == k) = false := by simp [h]
    simp [this, h]

theorem alookup_append {β} (l m : List (String × β)) (k : String) :
    alookup (l ++ m) k = (alookup l k).or (alookup m k) := by
  induction l with
  | nil => rfl
  | cons p t ih =>
    rw [List.cons_append, alookup_cons, alookup_cons]
    split
    · rfl
    · exact ih

theorem alookup_eq_none {β} {l : List (String × β)} {k : String} :
    alookup l k = none ↔ ∀ p ∈ l, p.1 ≠ k := by
  induction l with
  | nil => exact ⟨fun _ _ h => (nomatch h), fun _ => rfl⟩
  | cons p t ih =>
    rw [alookup_cons, List.forall_mem_cons]
    by_cases hp : p.1 = k
    · simp [hp]
    · rw [if_neg hp, ih]; exact ⟨fun h => ⟨hp, h⟩, fun h => h.2⟩

theorem mem_of_alookup {β} (l : List (String × β)) (k : String) (v : β) (h : alookup l k = some v) :
    (k, v) ∈ l := by
  induction l with
  | nil => cases h
  | cons p t ih =>
    rw [alookup_cons] at h
    split at h
    · rename_i hp
      cases h
      rw [← hp]; exact List.mem_cons_self ..
    · exact List.mem_cons_of_mem _ (ih h)

theorem alookup_isSome_of_mem {β} (l : List (String × β)) (p : String × β) (h : p ∈ l) :
    (alookup l p.1).isSome = true := by
  cases hl : alookup l p.1 with
  | some _ => rfl
  | none => exact absurd rfl (alookup_eq_none.mp hl p h)

/-- the update function of `aset` / `TextSet.set` -/
def upd {β} (k : String) (v : β) (p : String × β) : String × β := if p.1 == k then (k, v) else p

theorem upd_same {β} (k : String) (v : β) (p : String × β) (h : p.1 = k) : upd k v p = (k, v) := by
  simp [upd, h]
theorem upd_other {β} (k : String) (v : β) (p : String × β) (h : ¬ p.1 = k) : upd k v p = p := by
  simp [upd, h]

theorem aset_eq {β} (l : List (String × β)) (k : String) (v : β) :
    aset l k v = if l.any (fun p => p.1 == k) then l.map (upd k v) else l ++ [(k, v)] := rfl

theorem any_key_eq_false {β} {l : List (String × β)} {k : String} :
    (l.any fun p => p.1 == k) = false ↔ alookup l k = none := by
  rw [alookup_eq_none, List.any_eq_false]
  exact ⟨fun h p hp => by simpa using h p hp, fun h p hp => by simpa using h p hp⟩

theorem alookup_map_upd {β} (l : List (String × β)) (k : String) (v : β) (k' : String) :
    alookup (l.map (upd k v)) k' = if k' = k then (alookup l k).map fun _ => v else alookup l k' := by
  induction l with
  | nil => simp [alookup_nil]
  | cons p t ih =>
    rw [List.map_cons, alookup_cons, alookup_cons, alookup_cons, ih]
    by_cases hp : p.1 = k
    · rw [upd_same k v p hp]
      by_cases hk : k' = k
      · simp [hk, hp]
      · have h1 : ¬ k = k' := fun h => hk h.symm
        have h2 : ¬ p.1 = k' := fun h => h1 (hp ▸ h)
        simp [hk, h1, h2]
    · rw [upd_other k v p hp]
      by_cases hk : k' = k
      · have h2 : ¬ p.1 = k' := fun h => hp (h.trans hk)
        simp [hk, hp]
      · simp [hk]

theorem alookup_aset {β} (l : List (String × β)) (k : String) (v : β) (k' : String) :
    alookup (aset l k v) k' = if k' = k then some v else alookup l k' := by
  rw [aset_eq]
  cases hl : alookup l k with
  | none =>
    rw [if_neg (by rw [any_key_eq_false.mpr hl]; simp), alookup_append]
    by_cases h : k' = k
    · subst h; simp [hl, alookup_cons]
    · have h1 : ¬ k = k' := fun h' => h h'.symm
      simp [h, h1, alookup_cons, alookup_nil]
  | some w =>
    have hany : (l.any fun p => p.1 == k) = true := by
      cases ha : l.any fun p => p.1 == k with
      | true => rfl
      | false => rw [any_key_eq_false.mp ha] at hl; cases hl
    rw [if_pos hany, alookup_map_upd, hl]; rfl

theorem mem_aset_cases {β} {l : List (String × β)} {k : String} {v : β} {p : String × β}
    (h : p ∈ aset l k v) : (p ∈ l ∧ p.1 ≠ k) ∨ p = (k, v) := by
  rw [aset_eq] at h
  split at h
  · rw [List.mem_map] at h
    obtain ⟨q, hq, rfl⟩ := h
    by_cases hq1 : q.1 = k
    · exact .inr (upd_same k v q hq1)
    · rw [upd_other k v q hq1]; exact .inl ⟨hq, hq1⟩
  · rename_i hany
    rw [List.mem_append] at h
    rcases h with h | h
    · exact .inl ⟨h, alookup_eq_none.mp (any_key_eq_false.mp ((Bool.not_eq_true _).mp hany)) p h⟩
    · exact .inr (by simpa using h)

theorem mem_aset {β} (l : List (String × β)) (k : String) (v : β) (p : String × β)
    (h : p ∈ aset l k v) : p ∈ l ∨ p = (k, v) :=
  (mem_aset_cases h).imp_left (·.1)

theorem isSome_aset {β} (l : List (String × β)) (k : String) (v : β) (n : String)
    (h : (alookup l n).isSome = true) : (alookup (aset l k v) n).isSome = true := by
  rw [alookup_aset]; split
  · rfl
  · exact h

theorem forall_mem_aset {β} {P : String × β → Prop} {l : List (String × β)} {k : String} {v : β}
    (hl : ∀ p ∈ l, P p) (hv : P (k, v)) : ∀ p ∈ aset l k v, P p := fun p hp =>
  (mem_aset l k v p hp).elim (hl p) (· ▸ hv)

theorem forall_mem_snoc {α} {Q : α → Prop} {l : List α} {a : α} (hl : ∀ p ∈ l, Q p) (ha : Q a) :
    ∀ p ∈ l ++ [a], Q p := by
  intro p hp
  rcases List.mem_append.mp hp with h | h
  · exact hl p h
  · rw [List.mem_singleton.mp h]; exact ha

theorem forall_mem_append {α} {Q : α → Prop} {l m : List α} (hl : ∀ p ∈ l, Q p) (hm : ∀ p ∈ m, Q p) :
    ∀ p ∈ l ++ m, Q p :=
  fun p hp => (List.mem_append.mp hp).elim (hl p) (hm p)

theorem lookup_eq_alookup (ts : TextSet) (n : String) : ts.lookup n = alookup ts n := by
  unfold TextSet.lookup alookup; cases List.find? (fun p => p.1 == n) ts <;> rfl
theorem set_eq_aset (ts : TextSet) (n : String) (t : Option Tree) : ts.set n t = aset ts n t := rfl

theorem lookup_set (ts : TextSet) (n : String) (t : Option Tree) (m : String) :
    (ts.set n t).lookup m = if m = n then some t else ts.lookup m := by
  rw [lookup_eq_alookup, set_eq_aset, alookup_aset, lookup_eq_alookup]

/-! #### `l.foldl (fun a p => aset a p.1 p.2) base`: `base` overwritten by `l`, later entries winning -/

theorem alookup_foldl_aset {β} (l : List (String × β)) : ∀ (base : List (String × β)) (n : String),
    alookup (l.foldl (fun a p => aset a p.1 p.2) base) n = (alookup l.reverse n).or (alookup base n) := by
  induction l with
  | nil => intro base n; rfl
  | cons q t ih =>
    intro base n
    rw [List.foldl_cons, ih, alookup_aset, List.reverse_cons, alookup_append, alookup_cons, alookup_nil]
    by_cases h : n = q.1
    · cases alookup t.reverse n <;> simp [h]
    · have h' : ¬ q.1 = n := fun e => h e.symm
      cases alookup t.reverse n <;> simp [h, h']

theorem mem_foldl_aset {β} (l : List (String × β)) : ∀ (base : List (String × β)) (p : String × β),
    p ∈ l.foldl (fun a p => aset a p.1 p.2) base → p ∈ base ∨ p ∈ l := by
  induction l with
  | nil => intro base p h; exact .inl h
  | cons q t ih =>
    intro base p h
    rcases ih _ p h with h1 | h1
    · rcases mem_aset base q.1 q.2 p h1 with h2 | h2
      · exact .inl h2
      · exact .inr (h2 ▸ List.mem_cons_self ..)
    · exact .inr (List.mem_cons_of_mem _ h1)

theorem isSome_foldl_aset {β} (l base : List (String × β)) (n : String)
    (h : (alookup base n).isSome = true) : (alookup (l.foldl (fun a p => aset a p.1 p.2) base) n).isSome = true := by
  rw [alookup_foldl_aset]; cases alookup l.reverse n
  · exact h
  · rfl

theorem alookup_foldl_aset_other {β} (l : List (String × β)) (n : String) (base : List (String × β))
    (h : ∀ p ∈ l, p.1 ≠ n) : alookup (l.foldl (fun a p => aset a p.1 p.2) base) n = alookup base n := by
  rw [alookup_foldl_aset, alookup_eq_none.mpr fun p hp => h p (List.mem_reverse.mp hp)]; rfl

theorem forall_mem_foldl_aset {β} {P : String × β → Prop} {l base : List (String × β)}
    (hb : ∀ p ∈ base, P p) (hl : ∀ p ∈ l, P p) : ∀ p ∈ l.foldl (fun a p => aset a p.1 p.2) base, P p :=
  fun p hp => (mem_foldl_aset l base p hp).elim (hb p) (hl p)

/-! ### the `Out` monad -/

theorem bind_ok {α β} {x : Out α} {f : α → Out β} {r : β} (h : (x >>= f) = .ok r) :
    ∃ a, x = .ok a ∧ f a = .ok r := by
  cases x with
  | ok a => exact ⟨a, rfl, h⟩
  | panic w => cases h
  | fuel => cases h

theorem bind_panic {α β} {x : Out α} {f : α → Out β} {m : String} (h : (x >>= f) = .panic m) :
    x = .panic m ∨ ∃ a, x = .ok a ∧ f a = .panic m := by
  cases x with
  | ok a => exact .inr ⟨a, rfl, h⟩
  | panic w => cases h; exact .inl rfl
  | fuel => cases h

theorem bind_fuel {α β} {x : Out α} {f : α → Out β} (h : (x >>= f) = .fuel) :
    x = .fuel ∨ ∃ a, x = .ok a ∧ f a = .fuel := by
  cases x with
  | ok a => exact .inr ⟨a, rfl, h⟩
  | panic w => cases h
  | fuel => exact .inl rfl

theorem foldlM_ok_ind {α β} {f : β → α → Out β} {P : β → Prop} (l : List α) : ∀ b b', l.foldlM f b = .ok b' → P b →
    (∀ a ∈ l, ∀ x y, f x a = .ok y → P x → P y) → P b' := by
  induction l with
  | nil => intro b b' h hb _; cases h; exact hb
  | cons a t ih =>
    intro b b' h hb hstep
    rw [List.foldlM_cons] at h
    obtain ⟨b1, h1, h2⟩ := bind_ok h
    exact ih b1 b' h2 (hstep a (List.mem_cons_self ..) b b1 h1 hb) (fun a' ha' => hstep a' (List.mem_cons_of_mem _ ha'))

theorem bind_ne_fuel {α β} {x : Out α} {g : α → Out β} (hx : x ≠ .fuel) (hg : ∀ a, g a ≠ .fuel) :
    (x >>= g) ≠ .fuel := by
  cases x with
  | ok a => exact hg a
  | panic m => exact fun h => nomatch h
  | fuel => exact absurd rfl hx

def Sat {α} (Q : α → Prop) (B : String → Prop) : Out α → Prop
  | .ok a => Q a
  | .panic m => B m
  | .fuel => True

theorem Sat.bind {α β} {Q : α → Prop} {R : β → Prop} {B : String → Prop} {x : Out α} {f : α → Out β}
    (hx : Sat Q B x) (hf : ∀ a, Q a → Sat R B (f a)) : Sat R B (x >>= f) := by
  cases x with
  | ok a => exact hf a hx
  | panic m => exact hx
  | fuel => trivial

theorem Sat.mono {α} {Q Q' : α → Prop} {B B' : String → Prop} {x : Out α} (h : Sat Q B x)
    (hq : ∀ a, Q a → Q' a) (hb : ∀ m, B m → B' m) : Sat Q' B' x := by
  cases x with
  | ok a => exact hq a h
  | panic m => exact hb m h
  | fuel => trivial

theorem Sat.of_ok {α} {Q : α → Prop} {B : String → Prop} {x : Out α} {a : α} (h : Sat Q B x) (hx : x = .ok a) :
    Q a := by subst hx; exact h
theorem Sat.of_panic {α} {Q : α → Prop} {B : String → Prop} {x : Out α} {m : String} (h : Sat Q B x)
    (hx : x = .panic m) : B m := by subst hx; exact h

/-! ### `escapeTextLoop` -/

/-- the state with which the loop body of `escapeTextLoop` re-enters the loop -/
def etNext (s : Bytes) (st : ETState) : ETState :=
  let c := st.c
  let c1 := (contextAfterText c (s.drop st.i)).1
  let i1 := st.i + (contextAfterText c (s.drop st.i)).2
  let bw : Bytes × Nat :=
    if c.state == .text || lookupSC Generated.Policy.elementContent c.elemName == some .RCDATA then
      ltLoop s (s.length + 1) st.i (if c1.state != c.state then lastLt s st.i i1 else i1) st.b st.written
    else if isComment c.state && c.delim == .none then (st.b, i1)
    else (st.b, st.written)
  let bw : Bytes × Nat :=
    if c.state != c1.state && isComment c1.state && c1.delim == .none then
      (bw.1 ++ (s.take (if c1.state == .htmlCmt then i1 - 4 else i1 - 2)).drop bw.2, i1)
    else bw
  { c := c1, i := i1, written := bw.2, b := bw.1 }

theorem etNext_c (s : Bytes) (st : ETState) : (etNext s st).c = (contextAfterText st.c (s.drop st.i)).1 := rfl
theorem etNext_i (s : Bytes) (st : ETState) :
    (etNext s st).i = st.i + (contextAfterText st.c (s.drop st.i)).2 := rfl

theorem escapeTextLoop_succ (csp : Bool) (s : Bytes) (f : Nat) (st : ETState) :
    escapeTextLoop csp s (f + 1) st =
      if st.i == s.length then .inl (some st)
      else if csp && onPrefix.isPrefixOf st.c.attrName then .inr (.done (Ctx.errorCtx .cspCompatibility) none)
      else if st.c.state == .specialBody && st.c.elemName == scriptName && !isJsTemplateBalanced s then
        .inr (.done (Ctx.errorCtx .unbalancedJsTemplate) none)
      else if st.i == (etNext s st).i && st.c.state == (etNext s st).c.state then .inr .panic
      else escapeTextLoop csp s f (etNext s st) := rfl

/-- what `escapeTextLoop_inv` says of a result of the loop -/
def LoopSat (P : Ctx → Prop) : Option ETState ⊕ ETResult → Prop
  | .inl (some st) => P st.c
  | .inr (.done c _) => P c
  | _ => True

theorem escapeTextLoop_inv (P : Ctx → Prop) (herr : ∀ code, P (Ctx.errorCtx code))
    (hstep : ∀ c s, P c → P (contextAfterText c s).1) (csp : Bool) (s : Bytes) :
    ∀ f st, P st.c → LoopSat P (escapeTextLoop csp s f st) := by
  intro f
  induction f with
  | zero => intro st _; trivial
  | succ f ih =>
    intro st hst
    rw [escapeTextLoop_succ]
    split
    · exact hst
    · split
      · exact herr _
      · split
        · exact herr _
        · split
          · trivial
          · exact ih _ (hstep _ _ hst)

theorem escapeText_inv (P : Ctx → Prop) (herr : ∀ code, P (Ctx.errorCtx code))
    (hstep : ∀ c s, P c → P (contextAfterText c s).1) {csp : Bool} {c : Ctx} {s : Bytes} {c' : Ctx}
    {nt : Option Bytes} (h : escapeText csp c s = .done c' nt) (hc : P c) : P c' := by
  unfold escapeText at h
  split at h
  · cases h; exact herr _
  · have hp := escapeTextLoop_inv P herr hstep csp s (2 * s.length + 2) { c := c, i := 0, written := 0, b := [] } hc
    split at h
    · rename_i heq; rw [heq] at hp; subst h; exact hp
    · cases h
    · rename_i heq; rw [heq] at hp
      split at h <;> (cases h; exact hp)

/-! ### leaf operations -/

theorem editAction_cases (e : Esc) (k : EditKey) (v : List String) :
    (e.actionEdits.any (fun p => p.1 == k) = true ∧ e.editAction k v = .panic "node shared between templates") ∨
    (e.actionEdits.any (fun p => p.1 == k) = false ∧
      e.editAction k v = .ok { e with actionEdits := e.actionEdits ++ [(k, v)] }) := by
  unfold Esc.editAction
  cases e.actionEdits.any fun p => p.1 == k
  · exact .inr ⟨rfl, rfl⟩
  · exact .inl ⟨rfl, rfl⟩

theorem editTmpl_cases (e : Esc) (k : EditKey) (v : String) :
    (e.tmplEdits.any (fun p => p.1 == k) = true ∧ e.editTmpl k v = .panic "node shared between templates") ∨
    (e.tmplEdits.any (fun p => p.1 == k) = false ∧
      e.editTmpl k v = .ok { e with tmplEdits := e.tmplEdits ++ [(k, v)] }) := by
  unfold Esc.editTmpl
  cases e.tmplEdits.any fun p => p.1 == k
  · exact .inr ⟨rfl, rfl⟩
  · exact .inl ⟨rfl, rfl⟩

theorem editText_cases (e : Esc) (k : EditKey) (v : Bytes) :
    (e.textEdits.any (fun p => p.1 == k) = true ∧ e.editText k v = .panic "node shared between templates") ∨
    (e.textEdits.any (fun p => p.1 == k) = false ∧
      e.editText k v = .ok { e with textEdits := e.textEdits ++ [(k, v)] }) := by
  unfold Esc.editText
  cases e.textEdits.any fun p => p.1 == k
  · exact .inr ⟨rfl, rfl⟩
  · exact .inl ⟨rfl, rfl⟩

theorem mergeEdits_nil {β} (into : List (EditKey × β)) : mergeEdits into [] = .ok into := rfl

theorem mergeEdits_cons {β} (into : List (EditKey × β)) (p : EditKey × β) (t : List (EditKey × β)) :
    mergeEdits into (p :: t) =
      if into.any (fun q => q.1 == p.1) then .panic "node shared between templates"
      else mergeEdits (into ++ [p]) t := by
  unfold mergeEdits
  rw [List.foldlM_cons]
  split <;> rfl

theorem mergeEdits_cases {β} (from_ : List (EditKey × β)) : ∀ into : List (EditKey × β),
    mergeEdits into from_ = .ok (into ++ from_) ∨ mergeEdits into from_ = .panic "node shared between templates" := by
  induction from_ with
  | nil => intro into; exact .inl (by rw [mergeEdits_nil, List.append_nil])
  | cons p t ih =>
    intro into
    rw [mergeEdits_cons]
    split
    · exact .inr rfl
    · have := ih (into ++ [p])
      rwa [List.append_assoc, List.singleton_append] at this

theorem mergeEdits_ok {β} {into from_ r : List (EditKey × β)} (h : mergeEdits into from_ = .ok r) :
    r = into ++ from_ := by
  rcases mergeEdits_cases from_ into with h1 | h1 <;> rw [h1] at h <;> cases h
  rfl

/-- `nudge` never stays in `tag`, and an update of `state` to the value it has changes nothing: the context in which
    `escapeAction` looks for a sanitizer is `nudge c` -/
theorem actionCtx_eq (c : Ctx) :
    (if (nudge c).state == .attrName || (nudge c).state == .tag then { nudge c with state := .attrName }
      else nudge c) = nudge c := by
  have key : ∀ d : Ctx, d.state = .attrName → { d with state := .attrName } = d := by
    intro d h; cases d; cases h; rfl
  have htag : (nudge c).state ≠ .tag := by
    unfold nudge
    split <;> simp_all
  split
  · rename_i h
    simp only [Bool.or_eq_true, beq_iff_eq] at h
    exact key _ (h.resolve_right htag)
  · rfl

theorem escapeAction_cases (env : Env) (tn : String) (e : Esc) (c : Ctx) (id : Nat) (p : Pipe) :
    (predefinedCheck (nudge c) p.cmds = none ∧
      escapeAction env tn e c id p = .panic "index out of range: command without arguments") ∨
    (∃ c', escapeAction env tn e c id p = .ok (e, c') ∧ (c' = c ∨ c' = nudge c ∨ ∃ code, c' = Ctx.errorCtx code)) ∨
    (∃ s, sanitizerForContext env.v (nudge c) = some s ∧
      escapeAction env tn e c id p = (e.editAction (tn, id) s >>= fun e' => .ok (e', nudge c))) := by
  unfold escapeAction
  simp only [actionCtx_eq]
  split
  · exact .inr (.inl ⟨c, rfl, .inl rfl⟩)
  · split
    · rename_i hn; exact .inl ⟨hn, rfl⟩
    · exact .inr (.inl ⟨_, rfl, .inr (.inr ⟨_, rfl⟩)⟩)
    · split
      · exact .inr (.inl ⟨_, rfl, .inr (.inl rfl)⟩)
      · split
        · exact .inr (.inl ⟨_, rfl, .inr (.inr ⟨_, rfl⟩)⟩)
        · rename_i s hs
          exact .inr (.inr ⟨s, hs, rfl⟩)

theorem escapeAction_error (env : Env) (tn : String) (e : Esc) {c : Ctx} (id : Nat) (p : Pipe)
    (he : c.state = .error) :
    escapeAction env tn e c id p = .panic "index out of range: command without arguments" ∨
    ∃ c', escapeAction env tn e c id p = .ok (e, c') ∧ c'.state = .error := by
  have hn : nudge c = c := by unfold nudge; rw [he]
  unfold escapeAction
  rw [hn]
  split
  · exact .inr ⟨c, rfl, he⟩
  · dsimp only
    split
    · exact .inl rfl
    · exact .inr ⟨_, rfl, rfl⟩
    · rw [if_pos (by rw [he]; rfl)]; exact .inr ⟨c, rfl, he⟩

theorem escapeTextNode_cases (env : Env) (tn : String) (e : Esc) (c : Ctx) (id : Nat) (b : Bytes) :
    (escapeText env.csp c b = .panic ∧ escapeTextNode env tn e c id b = .panic "infinite loop in escapeText") ∨
    (∃ c', escapeText env.csp c b = .done c' none ∧ escapeTextNode env tn e c id b = .ok (e, c')) ∨
    (∃ c' nb, escapeText env.csp c b = .done c' (some nb) ∧
      escapeTextNode env tn e c id b = (e.editText (tn, id) nb >>= fun e' => .ok (e', c'))) := by
  unfold escapeTextNode
  split
  · rename_i h; exact .inl ⟨h, rfl⟩
  · rename_i c' h; exact .inr (.inl ⟨c', h, rfl⟩)
  · rename_i c' nb h; exact .inr (.inr ⟨c', nb, h, rfl⟩)

theorem editAction_ok {e e' : Esc} {k : EditKey} {v : List String} (h : e.editAction k v = .ok e') :
    e' = { e with actionEdits := e.actionEdits ++ [(k, v)] } ∧ e.actionEdits.any (fun p => p.1 == k) = false := by
  rcases editAction_cases e k v with ⟨_, h1⟩ | ⟨hk, h1⟩ <;> rw [h1] at h <;> cases h
  exact ⟨rfl, hk⟩

theorem editTmpl_ok {e e' : Esc} {k : EditKey} {v : String} (h : e.editTmpl k v = .ok e') :
    e' = { e with tmplEdits := e.tmplEdits ++ [(k, v)] } ∧ e.tmplEdits.any (fun p => p.1 == k) = false := by
  rcases editTmpl_cases e k v with ⟨_, h1⟩ | ⟨hk, h1⟩ <;> rw [h1] at h <;> cases h
  exact ⟨rfl, hk⟩

theorem editText_ok {e e' : Esc} {k : EditKey} {v : Bytes} (h : e.editText k v = .ok e') :
    e' = { e with textEdits := e.textEdits ++ [(k, v)] } ∧ e.textEdits.any (fun p => p.1 == k) = false := by
  rcases editText_cases e k v with ⟨_, h1⟩ | ⟨hk, h1⟩ <;> rw [h1] at h <;> cases h
  exact ⟨rfl, hk⟩

theorem escapeAction_ok {env : Env} {tn : String} {e : Esc} {c : Ctx} {id : Nat} {p : Pipe} {r : Esc × Ctx}
    (h : escapeAction env tn e c id p = .ok r) :
    r.1 = e ∨ ∃ s, r.1 = { e with actionEdits := e.actionEdits ++ [((tn, id), s)] } := by
  rcases escapeAction_cases env tn e c id p with ⟨_, h1⟩ | ⟨c', h1, _⟩ | ⟨s, _, h1⟩ <;> rw [h1] at h
  · cases h
  · cases h; exact .inl rfl
  · obtain ⟨e', h2, h3⟩ := bind_ok h
    cases h3
    exact .inr ⟨s, (editAction_ok h2).1⟩

theorem escapeTextNode_ok {env : Env} {tn : String} {e : Esc} {c : Ctx} {id : Nat} {b : Bytes} {r : Esc × Ctx}
    (h : escapeTextNode env tn e c id b = .ok r) :
    r.1 = e ∨ ∃ nb, r.1 = { e with textEdits := e.textEdits ++ [((tn, id), nb)] } := by
  rcases escapeTextNode_cases env tn e c id b with ⟨_, h1⟩ | ⟨c', _, h1⟩ | ⟨c', nb, _, h1⟩ <;> rw [h1] at h
  · cases h
  · cases h; exact .inl rfl
  · obtain ⟨e', h2, h3⟩ := bind_ok h
    cases h3
    exact .inr ⟨nb, (editText_ok h2).1⟩

/-! ### the six mutually recursive functions at fuel `f + 1` -/

theorem escapeNode_zero (env : Env) (tn : String) (e : Esc) (c : Ctx) (n : Node) :
    escapeNode env 0 tn e c n = .fuel := by rw [escapeNode]
theorem escapeList_zero (env : Env) (tn : String) (e : Esc) (c : Ctx) (l : NodeList) :
    escapeList env 0 tn e c l = .fuel := by rw [escapeList]
theorem escapeBranch_zero (env : Env) (tn : String) (e : Esc) (c : Ctx) (t el : NodeList) (b : Bool) :
    escapeBranch env 0 tn e c t el b = .fuel := by rw [escapeBranch]
theorem escapeTree_zero (env : Env) (e : Esc) (c : Ctx) (name : String) :
    escapeTree env 0 e c name = .fuel := by rw [escapeTree]
theorem computeOutCtx_zero (env : Env) (e : Esc) (c : Ctx) (tname : String) (t : Option Tree) :
    computeOutCtx env 0 e c tname t = .fuel := by rw [computeOutCtx]
theorem escapeTemplateBody_zero (env : Env) (e : Esc) (c : Ctx) (tname : String) (t : Option Tree) :
    escapeTemplateBody env 0 e c tname t = .fuel := by rw [escapeTemplateBody]

section
variable (env : Env) (f : Nat) (tn : String) (e : Esc) (c : Ctx)

theorem escapeNode_action (id : Nat) (p : Pipe) :
    escapeNode env (f + 1) tn e c (.action id p) = escapeAction env tn e c id p := by rw [escapeNode]
theorem escapeNode_text (id : Nat) (b : Bytes) :
    escapeNode env (f + 1) tn e c (.text id b) = escapeTextNode env tn e c id b := by rw [escapeNode]
theorem escapeNode_if (id : Nat) (p : Pipe) (t el : NodeList) :
    escapeNode env (f + 1) tn e c (.ifN id p t el) = escapeBranch env f tn e c t el false := by rw [escapeNode]
theorem escapeNode_with (id : Nat) (p : Pipe) (t el : NodeList) :
    escapeNode env (f + 1) tn e c (.withN id p t el) = escapeBranch env f tn e c t el false := by rw [escapeNode]
theorem escapeNode_range (id : Nat) (p : Pipe) (t el : NodeList) :
    escapeNode env (f + 1) tn e c (.rangeN id p t el) = escapeBranch env f tn e c t el true := by rw [escapeNode]
theorem escapeNode_tmpl (id : Nat) (name : String) (p : Option Pipe) :
    escapeNode env (f + 1) tn e c (.tmpl id name p) =
      (escapeTree env f e c name >>= fun r =>
        if r.2.2 != name then r.1.editTmpl (tn, id) r.2.2 >>= fun e' => .ok (e', r.2.1) else .ok (r.1, r.2.1)) := by
  rw [escapeNode]; rfl
theorem escapeNode_brk (id : Nat) :
    escapeNode env (f + 1) tn e c (.brk id) = .ok (e, Ctx.errorCtx .escapeAction) := by rw [escapeNode]
theorem escapeNode_cont (id : Nat) :
    escapeNode env (f + 1) tn e c (.cont id) = .ok (e, Ctx.errorCtx .escapeAction) := by rw [escapeNode]
theorem escapeNode_comment (id : Nat) :
    escapeNode env (f + 1) tn e c (.comment id) = .ok (e, Ctx.errorCtx .escapeAction) := by rw [escapeNode]

theorem escapeList_nil : escapeList env (f + 1) tn e c .nil = .ok (e, c) := by rw [escapeList]
theorem escapeList_cons (n : Node) (ns : NodeList) :
    escapeList env (f + 1) tn e c (.cons n ns) =
      (escapeNode env f tn e c n >>= fun r => escapeList env f tn r.1 r.2 ns) := by
  rw [escapeList]

end

/-- the escaper on which a template body, and the re-entry check of a range, is analysed -/
def scratch (e : Esc) : Esc := { output := e.output, pristine := e.pristine, memoPrefix := e.memoPrefix }

/-- `e.output[k] = v` -/
def setOut (e : Esc) (k : String) (v : Ctx) : Esc := { e with output := aset e.output k v }

/-- `escapeTemplateBody` accepts the body's end context `c1` -/
def bodyOk (tname : String) (c : Ctx) (e1 : Esc) (c1 : Ctx) : Bool :=
  c1.state != .error && (!e1.called.contains tname || c.eq c1)

/-- what `escapeTemplateBody` returns when it accepts the body analysed to `e1`: `e1` merged into `e` -/
def merge (e e1 : Esc) (ae : List (EditKey × List String)) (te : List (EditKey × String))
    (xe : List (EditKey × Bytes)) : Esc :=
  { pristine := e.pristine,
    memoPrefix := e1.memoPrefix.foldl (fun acc p => aset acc p.1 p.2) e.memoPrefix,
    prefixReuse := e.prefixReuse || e1.prefixReuse,
    output := e1.output.foldl (fun acc p => aset acc p.1 p.2) e.output,
    derived := e1.derived.foldl (fun acc p => aset acc p.1 p.2) e.derived,
    called := e1.called.foldl (fun acc n => if acc.contains n then acc else acc ++ [n]) e.called,
    actionEdits := ae, tmplEdits := te, textEdits := xe }

/-- what `escapeTemplateBody` returns when it rejects the body analysed to `e1` -/
def drop (e e1 : Esc) : Esc := { e with prefixReuse := e.prefixReuse || e1.prefixReuse }

/-- `escapeTree` on a context that is no error: the call is recorded -/
def call (e : Esc) (d : String) : Esc :=
  { e with called := if e.called.contains d then e.called else e.called ++ [d] }

/-- `escapeTree` on a memo hit -/
def hit (e : Esc) (c : Ctx) (d : String) : Esc :=
  { call e d with prefixReuse := e.prefixReuse || match alookup e.memoPrefix d with
      | some p => p.1 != c.attrValue || p.2 != c.ambiguous
      | none => false }

/-- `escapeTree` on a memo miss -/
def miss (e : Esc) (c : Ctx) (d : String) : Esc :=
  { call e d with memoPrefix := aset e.memoPrefix d (c.attrValue, c.ambiguous) }

/-- the escaper and the tree with which `escapeTree` calls `computeOutCtx` for template `name` (tree `tr`) in
    context `c`: the template itself, an existing derived template, or a new one copied from the pristine tree -/
def enter (env : Env) (e : Esc) (c : Ctx) (name : String) (tr : Tree) : Esc × Option Tree :=
  if mangle c name != name then
    match (miss e c (mangle c name)).template env (mangle c name) with
    | some dt => (miss e c (mangle c name), dt)
    | none =>
      ({ miss e c (mangle c name) with
          derived := aset e.derived (mangle c name) { (alookup e.pristine name).getD tr with name := mangle c name } },
        some { (alookup e.pristine name).getD tr with name := mangle c name })
  else (miss e c (mangle c name), some tr)

theorem escapeBranch_succ (env : Env) (f : Nat) (tn : String) (e : Esc) (c : Ctx) (t el : NodeList) (b : Bool) :
    escapeBranch env (f + 1) tn e c t el b =
      (escapeList env f tn e c t >>= fun r =>
        (if b && r.2.state != .error then
            escapeList env f tn (scratch r.1) r.2 t >>= fun r1 => .ok (some (join r.2 r1.2))
          else .ok none) >>= fun
          | some j =>
            if j.state == .error then .ok (r.1, j)
            else escapeList env f tn r.1 c el >>= fun r2 => .ok (r2.1, join j r2.2)
          | none => escapeList env f tn r.1 c el >>= fun r2 => .ok (r2.1, join r.2 r2.2)) := by
  rw [escapeBranch]; rfl

theorem escapeTree_succ (env : Env) (f : Nat) (e : Esc) (c : Ctx) (name : String) :
    escapeTree env (f + 1) e c name =
      if c.state == .error then .ok (e, c, name)
      else match alookup e.output (mangle c name) with
        | some out => .ok (hit e c (mangle c name), out, mangle c name)
        | none =>
          match e.template env name with
          | some (some tr) =>
            computeOutCtx env f (enter env e c name tr).1 c (mangle c name) (enter env e c name tr).2 >>= fun r =>
              .ok (r.1, r.2, mangle c name)
          | _ => .ok (miss e c (mangle c name), Ctx.errorCtx .noSuchTemplate, mangle c name) := by
  rw [escapeTree]
  unfold enter hit miss call Esc.template
  dsimp only
  split
  · rfl
  · split
    · rename_i ho; rw [ho]; rfl
    · rename_i ho; rw [ho]; dsimp only
      split
      · rename_i ht; rw [ht]
      · rename_i ht; rw [ht]
      · rename_i ht; rw [ht]; dsimp only
        split
        · split
          · rename_i hdt; rw [hdt]; rfl
          · rename_i hdt; rw [hdt]; rfl
        · rfl

theorem computeOutCtx_succ (env : Env) (f : Nat) (e : Esc) (c : Ctx) (tname : String) (t : Option Tree) :
    computeOutCtx env (f + 1) e c tname t =
      (escapeTemplateBody env f e c tname t >>= fun r1 =>
        if r1.2.2 then .ok (setOut r1.1 tname r1.2.1, r1.2.1)
        else escapeTemplateBody env f r1.1 r1.2.1 tname t >>= fun r2 =>
          if r2.2.2 then .ok (setOut r2.1 tname r2.2.1, r2.2.1)
          else if r1.2.1.state != .error then
            .ok (setOut r2.1 tname (Ctx.errorCtx .outputContext), Ctx.errorCtx .outputContext)
          else .ok (setOut r2.1 tname r1.2.1, r1.2.1)) := by
  rw [computeOutCtx]; rfl

theorem escapeTemplateBody_succ (env : Env) (f : Nat) (e : Esc) (c : Ctx) (tname : String) (t : Option Tree) :
    escapeTemplateBody env (f + 1) e c tname t =
      match t with
      | none => .panic "nil pointer dereference: t.Tree.Root of a nil Tree"
      | some tr =>
        escapeList env f tname (scratch (setOut e tname c)) c tr.root >>= fun r =>
          if bodyOk tname c r.1 r.2 then
            mergeEdits e.actionEdits r.1.actionEdits >>= fun ae =>
            mergeEdits e.tmplEdits r.1.tmplEdits >>= fun te =>
            mergeEdits e.textEdits r.1.textEdits >>= fun xe =>
              .ok (merge (setOut e tname c) r.1 ae te xe, r.2, true)
          else .ok (drop (setOut e tname c) r.1, r.2, false) := by
  cases t <;> simp only [escapeTemplateBody] <;> rfl

theorem enter_cases (env : Env) (e : Esc) (c : Ctx) (name : String) (tr : Tree) :
    (mangle c name = name ∧ enter env e c name tr = (miss e c (mangle c name), some tr)) ∨
    (mangle c name ≠ name ∧ ∃ dt, e.template env (mangle c name) = some dt ∧
      enter env e c name tr = (miss e c (mangle c name), dt)) ∨
    (mangle c name ≠ name ∧ e.template env (mangle c name) = none ∧ ∃ dt : Tree, dt.name = mangle c name ∧
      enter env e c name tr =
        ({ miss e c (mangle c name) with derived := aset e.derived (mangle c name) dt }, some dt)) := by
  unfold enter
  split
  · rename_i h
    have hne : mangle c name ≠ name := by simpa using h
    split
    · rename_i dt hdt; exact .inr (.inl ⟨hne, dt, hdt, rfl⟩)
    · rename_i hdt; exact .inr (.inr ⟨hne, hdt, _, rfl, rfl⟩)
  · rename_i h
    exact .inl ⟨by simpa using h, rfl⟩

section
variable (env : Env) (e : Esc) (c : Ctx) (name : String) (tr : Tree)
theorem enter_output : (enter env e c name tr).1.output = e.output := by
  rcases enter_cases env e c name tr with ⟨_, h⟩ | ⟨_, _, _, h⟩ | ⟨_, _, _, _, h⟩ <;> rw [h] <;> rfl
theorem enter_actionEdits : (enter env e c name tr).1.actionEdits = e.actionEdits := by
  rcases enter_cases env e c name tr with ⟨_, h⟩ | ⟨_, _, _, h⟩ | ⟨_, _, _, _, h⟩ <;> rw [h] <;> rfl
theorem enter_tmplEdits : (enter env e c name tr).1.tmplEdits = e.tmplEdits := by
  rcases enter_cases env e c name tr with ⟨_, h⟩ | ⟨_, _, _, h⟩ | ⟨_, _, _, _, h⟩ <;> rw [h] <;> rfl
theorem enter_textEdits : (enter env e c name tr).1.textEdits = e.textEdits := by
  rcases enter_cases env e c name tr with ⟨_, h⟩ | ⟨_, _, _, h⟩ | ⟨_, _, _, _, h⟩ <;> rw [h] <;> rfl
theorem enter_pristine : (enter env e c name tr).1.pristine = e.pristine := by
  rcases enter_cases env e c name tr with ⟨_, h⟩ | ⟨_, _, _, h⟩ | ⟨_, _, _, _, h⟩ <;> rw [h] <;> rfl
end

theorem mangle_default (name : String) : mangle {} name = name := by unfold mangle; rfl

theorem enter_text (env : Env) (e : Esc) (name : String) (tr : Tree) :
    enter env e {} name tr = (miss e {} name, some tr) := by
  unfold enter
  rw [mangle_default, if_neg (by simp)]

theorem escapeTree_text (env : Env) (f : Nat) (e : Esc) (name : String) (hm : alookup e.output name = none) :
    escapeTree env (f + 1) e {} name =
      match e.template env name with
      | some (some tr) => computeOutCtx env f (miss e {} name) {} name (some tr) >>= fun r => .ok (r.1, r.2, name)
      | _ => .ok (miss e {} name, Ctx.errorCtx .noSuchTemplate, name) := by
  rw [escapeTree_succ, if_neg (by decide)]
  simp only [mangle_default, hm, enter_text]

/-! #### inversion of `.ok` results -/

section
variable {env : Env} {f : Nat} {tn : String} {e : Esc} {c : Ctx}

theorem escapeNode_tmpl_ok {id : Nat} {name : String} {p : Option Pipe} {r : Esc × Ctx}
    (h : escapeNode env (f + 1) tn e c (.tmpl id name p) = .ok r) :
    ∃ e1 d, escapeTree env f e c name = .ok (e1, r.2, d) ∧
      ((d = name ∧ r.1 = e1) ∨ (d ≠ name ∧ e1.editTmpl (tn, id) d = .ok r.1)) := by
  rw [escapeNode_tmpl] at h
  obtain ⟨⟨e1, c1, d⟩, h1, h2⟩ := bind_ok h
  dsimp only at h2
  split at h2
  · rename_i hd
    obtain ⟨e2, h3, h4⟩ := bind_ok h2
    cases h4
    exact ⟨e1, d, h1, .inr ⟨by simpa using hd, h3⟩⟩
  · rename_i hd
    cases h2
    exact ⟨e1, d, h1, .inl ⟨by simpa using hd, rfl⟩⟩

theorem escapeList_cons_ok {n : Node} {ns : NodeList} {r : Esc × Ctx}
    (h : escapeList env (f + 1) tn e c (.cons n ns) = .ok r) :
    ∃ e1 c1, escapeNode env f tn e c n = .ok (e1, c1) ∧ escapeList env f tn e1 c1 ns = .ok r := by
  rw [escapeList_cons] at h
  obtain ⟨⟨e1, c1⟩, h1, h2⟩ := bind_ok h
  exact ⟨e1, c1, h1, h2⟩

/-- the then-list runs from `e`; for a range whose then-list did not fail, it runs again on a scratch escaper and
    the two end contexts are joined to `j`; unless `j` is an error the else-list runs from the then-list's escaper
    (and the context `c` of the whole node) -/
theorem escapeBranch_ok {t el : NodeList} {b : Bool} {r : Esc × Ctx}
    (h : escapeBranch env (f + 1) tn e c t el b = .ok r) :
    ∃ e1 c0, escapeList env f tn e c t = .ok (e1, c0) ∧
      (((b && c0.state != .error) = true ∧ ∃ es c1, escapeList env f tn (scratch e1) c0 t = .ok (es, c1) ∧
          (((join c0 c1).state = .error ∧ r = (e1, join c0 c1)) ∨
           ((join c0 c1).state ≠ .error ∧ ∃ e2 c2, escapeList env f tn e1 c el = .ok (e2, c2) ∧
              r = (e2, join (join c0 c1) c2)))) ∨
       ((b && c0.state != .error) = false ∧ ∃ e2 c2, escapeList env f tn e1 c el = .ok (e2, c2) ∧
          r = (e2, join c0 c2))) := by
  rw [escapeBranch_succ] at h
  obtain ⟨⟨e1, c0⟩, h1, h2⟩ := bind_ok h
  refine ⟨e1, c0, h1, ?_⟩
  obtain ⟨o, h3, h4⟩ := bind_ok h2
  dsimp only at h3 h4
  split at h3
  · rename_i hb
    obtain ⟨⟨es, c1⟩, h5, h6⟩ := bind_ok h3
    cases h6
    refine .inl ⟨hb, es, c1, h5, ?_⟩
    dsimp only at h4
    split at h4
    · rename_i hj; cases h4; exact .inl ⟨by simpa using hj, rfl⟩
    · rename_i hj
      obtain ⟨⟨e2, c2⟩, h7, h8⟩ := bind_ok h4
      cases h8
      exact .inr ⟨by simpa using hj, e2, c2, h7, rfl⟩
  · rename_i hb
    cases h3
    obtain ⟨⟨e2, c2⟩, h7, h8⟩ := bind_ok h4
    cases h8
    exact .inr ⟨by simpa using hb, e2, c2, h7, rfl⟩

theorem escapeTree_ok {name : String} {r : Esc × Ctx × String} (h : escapeTree env (f + 1) e c name = .ok r) :
    (c.state = .error ∧ r = (e, c, name)) ∨
    (c.state ≠ .error ∧ ∃ out, alookup e.output (mangle c name) = some out ∧
      r = (hit e c (mangle c name), out, mangle c name)) ∨
    (c.state ≠ .error ∧ alookup e.output (mangle c name) = none ∧ (∀ tr, e.template env name ≠ some (some tr)) ∧
      r = (miss e c (mangle c name), Ctx.errorCtx .noSuchTemplate, mangle c name)) ∨
    (c.state ≠ .error ∧ alookup e.output (mangle c name) = none ∧ ∃ tr e1 c1,
      e.template env name = some (some tr) ∧
      computeOutCtx env f (enter env e c name tr).1 c (mangle c name) (enter env e c name tr).2 = .ok (e1, c1) ∧
      r = (e1, c1, mangle c name)) := by
  rw [escapeTree_succ] at h
  split at h
  · rename_i hs; cases h; exact .inl ⟨by simpa using hs, rfl⟩
  · rename_i hs
    have hs : c.state ≠ .error := by simpa using hs
    split at h
    · rename_i out ho; cases h; exact .inr (.inl ⟨hs, out, ho, rfl⟩)
    · rename_i ho
      split at h
      · rename_i tr ht
        obtain ⟨⟨e1, c1⟩, h1, h2⟩ := bind_ok h
        cases h2
        exact .inr (.inr (.inr ⟨hs, ho, tr, e1, c1, ht, h1, rfl⟩))
      · rename_i hnt
        cases h
        exact .inr (.inr (.inl ⟨hs, ho, fun tr ht => hnt tr ht, rfl⟩))

theorem computeOutCtx_ok {tname : String} {t : Option Tree} {r : Esc × Ctx}
    (h : computeOutCtx env (f + 1) e c tname t = .ok r) :
    ∃ e1 c1 ok1, escapeTemplateBody env f e c tname t = .ok (e1, c1, ok1) ∧
      ((ok1 = true ∧ r = (setOut e1 tname c1, c1)) ∨
       (ok1 = false ∧ ∃ e2 c2 ok2, escapeTemplateBody env f e1 c1 tname t = .ok (e2, c2, ok2) ∧
          ((ok2 = true ∧ r = (setOut e2 tname c2, c2)) ∨
           (ok2 = false ∧ c1.state ≠ .error ∧
              r = (setOut e2 tname (Ctx.errorCtx .outputContext), Ctx.errorCtx .outputContext)) ∨
           (ok2 = false ∧ c1.state = .error ∧ r = (setOut e2 tname c1, c1))))) := by
  rw [computeOutCtx_succ] at h
  obtain ⟨⟨e1, c1, ok1⟩, h1, h2⟩ := bind_ok h
  refine ⟨e1, c1, ok1, h1, ?_⟩
  dsimp only at h2
  cases ok1 with
  | true => cases h2; exact .inl ⟨rfl, rfl⟩
  | false =>
    obtain ⟨⟨e2, c2, ok2⟩, h3, h4⟩ := bind_ok h2
    refine .inr ⟨rfl, e2, c2, ok2, h3, ?_⟩
    dsimp only at h4
    cases ok2 with
    | true => cases h4; exact .inl ⟨rfl, rfl⟩
    | false =>
      rw [if_neg Bool.false_ne_true] at h4
      split at h4
      · rename_i hc; cases h4; exact .inr (.inl ⟨rfl, by simpa using hc, rfl⟩)
      · rename_i hc; cases h4; exact .inr (.inr ⟨rfl, by simpa using hc, rfl⟩)

/-- the body is analysed on a scratch escaper; when accepted, its results are merged into `e` (the three edit lists
    are appended), when rejected they are dropped -/
theorem escapeTemplateBody_ok {tname : String} {t : Option Tree} {r : Esc × Ctx × Bool}
    (h : escapeTemplateBody env (f + 1) e c tname t = .ok r) :
    ∃ tr e1 c1, t = some tr ∧ escapeList env f tname (scratch (setOut e tname c)) c tr.root = .ok (e1, c1) ∧
      ((bodyOk tname c e1 c1 = true ∧
          mergeEdits e.actionEdits e1.actionEdits = .ok (e.actionEdits ++ e1.actionEdits) ∧
          mergeEdits e.tmplEdits e1.tmplEdits = .ok (e.tmplEdits ++ e1.tmplEdits) ∧
          mergeEdits e.textEdits e1.textEdits = .ok (e.textEdits ++ e1.textEdits) ∧
          r = (merge (setOut e tname c) e1 (e.actionEdits ++ e1.actionEdits) (e.tmplEdits ++ e1.tmplEdits)
                (e.textEdits ++ e1.textEdits), c1, true)) ∨
       (bodyOk tname c e1 c1 = false ∧ r = (drop (setOut e tname c) e1, c1, false))) := by
  rw [escapeTemplateBody_succ] at h
  cases t with
  | none => cases h
  | some tr =>
    obtain ⟨⟨e1, c1⟩, h1, h2⟩ := bind_ok h
    refine ⟨tr, e1, c1, rfl, h1, ?_⟩
    dsimp only at h2
    cases hb : bodyOk tname c e1 c1 with
    | false => rw [hb] at h2; cases h2; exact .inr ⟨rfl, rfl⟩
    | true =>
      rw [hb, if_pos rfl] at h2
      obtain ⟨ae, ha, h3⟩ := bind_ok h2
      obtain ⟨te, ht, h4⟩ := bind_ok h3
      obtain ⟨xe, hx, h5⟩ := bind_ok h4
      cases mergeEdits_ok ha; cases mergeEdits_ok ht; cases mergeEdits_ok hx
      cases h5
      exact .inl ⟨rfl, ha, ht, hx, rfl⟩

end

/-! ### induction on the fuel, for all six functions at once -/

theorem fuel_induction {N L B T O Y : Nat → Prop} (zero : N 0 ∧ L 0 ∧ B 0 ∧ T 0 ∧ O 0 ∧ Y 0)
    (node : ∀ f, B f → T f → N (f + 1)) (list : ∀ f, N f → L f → L (f + 1)) (branch : ∀ f, L f → B (f + 1))
    (tree : ∀ f, O f → T (f + 1)) (out : ∀ f, Y f → O (f + 1)) (body : ∀ f, L f → Y (f + 1)) :
    ∀ f, N f ∧ L f ∧ B f ∧ T f ∧ O f ∧ Y f
  | 0 => zero
  | f + 1 =>
    have ⟨hn, hl, hb, ht, ho, hy⟩ := fuel_induction zero node list branch tree out body f
    ⟨node f hb ht, list f hn hl, branch f hl, tree f ho, out f hy, body f hl⟩

/-! ### predicates on contexts that the analysis preserves -/

/-- the ways in which `transition` and `contextAfterText` change a context (an error context and an unchanged
    context apart) -/
inductive CtxStep : Ctx → Ctx → Prop
  | fresh (c : Ctx) : CtxStep c {}
  | cmt {c : Ctx} : c.state = .text → CtxStep c { state := .htmlCmt }
  | tagOpen {c : Ctx} (nm : Bytes) : c.state = .text → CtxStep c { state := .tag, elemName := nm }
  | tagEnd {c : Ctx} (st : State) : c.state = .tag →
      st = .specialBody ∨ st = .text ∧ memKey Generated.Policy.specialElements c.elemName = false →
      CtxStep c { state := st, elemName := c.elemName, elemNames := c.elemNames, scriptType := c.scriptType,
                  linkRel := c.linkRel }
  | tagEndVoid {c : Ctx} (st : State) : c.state = .tag → st = .specialBody ∨ st = .text → CtxStep c { state := st }
  | attrStart {c : Ctx} (st : State) (r : Bytes) (n : Nat) : c.state = .tag → st = .attrName ∨ st = .afterName →
      eatAttrName r = some n → n ≠ 0 →
      CtxStep c { state := st, elemName := c.elemName, elemNames := c.elemNames, attrName := goToLower (r.take n),
                  linkRel := c.linkRel }
  | afterName {c : Ctx} : c.state = .attrName → CtxStep c { c with state := .afterName }
  | tag {c : Ctx} : c.state = .afterName → CtxStep c { c with state := .tag }
  | beforeValue {c : Ctx} : c.state = .afterName → CtxStep c { c with state := .beforeValue }
  | attr {c : Ctx} (d : Delim) : c.state = .beforeValue → d ≠ .none → CtxStep c { c with state := .attr, delim := d }
  | value {c : Ctx} (s : Bytes) : c.delim ≠ .none → CtxStep c { c with attrValue := c.attrValue ++ s }
  | attrEnd {c : Ctx} (st lr : Bytes) : c.delim ≠ .none → st = c.scriptType ∨ c.elemName = scriptName →
      lr = c.linkRel ∨ c.elemName = linkName →
      CtxStep c { state := .tag, elemName := c.elemName, elemNames := c.elemNames, scriptType := st, linkRel := lr }

/-- closed under everything `escapeText` does to a context -/
structure TextClosed (P : Ctx → Prop) : Prop where
  err : ∀ code, P (Ctx.errorCtx code)
  step : ∀ {c c'}, CtxStep c c' → P c → P c'

theorem tTextGo_cases (c : Ctx) : ∀ f off s, (tTextGo c f off s).1 = c ∨ (tTextGo c f off s).1 = { state := .htmlCmt } ∨
    ∃ nm, (tTextGo c f off s).1 = { state := .tag, elemName := nm } := by
  intro f
  induction f with
  | zero => intro off s; exact .inl rfl
  | succ f ih =>
    intro off s
    generalize hx : tTextGo c (f + 1) off s = x
    unfold tTextGo at hx
    split at hx
    · subst hx; exact .inl rfl
    · rename_i n _
      dsimp only at hx
      split at hx
      · subst hx; exact .inl rfl
      · split at hx
        · subst hx; exact .inr (.inl rfl)
        · cases hE : (List.drop (n + 1) s).head? == some 47 <;> rw [hE] at hx
          · simp only [Bool.false_and, Bool.false_eq_true, if_false] at hx
            split at hx
            · subst hx; exact .inr (.inr ⟨_, rfl⟩)
            · subst hx; exact ih _ _
          · simp only [Bool.true_and, if_true] at hx
            split at hx
            · subst hx; exact .inl rfl
            · split at hx
              · subst hx; exact .inr (.inr ⟨_, rfl⟩)
              · subst hx; exact ih _ _

section
variable {P : Ctx → Prop} (hP : TextClosed P)
include hP

theorem transition_closed (c : Ctx) (s : Bytes) (hc : P c) : P (transition c s).1 := by
  unfold transition
  split
  · rename_i hs
    rcases tTextGo_cases c (s.length + 1) 0 s with h | h | ⟨nm, h⟩ <;> (unfold tText; rw [h])
    · exact hc
    · exact hP.step (.cmt hs) hc
    · exact hP.step (.tagOpen nm hs) hc
  · unfold tSpecialTagEnd
    split
    · split
      · exact hP.step (.fresh c) hc
      · exact hc
    · exact hc
  · rename_i hs
    unfold tTag
    dsimp only
    split
    · exact hc
    · split
      · split
        · exact hP.step (.tagEndVoid _ hs (by split <;> simp)) hc
        · refine hP.step (.tagEnd _ hs ?_) hc
          split
          · exact .inl rfl
          · rename_i h; exact .inr ⟨rfl, by simpa using h⟩
      · split
        · exact hP.err _
        · rename_i n hn
          split
          · exact hP.err _
          · rename_i hn0
            exact hP.step (.attrStart _ _ n hs (by split <;> simp) hn (by simpa using hn0)) hc
  · rename_i hs
    unfold tAttrName
    split
    · exact hP.err _
    · split
      · exact hP.step (.afterName hs) hc
      · exact hc
  · rename_i hs
    unfold tAfterName
    dsimp only
    split
    · exact hc
    · split
      · exact hP.step (.tag hs) hc
      · exact hP.step (.beforeValue hs) hc
  · rename_i hs
    unfold tBeforeValue
    dsimp only
    split
    · exact hc
    · split
      · exact hP.step (.attr _ hs (by simp)) hc
      · exact hP.step (.attr _ hs (by simp)) hc
      · exact hP.step (.attr _ hs (by simp)) hc
  · unfold tHTMLCmt
    split
    · exact hP.step (.fresh c) hc
    · exact hc
  · exact hc
  · exact hc

theorem feedLoop_closed : ∀ f c u, P c → P (feedLoop f c u) := by
  intro f
  induction f with
  | zero => intro c u h; exact h
  | succ f ih =>
    intro c u h
    unfold feedLoop
    split
    · exact h
    · exact ih _ _ (transition_closed hP c u h)

theorem contextAfterText_closed (c : Ctx) (s : Bytes) (hc : P c) : P (contextAfterText c s).1 := by
  unfold contextAfterText
  split
  · dsimp only
    split
    · unfold tSpecialTagEnd
      split
      · split
        · exact hP.step (.fresh c) hc
        · exact hc
      · exact hc
    · exact transition_closed hP c _ hc
  · rename_i hd
    have hd : c.delim ≠ .none := by simpa using hd
    dsimp only
    split
    · exact hP.err _
    · split
      · exact feedLoop_closed hP _ _ _ (hP.step (.value s hd) hc)
      · split
        · rename_i h
          simp only [Bool.and_eq_true, beq_iff_eq] at h
          split
          · rename_i h2
            simp only [Bool.and_eq_true, beq_iff_eq] at h2
            exact hP.step (.attrEnd (c := c) _ _ hd (.inr h2.1.2) (.inr h.1.1.2)) hc
          · exact hP.step (.attrEnd (c := c) _ _ hd (.inl rfl) (.inr h.1.1.2)) hc
        · split
          · rename_i h2
            simp only [Bool.and_eq_true, beq_iff_eq] at h2
            exact hP.step (.attrEnd (c := c) _ _ hd (.inr h2.1.2) (.inl rfl)) hc
          · exact hP.step (.attrEnd (c := c) _ _ hd (.inl rfl) (.inl rfl)) hc

theorem escapeText_closed {csp : Bool} {c : Ctx} {s : Bytes} {c' : Ctx} {nt : Option Bytes}
    (h : escapeText csp c s = .done c' nt) (hc : P c) : P c' :=
  escapeText_inv P hP.err (contextAfterText_closed hP) h hc

theorem escapeTextNode_closed {env : Env} {tn : String} {e : Esc} {c : Ctx} {id : Nat} {b : Bytes} {r : Esc × Ctx}
    (h : escapeTextNode env tn e c id b = .ok r) (hc : P c) : P r.2 := by
  rcases escapeTextNode_cases env tn e c id b with ⟨_, h1⟩ | ⟨c', ht, h1⟩ | ⟨c', nb, ht, h1⟩ <;> rw [h1] at h
  · cases h
  · cases h; exact escapeText_closed hP ht hc
  · obtain ⟨e', _, h2⟩ := bind_ok h
    cases h2
    exact escapeText_closed hP ht hc

end

/-- `a` with the name lists and the ambiguity flag that `join a b` computes first -/
def named (a b : Ctx) : Ctx :=
  { a with elemNames := joinNames a.elemName b.elemName a.elemNames b.elemNames,
           attrNames := joinNames a.attrName b.attrName a.attrNames b.attrNames,
           ambiguous := a.ambiguous || (a.attrValue != b.attrValue) || b.ambiguous }

/-- `named a b` with the element and attribute name of `b`: what `join` returns when it finds `a` and `b`
    compatible -/
def joined (a b : Ctx) : Ctx := { named a b with elemName := b.elemName, attrName := b.attrName }

/-- the inner join of the nudged contexts is written out in `joinCore`; it is `joinCore` without nudging -/
theorem joinCore_eq (a b : Ctx) (n : Bool) : joinCore a b n =
    if a.state == .error then a else if b.state == .error then b
    else if (named a b).eq b then named a b
    else if ({ named a b with elemName := b.elemName }).eq b then { named a b with elemName := b.elemName }
    else if ({ named a b with attrName := b.attrName }).eq b then { named a b with attrName := b.attrName }
    else if n && !((nudge (named a b)).eq (named a b) && (nudge b).eq b) then
      if (joinCore (nudge (named a b)) (nudge b) false).state != .error then
        joinCore (nudge (named a b)) (nudge b) false
      else Ctx.errorCtx .branchEnd
    else Ctx.errorCtx .branchEnd := rfl

theorem joined_of_eq {a b x : Ctx} (h : x.eq b = true)
    (hx : { x with elemName := b.elemName, attrName := b.attrName } = joined a b) : x = joined a b := by
  unfold Ctx.eq at h
  simp only [Bool.and_eq_true, beq_iff_eq] at h
  have h1 : x.elemName = b.elemName := h.1.1.1.1.1.2
  have h2 : x.attrName = b.attrName := h.1.1.1.1.2
  rw [← hx, ← h1, ← h2]

theorem joinCore_ne (a b : Ctx) (n : Bool) (ha : a.state ≠ .error) (hb : b.state ≠ .error) :
    (joinCore a b n = joined a b ∧ (joined a b).eq b = true) ∨
    joinCore a b n =
      if n && !((nudge (named a b)).eq (named a b) && (nudge b).eq b) then
        if (joinCore (nudge (named a b)) (nudge b) false).state != .error then
          joinCore (nudge (named a b)) (nudge b) false
        else Ctx.errorCtx .branchEnd
      else Ctx.errorCtx .branchEnd := by
  rw [joinCore_eq, if_neg (by simpa using ha), if_neg (by simpa using hb)]
  by_cases p1 : (named a b).eq b = true
  · rw [if_pos p1]; have := joined_of_eq (a := a) p1 rfl; exact .inl ⟨this, this ▸ p1⟩
  · rw [if_neg p1]
    by_cases p2 : ({ named a b with elemName := b.elemName }).eq b = true
    · rw [if_pos p2]; have := joined_of_eq (a := a) p2 rfl; exact .inl ⟨this, this ▸ p2⟩
    · rw [if_neg p2]
      by_cases p3 : ({ named a b with attrName := b.attrName }).eq b = true
      · rw [if_pos p3]; have := joined_of_eq (a := a) p3 rfl; exact .inl ⟨this, this ▸ p3⟩
      · rw [if_neg p3]; exact .inr rfl

theorem joinCore_false_cases (a b : Ctx) :
    (a.state = .error ∧ joinCore a b false = a) ∨ (b.state = .error ∧ joinCore a b false = b) ∨
    joinCore a b false = Ctx.errorCtx .branchEnd ∨
    (a.state ≠ .error ∧ b.state ≠ .error ∧ joinCore a b false = joined a b ∧ (joined a b).eq b = true) := by
  by_cases ha : a.state = .error
  · exact .inl ⟨ha, by rw [joinCore_eq, if_pos (by simpa using ha)]⟩
  · by_cases hb : b.state = .error
    · exact .inr (.inl ⟨hb, by rw [joinCore_eq, if_neg (by simpa using ha), if_pos (by simpa using hb)]⟩)
    · rcases joinCore_ne a b false ha hb with h | h
      · exact .inr (.inr (.inr ⟨ha, hb, h⟩))
      · exact .inr (.inr (.inl h))

theorem join_cases (a b : Ctx) :
    join a b = a ∨ join a b = b ∨ join a b = Ctx.errorCtx .branchEnd ∨
    ∃ a0 b0, ((a0 = a ∧ b0 = b) ∨ (a0 = nudge (named a b) ∧ b0 = nudge b)) ∧ a0.state ≠ .error ∧
      b0.state ≠ .error ∧ join a b = joined a0 b0 ∧ (joined a0 b0).eq b0 = true := by
  unfold join
  by_cases ha : a.state = .error
  · exact .inl (by rw [joinCore_eq, if_pos (by simpa using ha)])
  · by_cases hb : b.state = .error
    · exact .inr (.inl (by rw [joinCore_eq, if_neg (by simpa using ha), if_pos (by simpa using hb)]))
    · rcases joinCore_ne a b true ha hb with h | h
      · exact .inr (.inr (.inr ⟨a, b, .inl ⟨rfl, rfl⟩, ha, hb, h⟩))
      · rw [h]
        split
        · split
          · rename_i he
            have he : (joinCore (nudge (named a b)) (nudge b) false).state ≠ .error := by simpa using he
            rcases joinCore_false_cases (nudge (named a b)) (nudge b) with
              ⟨h1, h2⟩ | ⟨h1, h2⟩ | h2 | ⟨h1, h2, h3, h4⟩
            · rw [h2] at he; exact absurd h1 he
            · rw [h2] at he; exact absurd h1 he
            · exact .inr (.inr (.inl h2))
            · exact .inr (.inr (.inr ⟨_, _, .inr ⟨rfl, rfl⟩, h1, h2, h3, h4⟩))
          · exact .inr (.inr (.inl rfl))
        · exact .inr (.inr (.inl rfl))

/-- closed under everything the analysis does to a context: the steps of `escapeText`, the two steps of `nudge`
    into an attribute name, and `join` -/
structure CtxClosed (P : Ctx → Prop) : Prop extends TextClosed P where
  attrName : ∀ {c}, c.state = .tag ∨ c.state = .afterName → P c → P { c with state := .attrName }
  join : ∀ {a b}, P a → P b → P (join a b)

section
variable {P : Ctx → Prop} (hP : CtxClosed P)
include hP

theorem nudge_closed (c : Ctx) (hc : P c) : P (nudge c) := by
  unfold nudge
  split
  · rename_i hs; exact hP.attrName (.inl hs) hc
  · rename_i hs; exact hP.step (.attr _ hs (by simp)) hc
  · rename_i hs; exact hP.attrName (.inr hs) hc
  · exact hc

theorem escapeAction_closed {env : Env} {tn : String} {e : Esc} {c : Ctx} {id : Nat} {p : Pipe} {r : Esc × Ctx}
    (h : escapeAction env tn e c id p = .ok r) (hc : P c) : P r.2 := by
  rcases escapeAction_cases env tn e c id p with ⟨_, h1⟩ | ⟨c', h1, hc'⟩ | ⟨s, _, h1⟩ <;> rw [h1] at h
  · cases h
  · cases h
    rcases hc' with rfl | rfl | ⟨code, rfl⟩
    · exact hc
    · exact nudge_closed hP c hc
    · exact hP.err code
  · obtain ⟨e', _, h2⟩ := bind_ok h
    cases h2
    exact nudge_closed hP c hc

end

def MemoAll (P : Ctx → Prop) (e : Esc) : Prop := ∀ p ∈ e.output, P p.2

theorem MemoAll.setOut {P : Ctx → Prop} {e : Esc} (h : MemoAll P e) (k : String) {v : Ctx} (hv : P v) :
    MemoAll P (setOut e k v) :=
  forall_mem_aset h hv

theorem MemoAll.lookup {P : Ctx → Prop} {e : Esc} (h : MemoAll P e) {k : String} {v : Ctx}
    (hk : alookup e.output k = some v) : P v :=
  h _ (mem_of_alookup _ _ _ hk)

section
variable {P : Ctx → Prop} (hP : CtxClosed P) (env : Env)
include hP

theorem analysis_ctx : ∀ f,
    (∀ tn e c n r, MemoAll P e → P c → escapeNode env f tn e c n = .ok r → MemoAll P r.1 ∧ P r.2) ∧
    (∀ tn e c l r, MemoAll P e → P c → escapeList env f tn e c l = .ok r → MemoAll P r.1 ∧ P r.2) ∧
    (∀ tn e c t el b r, MemoAll P e → P c → escapeBranch env f tn e c t el b = .ok r → MemoAll P r.1 ∧ P r.2) ∧
    (∀ e c name r, MemoAll P e → P c → escapeTree env f e c name = .ok r → MemoAll P r.1 ∧ P r.2.1) ∧
    (∀ e c tname t r, MemoAll P e → P c → computeOutCtx env f e c tname t = .ok r → MemoAll P r.1 ∧ P r.2) ∧
    (∀ e c tname t r, MemoAll P e → P c → escapeTemplateBody env f e c tname t = .ok r →
      MemoAll P r.1 ∧ P r.2.1) := by
  have hT := hP.toTextClosed
  refine fuel_induction ⟨?_, ?_, ?_, ?_, ?_, ?_⟩ ?_ ?_ ?_ ?_ ?_ ?_
  · intro _ _ _ _ _ _ _ h; rw [escapeNode_zero] at h; cases h
  · intro _ _ _ _ _ _ _ h; rw [escapeList_zero] at h; cases h
  · intro _ _ _ _ _ _ _ _ _ h; rw [escapeBranch_zero] at h; cases h
  · intro _ _ _ _ _ _ h; rw [escapeTree_zero] at h; cases h
  · intro _ _ _ _ _ _ _ h; rw [computeOutCtx_zero] at h; cases h
  · intro _ _ _ _ _ _ _ h; rw [escapeTemplateBody_zero] at h; cases h
  · intro f hb ht tn e c n r he hc h
    cases n with
    | action id p =>
      rw [escapeNode_action] at h
      refine ⟨?_, escapeAction_closed hP h hc⟩
      rcases escapeAction_ok h with h1 | ⟨s, h1⟩ <;> rw [h1] <;> exact he
    | text id b =>
      rw [escapeNode_text] at h
      refine ⟨?_, escapeTextNode_closed hT h hc⟩
      rcases escapeTextNode_ok h with h1 | ⟨s, h1⟩ <;> rw [h1] <;> exact he
    | ifN id p t el => rw [escapeNode_if] at h; exact hb _ _ _ _ _ _ _ he hc h
    | withN id p t el => rw [escapeNode_with] at h; exact hb _ _ _ _ _ _ _ he hc h
    | rangeN id p t el => rw [escapeNode_range] at h; exact hb _ _ _ _ _ _ _ he hc h
    | tmpl id name p =>
      obtain ⟨e1, d, h1, h2⟩ := escapeNode_tmpl_ok h
      have s1 := ht _ _ _ _ he hc h1
      refine ⟨?_, s1.2⟩
      rcases h2 with ⟨_, h2⟩ | ⟨_, h2⟩
      · rw [h2]; exact s1.1
      · rw [(editTmpl_ok h2).1]; exact s1.1
    | brk id => rw [escapeNode_brk] at h; cases h; exact ⟨he, hP.err _⟩
    | cont id => rw [escapeNode_cont] at h; cases h; exact ⟨he, hP.err _⟩
    | comment id => rw [escapeNode_comment] at h; cases h; exact ⟨he, hP.err _⟩
  · intro f hn hl tn e c l r he hc h
    cases l with
    | nil => rw [escapeList_nil] at h; cases h; exact ⟨he, hc⟩
    | cons n ns =>
      obtain ⟨e1, c1, h1, h2⟩ := escapeList_cons_ok h
      have s1 := hn _ _ _ _ _ he hc h1
      exact hl _ _ _ _ _ s1.1 s1.2 h2
  · intro f hl tn e c t el b r he hc h
    obtain ⟨e1, c0, h1, h2⟩ := escapeBranch_ok h
    have s1 := hl _ _ _ _ _ he hc h1
    rcases h2 with ⟨_, es, c1, h3, h4⟩ | ⟨_, e2, c2, h3, rfl⟩
    · have s2 := hl _ _ _ _ _ (show MemoAll P (scratch e1) from s1.1) s1.2 h3
      have hj := hP.join s1.2 s2.2
      rcases h4 with ⟨_, rfl⟩ | ⟨_, e2, c2, h5, rfl⟩
      · exact ⟨s1.1, hj⟩
      · have s3 := hl _ _ _ _ _ s1.1 hc h5
        exact ⟨s3.1, hP.join hj s3.2⟩
    · have s3 := hl _ _ _ _ _ s1.1 hc h3
      exact ⟨s3.1, hP.join s1.2 s3.2⟩
  · intro f ho e c name r he hc h
    rcases escapeTree_ok h with ⟨_, rfl⟩ | ⟨_, out, hout, rfl⟩ | ⟨_, _, _, rfl⟩ | ⟨_, _, tr, e1, c1, _, h1, rfl⟩
    · exact ⟨he, hc⟩
    · exact ⟨he, he.lookup hout⟩
    · exact ⟨he, hP.err _⟩
    · exact ho _ _ _ _ _ (show MemoAll P _ by unfold MemoAll; rw [enter_output]; exact he) hc h1
  · intro f hy e c tname t r he hc h
    obtain ⟨e1, c1, ok1, h1, h2⟩ := computeOutCtx_ok h
    have s1 := hy _ _ _ _ _ he hc h1
    rcases h2 with ⟨_, rfl⟩ | ⟨_, e2, c2, ok2, h3, h4⟩
    · exact ⟨s1.1.setOut _ s1.2, s1.2⟩
    · have s2 := hy _ _ _ _ _ s1.1 s1.2 h3
      rcases h4 with ⟨_, rfl⟩ | ⟨_, _, rfl⟩ | ⟨_, _, rfl⟩
      · exact ⟨s2.1.setOut _ s2.2, s2.2⟩
      · exact ⟨s2.1.setOut _ (hP.err _), hP.err _⟩
      · exact ⟨s2.1.setOut _ s1.2, s1.2⟩
  · intro f hl e c tname t r he hc h
    obtain ⟨tr, e1, c1, _, h1, h2⟩ := escapeTemplateBody_ok h
    have he0 : MemoAll P (setOut e tname c) := he.setOut _ hc
    have s1 := hl _ _ _ _ _ (show MemoAll P (scratch (setOut e tname c)) from he0) hc h1
    rcases h2 with ⟨_, _, _, _, rfl⟩ | ⟨_, rfl⟩
    · exact ⟨forall_mem_foldl_aset he0 s1.1, s1.2⟩
    · exact ⟨he0, s1.2⟩

end

/-! ### Hoare rules for the analysis

`Sat Q B x`: an ok result of `x` satisfies `Q`, a panic message satisfies `B`. For each of the six functions one rule
reduces such a statement about the escaper component of the result to the same kind of statement about the calls it
makes and to facts about the escaper updates in between. -/

theorem sat_of {α} {Q : α → Prop} {B : String → Prop} {x : Out α} (hok : ∀ r, x = .ok r → Q r)
    (hp : ∀ m, x = .panic m → B m) : Sat Q B x := by
  cases x with
  | ok a => exact hok a rfl
  | panic m => exact hp m rfl
  | fuel => trivial

theorem sat_of_ok {α} {Q : α → Prop} {x : Out α} (h : ∀ r, x = .ok r → Q r) : Sat Q (fun _ => True) x :=
  sat_of h fun _ _ => trivial

theorem foldlM_sat {α β} {J : α → Prop} {B : String → Prop} {g : α → β → Out α}
    (hg : ∀ a b, J a → Sat J B (g a b)) : ∀ (l : List β) (a : α), J a → Sat J B (l.foldlM g a) := by
  intro l
  induction l with
  | nil => intro a h; exact h
  | cons b t ih => intro a h; rw [List.foldlM_cons]; exact (hg a b h).bind ih

section
variable {Q : Esc → Prop} {B : String → Prop}

theorem editAction_sat {e : Esc} {k : EditKey} {v : List String}
    (hB : e.actionEdits.any (fun p => p.1 == k) = true → B "node shared between templates")
    (hQ : e.actionEdits.any (fun p => p.1 == k) = false → Q { e with actionEdits := e.actionEdits ++ [(k, v)] }) :
    Sat Q B (e.editAction k v) := by
  rcases editAction_cases e k v with ⟨hk, h⟩ | ⟨hk, h⟩ <;> rw [h]
  · exact hB hk
  · exact hQ hk

theorem editTmpl_sat {e : Esc} {k : EditKey} {v : String}
    (hB : e.tmplEdits.any (fun p => p.1 == k) = true → B "node shared between templates")
    (hQ : e.tmplEdits.any (fun p => p.1 == k) = false → Q { e with tmplEdits := e.tmplEdits ++ [(k, v)] }) :
    Sat Q B (e.editTmpl k v) := by
  rcases editTmpl_cases e k v with ⟨hk, h⟩ | ⟨hk, h⟩ <;> rw [h]
  · exact hB hk
  · exact hQ hk

theorem editText_sat {e : Esc} {k : EditKey} {v : Bytes}
    (hB : e.textEdits.any (fun p => p.1 == k) = true → B "node shared between templates")
    (hQ : e.textEdits.any (fun p => p.1 == k) = false → Q { e with textEdits := e.textEdits ++ [(k, v)] }) :
    Sat Q B (e.editText k v) := by
  rcases editText_cases e k v with ⟨hk, h⟩ | ⟨hk, h⟩ <;> rw [h]
  · exact hB hk
  · exact hQ hk

theorem mergeEdits_sat {β} (hB : B "node shared between templates") (into from_ : List (EditKey × β)) :
    Sat (fun _ => True) B (mergeEdits into from_) := by
  rcases mergeEdits_cases from_ into with h | h <;> rw [h]
  · trivial
  · exact hB

variable {env : Env} {tn : String} {e : Esc} {c : Ctx}

theorem escapeAction_sat {id : Nat} {p : Pipe} (hargs : predefinedCheck (nudge c) p.cmds = none → B "index out of range: command without arguments")
    (h0 : Q e) (hedit : ∀ s, Sat Q B (e.editAction (tn, id) s)) :
    Sat (fun r : Esc × Ctx => Q r.1) B (escapeAction env tn e c id p) := by
  rcases escapeAction_cases env tn e c id p with ⟨hn, h⟩ | ⟨_, h, _⟩ | ⟨s, _, h⟩
  · rw [h]; exact hargs hn
  · rw [h]; exact h0
  · rw [h]; exact (hedit s).bind fun _ h' => h'

theorem escapeTextNode_sat {id : Nat} {b : Bytes} (hloop : B "infinite loop in escapeText") (h0 : Q e)
    (hedit : ∀ nb, Sat Q B (e.editText (tn, id) nb)) :
    Sat (fun r : Esc × Ctx => Q r.1) B (escapeTextNode env tn e c id b) := by
  rcases escapeTextNode_cases env tn e c id b with ⟨_, h⟩ | ⟨_, _, h⟩ | ⟨_, nb, _, h⟩ <;> rw [h]
  · exact hloop
  · exact h0
  · exact (hedit nb).bind fun _ h' => h'

variable {f : Nat} {R : Esc → Prop}

theorem escapeNode_tmpl_sat {id : Nat} {name : String} {p : Option Pipe}
    (h1 : Sat (fun r : Esc × Ctx × String => Q r.1) B (escapeTree env f e c name))
    (h2 : ∀ e1, Q e1 → R e1) (h3 : ∀ e1 d, Q e1 → Sat R B (e1.editTmpl (tn, id) d)) :
    Sat (fun r : Esc × Ctx => R r.1) B (escapeNode env (f + 1) tn e c (.tmpl id name p)) := by
  rw [escapeNode_tmpl]
  refine h1.bind fun r hr => ?_
  split
  · exact (h3 r.1 r.2.2 hr).bind fun _ h' => h'
  · exact h2 r.1 hr

/-- the then-list establishes `Q`; the re-entry check of a range runs on the scratch copy and its escaper is dropped;
    the else-list starts from `Q` -/
theorem escapeBranch_sat {t el : NodeList} {b : Bool}
    (h1 : Sat (fun r : Esc × Ctx => Q r.1) B (escapeList env f tn e c t))
    (hs : ∀ e1 c1, Q e1 → Sat (fun _ : Esc × Ctx => True) B (escapeList env f tn (scratch e1) c1 t))
    (h2 : ∀ e1, Q e1 → R e1)
    (h3 : ∀ e1, Q e1 → Sat (fun r : Esc × Ctx => R r.1) B (escapeList env f tn e1 c el)) :
    Sat (fun r : Esc × Ctx => R r.1) B (escapeBranch env (f + 1) tn e c t el b) := by
  rw [escapeBranch_succ]
  refine h1.bind fun r hr => Sat.bind (Q := fun _ => True) ?_ fun j _ => ?_
  · split
    · exact (hs r.1 r.2 hr).bind fun _ _ => trivial
    · trivial
  · split
    · split
      · exact h2 r.1 hr
      · exact (h3 r.1 hr).bind fun _ h => h
    · exact (h3 r.1 hr).bind fun _ h => h

theorem escapeTree_sat {name : String} (h0 : R e)
    (hhit : ∀ out, alookup e.output (mangle c name) = some out → R (hit e c (mangle c name)))
    (hmiss : alookup e.output (mangle c name) = none → R (miss e c (mangle c name)))
    (hcall : ∀ tr, alookup e.output (mangle c name) = none → e.template env name = some (some tr) →
      Sat (fun r : Esc × Ctx => R r.1) B
        (computeOutCtx env f (enter env e c name tr).1 c (mangle c name) (enter env e c name tr).2)) :
    Sat (fun r : Esc × Ctx × String => R r.1) B (escapeTree env (f + 1) e c name) := by
  rw [escapeTree_succ]
  split
  · exact h0
  · split
    · rename_i out ho; exact hhit out ho
    · rename_i ho
      split
      · rename_i tr ht; exact (hcall tr ho ht).bind fun _ h => h
      · exact hmiss ho

/-- `Q e1 b`: what the first attempt at the body leaves, `b` saying whether it was accepted; `Q2`: what the second
    attempt leaves -/
theorem computeOutCtx_sat {tname : String} {t : Option Tree} {Q : Esc → Bool → Prop} {Q2 : Esc → Prop}
    (h1 : Sat (fun r : Esc × Ctx × Bool => Q r.1 r.2.2) B (escapeTemplateBody env f e c tname t))
    (hr1 : ∀ e1 v, Q e1 true → R (setOut e1 tname v))
    (h2 : ∀ e1 c1, Q e1 false →
      Sat (fun r : Esc × Ctx × Bool => Q2 r.1) B (escapeTemplateBody env f e1 c1 tname t))
    (hr2 : ∀ e2 v, Q2 e2 → R (setOut e2 tname v)) :
    Sat (fun r : Esc × Ctx => R r.1) B (computeOutCtx env (f + 1) e c tname t) := by
  rw [computeOutCtx_succ]
  refine h1.bind fun r hr => ?_
  obtain ⟨e1, c1, ok1⟩ := r
  cases ok1 with
  | true => exact hr1 e1 c1 hr
  | false =>
    refine (h2 e1 c1 hr).bind fun r2 hq => ?_
    split
    · exact hr2 _ _ hq
    · split <;> exact hr2 _ _ hq

/-- the body establishes `Q` of the scratch escaper; `R · true` is asked of the merged, `R · false` of the dropped
    escaper -/
theorem escapeTemplateBody_sat {tname : String} {t : Option Tree} {R : Esc → Bool → Prop}
    (hnil : t = none → B "nil pointer dereference: t.Tree.Root of a nil Tree")
    (h1 : ∀ tr, t = some tr →
      Sat (fun r : Esc × Ctx => Q r.1) B (escapeList env f tname (scratch (setOut e tname c)) c tr.root))
    (hm : ∀ e1, Q e1 → Sat (fun _ => True) B (mergeEdits e.actionEdits e1.actionEdits) ∧
      Sat (fun _ => True) B (mergeEdits e.tmplEdits e1.tmplEdits) ∧
      Sat (fun _ => True) B (mergeEdits e.textEdits e1.textEdits))
    (hok : ∀ e1, Q e1 → R (merge (setOut e tname c) e1 (e.actionEdits ++ e1.actionEdits)
      (e.tmplEdits ++ e1.tmplEdits) (e.textEdits ++ e1.textEdits)) true)
    (hdrop : ∀ e1, Q e1 → R (drop (setOut e tname c) e1) false) :
    Sat (fun r : Esc × Ctx × Bool => R r.1 r.2.2) B (escapeTemplateBody env (f + 1) e c tname t) := by
  rw [escapeTemplateBody_succ]
  cases t with
  | none => exact hnil rfl
  | some tr =>
    refine (h1 tr rfl).bind fun r hr => ?_
    split
    · obtain ⟨ma, mt, mx⟩ := hm r.1 hr
      rcases mergeEdits_cases r.1.actionEdits e.actionEdits with ha | ha <;> rw [ha] at ma ⊢
      · rcases mergeEdits_cases r.1.tmplEdits e.tmplEdits with ht | ht <;> rw [ht] at mt ⊢
        · rcases mergeEdits_cases r.1.textEdits e.textEdits with hx | hx <;> rw [hx] at mx ⊢
          · exact hok r.1 hr
          · exact mx
        · exact mt
      · exact ma
    · exact hdrop r.1 hr

end

/-! #### a predicate on trees, of all trees of a text set and of an escaper -/

def TextAll (T : NodeList → Prop) (text : TextSet) : Prop := ∀ n tr, text.lookup n = some (some tr) → T tr.root
def EscAll (T : NodeList → Prop) (e : Esc) : Prop := (∀ p ∈ e.derived, T p.2.root) ∧ (∀ p ∈ e.pristine, T p.2.root)

section
variable {T : NodeList → Prop}

theorem escAll_of_nil {e : Esc} (hd : e.derived = []) (hp : e.pristine = []) : EscAll T e := by
  unfold EscAll; rw [hd, hp]; exact ⟨fun _ h => (nomatch h), fun _ h => (nomatch h)⟩

theorem EscAll.scratch {e : Esc} (h : EscAll T e) : EscAll T (scratch e) := ⟨fun _ hp => (nomatch hp), h.2⟩

theorem EscAll.merge {e e1 : Esc} (h : EscAll T e) (h1 : EscAll T e1) {ae te xe} : EscAll T (merge e e1 ae te xe) :=
  ⟨forall_mem_foldl_aset h.1 h1.1, h.2⟩

theorem template_all {env : Env} (ht : TextAll T env.text) {e : Esc} (he : EscAll T e) {n : String} {tr : Tree}
    (h : e.template env n = some (some tr)) : T tr.root := by
  unfold Esc.template at h
  split at h
  · rename_i hl; cases h; exact ht n tr hl
  · cases hd : alookup e.derived n with
    | none => rw [hd] at h; cases h
    | some d => rw [hd] at h; cases h; exact he.1 _ (mem_of_alookup _ _ _ hd)

theorem enter_all {env : Env} (ht : TextAll T env.text) {e : Esc} (he : EscAll T e) (c : Ctx) {name : String}
    {tr : Tree} (h : e.template env name = some (some tr)) :
    EscAll T (enter env e c name tr).1 ∧ ∀ t, (enter env e c name tr).2 = some t → T t.root := by
  have hsrc : T ((alookup e.pristine name).getD tr).root := by
    cases hp : alookup e.pristine name with
    | none => exact template_all ht he h
    | some t2 => exact he.2 _ (mem_of_alookup _ _ _ hp)
  unfold enter
  split
  · split
    · rename_i dt hdt
      exact ⟨he, fun t h2 => by cases h2; exact template_all ht (e := miss e c (mangle c name)) he hdt⟩
    · exact ⟨⟨forall_mem_aset he.1 hsrc, he.2⟩, fun t h2 => by cases h2; exact hsrc⟩
  · exact ⟨he, fun t h2 => by cases h2; exact template_all ht he h⟩
end

end SafeHtml.Proofs.Analysis
