/-
C09 for the API model (sections 1–6): the concurrent calls of the template API, split into critical section and
unlocked phase, are exactly `Api.step` and satisfy the stability conditions of `Model/Conc`; hence every schedule is
serializable. C08 for one critical section (section 7): from a state in which every memoized name has a template
(`HasT`) and no template has a nil tree (`NoNil`), `escapeTemplateTop` reports neither of the two nil dereferences of
the analysis and of `commit` (`escapeTemplateTop_no_panic_partial`).
-/
import SafeHtml.Proofs.Frozen
import SafeHtml.Proofs.ApiLemmas
import SafeHtml.Proofs.Analysis
namespace SafeHtml.Proofs.ConcApi
open SafeHtml SafeHtml.Model.Tmpl SafeHtml.Model.Conc SafeHtml.Proofs.Analysis SafeHtml.Proofs.Frozen

/-! ### 1. the calls -/

/-- what a call remembers after its critical section: a final result, or the object to execute (and how) -/
inductive Pend where
  | final (r : Ret)
  | exec (o : TObj) (d : Value) (html : Bool)

def finish (html : Bool) (r : Res) : Ret := if html then .html (zeroOnError r) else .exec r

/-- the unlocked phase: `t.text.Execute` on the world AS IT IS when the phase runs -/
def postOf (w : World) : Pend → Ret
  | .final r => r
  | .exec o d html => finish html (textExecute w o d)

def toPend (d : Value) (html : Bool) : Res ⊕ TObj → Pend
  | .inl r => .final (finish html r)
  | .inr o => .exec o d html

/-- `t.Execute` / `t.ExecuteToHTML` -/
def execCall (h : Nat) (d : Value) (html : Bool) : Call World Pend Ret where
  crit := fun w => ((critExecute w h).1, toPend d html (critExecute w h).2)
  post := postOf

/-- `t.ExecuteTemplate` / `t.ExecuteTemplateToHTML` -/
def execTemplateCall (h : Nat) (name : String) (d : Value) (html : Bool) : Call World Pend Ret where
  crit := fun w => ((critExecuteTemplate w h name).1, toPend d html (critExecuteTemplate w h name).2)
  post := postOf

/-- `t.Lookup(name)` (the harness binds the result to handle `h'`; name spaces and objects are only read) -/
def lookupCall (h : Nat) (name : String) (h' : Nat) : Call World Pend Ret where
  crit := fun w => ((apiLookup w h name h').1, .final (.done (apiLookup w h name h').2))
  post := postOf

/-- `t.Templates()` -/
def templatesCall (h : Nat) : Call World Pend Ret where
  crit := fun w => (w, .final (.done (apiTemplates w h)))
  post := postOf

/-- the concurrent API of the model (`Name` and `DefinedTemplates` are not operations of `Api.step`) -/
def callOf : Op → Option (Call World Pend Ret)
  | .exec h d => some (execCall h d false)
  | .execHTML h d => some (execCall h d true)
  | .execT h n d => some (execTemplateCall h n d false)
  | .execTHTML h n d => some (execTemplateCall h n d true)
  | .lookup h n h' => some (lookupCall h n h')
  | .templates h => some (templatesCall h)
  | _ => none

def U (c : Call World Pend Ret) : Prop := ∃ op, callOf op = some c

def runCall (c : Call World Pend Ret) (w : World) : World × Ret := ((c.crit w).1, c.post (c.crit w).1 (c.crit w).2)

/-! ### 2. refinement: the split calls are the model's API functions -/

theorem apiExecute_split (w : World) (h : Nat) (d : Value) :
    apiExecute w h d = ((critExecute w h).1,
      match (critExecute w h).2 with
      | .inl r => r
      | .inr o => textExecute (critExecute w h).1 o d) :=
  apiExecute_crit w h d

theorem apiExecuteTemplate_split (w : World) (h : Nat) (name : String) (d : Value) :
    apiExecuteTemplate w h name d = ((critExecuteTemplate w h name).1,
      match (critExecuteTemplate w h name).2 with
      | .inl r => r
      | .inr o => textExecute (critExecuteTemplate w h name).1 o d) :=
  apiExecuteTemplate_crit w h name d


/-- Running the critical section and then, at the same moment, the unlocked phase of a call is
    exactly the step function of the API model that the correspondence check compares with the real package. -/
theorem step_eq_runCall (w : World) (op : Op) (c : Call World Pend Ret) (hc : callOf op = some c) :
    Api.step w op = runCall c w := by
  cases op with
  | new | assocNew | parse | clone | csp => cases hc
  | lookup hh n h' =>
    simp only [callOf, Option.some.injEq] at hc; subst hc; rfl
  | templates hh =>
    simp only [callOf, Option.some.injEq] at hc; subst hc; rfl
  | exec hh d =>
    simp only [callOf, Option.some.injEq] at hc; subst hc
    simp only [Api.step, runCall, execCall, apiExecute_split w hh d]
    cases (critExecute w hh).2 <;> rfl
  | execT hh n d =>
    simp only [callOf, Option.some.injEq] at hc; subst hc
    simp only [Api.step, runCall, execTemplateCall, apiExecuteTemplate_split w hh n d]
    cases (critExecuteTemplate w hh n).2 <;> rfl
  | execHTML hh d =>
    simp only [callOf, Option.some.injEq] at hc; subst hc
    simp only [Api.step, runCall, execCall, apiExecute_split w hh d]
    cases (critExecute w hh).2 <;> rfl
  | execTHTML hh n d =>
    simp only [callOf, Option.some.injEq] at hc; subst hc
    simp only [Api.step, runCall, execTemplateCall, apiExecuteTemplate_split w hh n d]
    cases (critExecuteTemplate w hh n).2 <;> rfl


/-! ### 3. objects and sets under one analysis -/

/-- an object of the new world is an object of the old one, possibly with new `status` / `treeNil` -/
def SameObj (o o' : TObj) : Prop := o'.ns = o.ns ∧ o'.name = o.name ∧ o'.registered = o.registered

theorem markOk_status (w : World) (n : Nat) (name : String) (t : TextSet) (e : Esc) (id : Nat) (o' : TObj)
    (h : nlookup (markOk w n name t e).objs id = some o') (hne : nlookup w.objs id ≠ some o') :
    alookup (w.ns n).set name = some id := by
  rcases objs_markOk w n name t e id with h1 | ⟨_, h1, _⟩
  · exact absurd (h1 ▸ h) hne
  · exact h1

theorem objs_top {w w' : World} {ns : Nat} {name : String} {r : Option ErrCode}
    (h : escapeTemplateTop w ns name = .inr (w', r)) (id : Nat) :
    nlookup w'.objs id = nlookup w.objs id ∨
    ∃ o o', alookup (w.ns ns).set name = some id ∧ nlookup w.objs id = some o ∧ nlookup w'.objs id = some o' ∧
      SameObj o o' ∧ (o'.status = .ok → r = none) := by
  obtain ⟨e, _, _, _, ⟨code, _, rfl, rfl⟩ | ⟨t, e', _, _, rfl, rfl⟩⟩ := top_inr h
  · rcases objs_markFailed w ns name e code id with h1 | ⟨o, hid, ho, h1⟩
    · exact .inl h1
    · exact .inr ⟨o, _, hid, ho, h1, ⟨rfl, rfl, rfl⟩, fun hok => nomatch hok⟩
  · rcases objs_markOk w ns name t e' id with h1 | ⟨o, hid, ho, h1⟩
    · exact .inl h1
    · exact .inr ⟨o, _, hid, ho, h1, ⟨rfl, rfl, rfl⟩, fun _ => rfl⟩

theorem top_objs (w w' : World) (ns : Nat) (name : String) (r : Option ErrCode)
    (h : escapeTemplateTop w ns name = .inr (w', r)) :
    (∀ k, (w'.ns k).set = (w.ns k).set) ∧
    (∀ id o', nlookup w'.objs id = some o' →
      (nlookup w.objs id = some o' ∨
       (∃ o, nlookup w.objs id = some o ∧ SameObj o o' ∧
          (o'.status = .ok → r = none ∧ alookup (w.ns ns).set name = some id)))) := by
  refine ⟨fun k => ?_, fun id o' ho' => ?_⟩
  · by_cases hk : k = ns
    · subst hk
      obtain ⟨_, _, _, _, ⟨_, _, _, rfl⟩ | ⟨_, _, _, _, _, rfl⟩⟩ := top_inr h
      · rw [ns_markFailed, if_pos rfl]
      · rw [ns_markOk, if_pos rfl]
    · rw [ns_top h k hk]
  · rcases objs_top h id with h1 | ⟨o, o2, hid, ho, h1, hs, hr⟩ <;> rw [h1] at ho'
    · exact .inl ho'
    · cases ho'; exact .inr ⟨o, ho, hs, fun hok => ⟨hr hok, hid⟩⟩


/-! ### 4. the invariant of the shared state -/

def SetWF (w : World) : Prop :=
  ∀ ns name oid o, alookup (w.ns ns).set name = some oid → nlookup w.objs oid = some o → o.ns = ns ∧ o.name = name

/-- every object whose analysis succeeded is settled: its reachable names are frozen and call-closed -/
def OkSettled (w : World) : Prop :=
  ∀ id o, nlookup w.objs id = some o → o.status = .ok → ∃ F, Settled F w o

def Inv (w : World) : Prop := (∀ k, GoodNs (w.ns k)) ∧ SetWF w ∧ OkSettled w

theorem settled_sameObj {F : String → Prop} {w : World} {o o' : TObj} (h : SameObj o o') (hs : Settled F w o) :
    Settled F w o' := by
  unfold Settled at hs ⊢
  rw [h.1, h.2.1]; exact hs

theorem textExecute_sameObj (w : World) (o o' : TObj) (h : SameObj o o') (d : Value) :
    textExecute w o' d = textExecute w o d := by
  unfold textExecute
  rw [h.1, h.2.1, h.2.2]

theorem inv_setEscaped (w : World) (k : Nat) (hi : Inv w) : Inv (w.setNs k { w.ns k with escaped := true }) := by
  obtain ⟨hg, hw, hok⟩ := hi
  have hns : ∀ j, ((w.setNs k { w.ns k with escaped := true }).ns j).text = (w.ns j).text ∧
      ((w.setNs k { w.ns k with escaped := true }).ns j).esc = (w.ns j).esc ∧
      ((w.setNs k { w.ns k with escaped := true }).ns j).set = (w.ns j).set := by
    intro j
    by_cases hj : j = k
    · subst hj; rw [ns_setNs_same]; exact ⟨rfl, rfl, rfl⟩
    · rw [ns_setNs_other _ _ _ _ hj]; exact ⟨rfl, rfl, rfl⟩
  refine ⟨?_, ?_, ?_⟩
  · intro j
    unfold GoodNs
    rw [(hns j).1, (hns j).2.1]
    exact hg j
  · intro ns name oid o h1 h2
    rw [(hns ns).2.2] at h1
    exact hw ns name oid o h1 h2
  · intro id o h1 h2
    obtain ⟨F, hF⟩ := hok id o h1 h2
    exact ⟨F, (settled_setEscaped F w k o hF).1⟩

theorem inv_top (w w' : World) (ns : Nat) (name : String) (r : Option ErrCode) (hi : Inv w)
    (h : escapeTemplateTop w ns name = .inr (w', r)) : Inv w' := by
  obtain ⟨hg, hw, hok⟩ := hi
  obtain ⟨hset, hobjs⟩ := top_objs w w' ns name r h
  have hoth := ns_top h
  refine ⟨?_, ?_, ?_⟩
  · intro k
    by_cases hk : k = ns
    · subst hk; exact (good_top w w' k name r (hg k) h).1
    · rw [hoth k hk]; exact hg k
  · intro k nm oid o' h1 h2
    rw [hset k] at h1
    rcases hobjs oid o' h2 with h3 | ⟨o, h3, hs, _⟩
    · exact hw k nm oid o' h1 h3
    · obtain ⟨a, b⟩ := hw k nm oid o h1 h3
      exact ⟨hs.1 ▸ a, hs.2.1 ▸ b⟩
  · intro id o' h1 h2
    rcases hobjs id o' h1 with h3 | ⟨o, h3, hs, hst⟩
    · obtain ⟨F, hF⟩ := hok id o' h3 h2
      exact ⟨F, (frozen_step_any F w w' ns name r o' hF h).1⟩
    · obtain ⟨rfl, hset'⟩ := hst h2
      obtain ⟨a, b⟩ := hw ns name id o hset' h3
      have hons : o'.ns = ns := hs.1.trans a
      have hname : o'.name = name := hs.2.1.trans b
      exact ⟨_, settled_after_own_analysis w w' ns (hg ns) o' hons (by rw [hname]; exact h)⟩

theorem settled_new (w w' : World) (ns : Nat) (name : String) (hi : Inv w)
    (h : escapeTemplateTop w ns name = .inr (w', none)) (o' : TObj) (hons : o'.ns = ns) (hname : o'.name = name) :
    ∃ F, Settled F w' o' :=
  ⟨_, settled_after_own_analysis w w' ns (hi.1 ns) o' hons (by rw [hname]; exact h)⟩


/-! ### 5. the critical sections -/

theorem top_sameObj {w w' : World} {ns : Nat} {name : String} {r : Option ErrCode}
    (h : escapeTemplateTop w ns name = .inr (w', r)) {id : Nat} {o o' : TObj} (ho : nlookup w.objs id = some o)
    (ho' : nlookup w'.objs id = some o') : SameObj o o' := by
  rcases (top_objs w w' ns name r h).2 id o' ho' with h3 | ⟨o0, h3, hs0, _⟩
  · rw [ho] at h3; cases h3; exact ⟨rfl, rfl, rfl⟩
  · rw [ho] at h3; cases h3; exact hs0

theorem critExecute_spec (w : World) (h : Nat) (hi : Inv w) :
    Inv (critExecute w h).1 ∧ ∀ o, (critExecute w h).2 = .inr o → ∃ F, Settled F (critExecute w h).1 o := by
  refine ⟨critExecute_ind Inv w h hi (fun k => inv_setEscaped w k hi)
    (fun k name w' r he => inv_top _ w' k name r (inv_setEscaped w k hi) he), fun o' hr => ?_⟩
  obtain ⟨oid, o, ho, ⟨hs, rfl, hw⟩ | ⟨_, _, he, hn⟩⟩ := critExecute_inr hr
  · rw [hw]
    obtain ⟨F, hF⟩ := hi.2.2 oid _ (obj_inv ho).2 hs
    exact ⟨F, (settled_setEscaped F w _ _ hF).1⟩
  · have hso : SameObj o o' := top_sameObj he (obj_inv ho).2 hn
    exact settled_new _ _ o.ns o.name (inv_setEscaped w o.ns hi) he o' hso.1 hso.2.1

theorem critExecuteTemplate_spec (w : World) (h : Nat) (name : String) (hi : Inv w) :
    Inv (critExecuteTemplate w h name).1 ∧
    ∀ o, (critExecuteTemplate w h name).2 = .inr o → ∃ F, Settled F (critExecuteTemplate w h name).1 o := by
  refine ⟨critExecuteTemplate_ind Inv w h name hi (fun k => inv_setEscaped w k hi)
    (fun k name w' r he => inv_top _ w' k name r (inv_setEscaped w k hi) he), fun o' hr => ?_⟩
  obtain ⟨oid, o, tid, t, ho, hl, hn, _, ⟨hs, rfl, hw⟩ | ⟨_, he, hn2⟩⟩ := critExecuteTemplate_inr hr
  · rw [hw]
    obtain ⟨F, hF⟩ := hi.2.2 tid _ hn hs
    exact ⟨F, (settled_setEscaped F w _ _ hF).1⟩
  · obtain ⟨htns, htname⟩ := hi.2.1 o.ns name tid t hl hn
    have hso : SameObj t o' := top_sameObj he hn hn2
    exact settled_new _ _ o.ns name (inv_setEscaped w o.ns hi) he o' (hso.1.trans htns) (hso.2.1.trans htname)


theorem critExecute_world (w : World) (h : Nat) : (critExecute w h).1 = (apiExecute w h .nil).1 := by
  rw [apiExecute_split]

theorem critExecuteTemplate_world (w : World) (h : Nat) (name : String) :
    (critExecuteTemplate w h name).1 = (apiExecuteTemplate w h name .nil).1 := by
  rw [apiExecuteTemplate_split]

theorem apiLookup_world (w : World) (h : Nat) (name : String) (h' : Nat) :
    (∀ k, (apiLookup w h name h').1.ns k = w.ns k) ∧ (apiLookup w h name h').1.objs = w.objs ∧
    (apiLookup w h name h').1.fuel = w.fuel := by
  unfold apiLookup
  split
  · exact ⟨fun _ => rfl, rfl, rfl⟩
  · split
    · exact ⟨fun _ => rfl, rfl, rfl⟩
    · split <;> exact ⟨fun _ => rfl, rfl, rfl⟩

theorem settled_congr {F : String → Prop} {w w' : World} (hns : ∀ k, w'.ns k = w.ns k) (o : TObj)
    (hs : Settled F w o) : Settled F w' o := by
  unfold Settled at hs ⊢; rw [hns]; exact hs

theorem inv_congr {w w' : World} (hns : ∀ k, w'.ns k = w.ns k) (hobjs : w'.objs = w.objs) (hi : Inv w) : Inv w' := by
  obtain ⟨hg, hw, hok⟩ := hi
  refine ⟨fun k => by rw [hns k]; exact hg k, ?_, ?_⟩
  · intro ns name oid o h1 h2
    rw [hns] at h1; rw [hobjs] at h2
    exact hw ns name oid o h1 h2
  · intro id o h1 h2
    rw [hobjs] at h1
    obtain ⟨F, hF⟩ := hok id o h1 h2
    exact ⟨F, settled_congr hns o hF⟩

theorem toPend_exec {d d' : Value} {html html' : Bool} {r : Res ⊕ TObj} {o : TObj}
    (h : toPend d html r = .exec o d' html') : r = .inr o := by
  cases r with
  | inl _ => cases h
  | inr o2 => simp only [toPend, Pend.exec.injEq] at h; rw [h.1]

theorem call_spec (c : Call World Pend Ret) (hc : U c) (w : World) :
    (Inv w → Inv (c.crit w).1 ∧ ∀ o d html, (c.crit w).2 = .exec o d html → ∃ F, Settled F (c.crit w).1 o) ∧
    (∀ F o, Settled F w o → Settled F (c.crit w).1 o ∧ ∀ d, textExecute (c.crit w).1 o d = textExecute w o d) := by
  obtain ⟨op, hop⟩ := hc
  have hexec : ∀ hh d html,
      (Inv w → Inv ((execCall hh d html).crit w).1 ∧ ∀ o d' html', ((execCall hh d html).crit w).2 = .exec o d' html' →
        ∃ F, Settled F ((execCall hh d html).crit w).1 o) ∧
      (∀ F o, Settled F w o → Settled F ((execCall hh d html).crit w).1 o ∧
        ∀ d', textExecute ((execCall hh d html).crit w).1 o d' = textExecute w o d') := fun hh d html =>
    ⟨fun hi => ⟨(critExecute_spec w hh hi).1, fun o _ _ ho => (critExecute_spec w hh hi).2 o (toPend_exec ho)⟩,
     fun F o hs => by simp only [execCall, critExecute_world]; exact apiExecute_frozen F w hh .nil o hs⟩
  have hexect : ∀ hh n d html,
      (Inv w → Inv ((execTemplateCall hh n d html).crit w).1 ∧
        ∀ o d' html', ((execTemplateCall hh n d html).crit w).2 = .exec o d' html' →
        ∃ F, Settled F ((execTemplateCall hh n d html).crit w).1 o) ∧
      (∀ F o, Settled F w o → Settled F ((execTemplateCall hh n d html).crit w).1 o ∧
        ∀ d', textExecute ((execTemplateCall hh n d html).crit w).1 o d' = textExecute w o d') := fun hh n d html =>
    ⟨fun hi => ⟨(critExecuteTemplate_spec w hh n hi).1,
        fun o _ _ ho => (critExecuteTemplate_spec w hh n hi).2 o (toPend_exec ho)⟩,
     fun F o hs => by
      simp only [execTemplateCall, critExecuteTemplate_world]; exact apiExecuteTemplate_frozen F w hh n .nil o hs⟩
  cases op with
  | new | assocNew | parse | clone | csp => cases hop
  | lookup hh n h' =>
    simp only [callOf, Option.some.injEq] at hop; subst hop
    obtain ⟨a, b, f⟩ := apiLookup_world w hh n h'
    refine ⟨fun hi => ⟨inv_congr a b hi, fun o d html ho => nomatch ho⟩, fun F o hs => ⟨settled_congr a o hs, fun d => ?_⟩⟩
    exact textExecute_congr (by show ((apiLookup w hh n h').1.ns o.ns).text = _; rw [a]) f rfl rfl d
  | templates hh =>
    simp only [callOf, Option.some.injEq] at hop; subst hop
    exact ⟨fun hi => ⟨hi, fun o d html ho => nomatch ho⟩, fun F o hs => ⟨hs, fun _ => rfl⟩⟩
  | exec hh d => simp only [callOf, Option.some.injEq] at hop; subst hop; exact hexec hh d false
  | execHTML hh d => simp only [callOf, Option.some.injEq] at hop; subst hop; exact hexec hh d true
  | execT hh n d => simp only [callOf, Option.some.injEq] at hop; subst hop; exact hexect hh n d false
  | execTHTML hh n d => simp only [callOf, Option.some.injEq] at hop; subst hop; exact hexect hh n d true


/-! ### 6. stability and serializability -/

/-- what the unlocked phase of a call relies on: the object it is going to execute is settled -/
def Done (_c : Call World Pend Ret) (r : Pend) (w : World) : Prop :=
  ∀ o d html, r = .exec o d html → ∃ F, Settled F w o

theorem post_eq (c : Call World Pend Ret) (hc : U c) : c.post = postOf := by
  obtain ⟨op, hop⟩ := hc
  -- `callOf` builds every call with `post := postOf`
  cases op with
  | new | assocNew | parse | clone | csp => cases hop
  | lookup | templates | exec | execHTML | execT | execTHTML => cases hop; rfl

theorem api_stable : Stable U Inv Done where
  inv_crit := fun c s hU hinv => ((call_spec c hU s).1 hinv).1
  done_est := fun c s hU hinv => ((call_spec c hU s).1 hinv).2
  done_pres := fun c r d s _ hUd _ hdone o dd html hr => by
    obtain ⟨F, hF⟩ := hdone o dd html hr
    exact ⟨F, ((call_spec d hUd s).2 F o hF).1⟩
  post_stable := fun c r d s hUc hUd _ hdone => by
    rw [post_eq c hUc]
    cases r with
    | final r => rfl
    | exec o dd html =>
      obtain ⟨F, hF⟩ := hdone o dd html rfl
      simp only [postOf]
      rw [((call_spec d hUd s).2 F o hF).2 dd]

/-- C09 for the API model: every schedule is serializable. For every initial world satisfying `Inv`, all threads
    of calls of the concurrent API and every schedule `evs`, the concurrent run and the serial run (each call executed
    completely — `Api.step` — at the moment of its critical section) are related by `Conc.Rel`: same shared state, and
    every thread has the serial results (an outstanding unlocked phase will produce the serial result whenever it
    runs). -/
theorem C09_api_serializable (y : Sys World Pend Ret) (hinv : Inv y.s)
    (hfresh : ∀ t ∈ y.thr, t.pending = none ∧ t.done = [] ∧ ∀ c ∈ t.todo, U c) (evs : List Ev) :
    Rel U Inv Done (run y evs) (runSerial y evs) :=
  serializable api_stable y hinv hfresh evs

/-- when no call of thread `i` is outstanding, the thread has exactly the results of the serial run, and the shared
    state is the serial one -/
theorem C09_api_results (y : Sys World Pend Ret) (hinv : Inv y.s)
    (hfresh : ∀ t ∈ y.thr, t.pending = none ∧ t.done = [] ∧ ∀ c ∈ t.todo, U c) (evs : List Ev)
    (i : Nat) (ta tb : Thr World Pend Ret) (ha : (run y evs).thr[i]? = some ta)
    (hb : (runSerial y evs).thr[i]? = some tb) (hidle : ta.pending = none) :
    ta.done = tb.done ∧ (run y evs).s = (runSerial y evs).s :=
  serializable_results api_stable y hinv hfresh evs i ta tb ha hb hidle

theorem serial_is_api_step (w : World) (op : Op) (c : Call World Pend Ret) (h : callOf op = some c) :
    (c.crit w).1 = (Api.step w op).1 ∧ c.post (c.crit w).1 (c.crit w).2 = (Api.step w op).2 := by
  rw [step_eq_runCall w op c h]; exact ⟨rfl, rfl⟩

/-! ### 7. C08 for analysis and commit: two explicit panic sites are unreachable from good states

#### 7a. every memoized name has a template (text set or derived): `commit` never dereferences a vanished template -/

def NewMemo (text : TextSet) (e e' : Esc) : Prop :=
  (∀ n, Memo e' n → Memo e n ∨ (text.lookup n).isSome = true ∨ (alookup e'.derived n).isSome = true) ∧
  (∀ n, (alookup e.derived n).isSome = true → (alookup e'.derived n).isSome = true)

theorem NewMemo.refl (text : TextSet) (e : Esc) : NewMemo text e e := ⟨fun _ h => .inl h, fun _ h => h⟩

theorem NewMemo.trans {text : TextSet} {e e1 e2 : Esc} (h1 : NewMemo text e e1) (h2 : NewMemo text e1 e2) :
    NewMemo text e e2 := by
  refine ⟨fun n hm => ?_, fun n h => h2.2 n (h1.2 n h)⟩
  rcases h2.1 n hm with h | h | h
  · rcases h1.1 n h with h | h | h
    · exact .inl h
    · exact .inr (.inl h)
    · exact .inr (.inr (h2.2 n h))
  · exact .inr (.inl h)
  · exact .inr (.inr h)

theorem NewMemo.of_core {text : TextSet} {e e' : Esc} (ho : e'.output = e.output) (hd : e'.derived = e.derived) :
    NewMemo text e e' := by
  refine ⟨fun n hm => .inl ?_, fun n h => by rw [hd]; exact h⟩
  unfold Memo at hm ⊢; rw [ho] at hm; exact hm

theorem memo_setOutput (e : Esc) (k : String) (v : Ctx) (n : String)
    (h : Memo { e with output := aset e.output k v } n) : n = k ∨ Memo e n := by
  unfold Memo at h ⊢
  simp only [] at h
  rw [Analysis.alookup_aset] at h
  by_cases hn : n = k
  · exact .inl hn
  · rw [if_neg hn] at h; exact .inr h

theorem isSome_foldl_aset_inv {β} (l base : List (String × β)) (n : String)
    (h : (alookup (l.foldl (fun acc p => aset acc p.1 p.2) base) n).isSome = true) :
    (alookup base n).isSome = true ∨ (alookup l n).isSome = true := by
  cases hv : alookup (l.foldl (fun acc p => aset acc p.1 p.2) base) n with
  | none => rw [hv] at h; cases h
  | some v =>
    rcases Analysis.mem_foldl_aset l base (n, v) (Analysis.mem_of_alookup _ _ _ hv) with h1 | h1
    · exact .inl (Analysis.alookup_isSome_of_mem base (n, v) h1)
    · exact .inr (Analysis.alookup_isSome_of_mem l (n, v) h1)

theorem isSome_foldl_aset_list {β} (l base : List (String × β)) (n : String) (h : (alookup l n).isSome = true) :
    (alookup (l.foldl (fun acc p => aset acc p.1 p.2) base) n).isSome = true := by
  cases hv : alookup l n with
  | none => rw [hv] at h; cases h
  | some v =>
    have := Analysis.alookup_isSome_of_mem l.reverse (n, v)
      (List.mem_reverse.mpr (Analysis.mem_of_alookup _ _ _ hv))
    rw [Analysis.alookup_foldl_aset]
    cases hr : alookup l.reverse n with
    | none => rw [hr] at this; cases this
    | some _ => rfl

def NodeM (env : Env) (f : Nat) : Prop :=
  ∀ tn e c n r, escapeNode env f tn e c n = .ok r → NewMemo env.text e r.1
def ListM (env : Env) (f : Nat) : Prop :=
  ∀ tn e c l r, escapeList env f tn e c l = .ok r → NewMemo env.text e r.1
def BranchM (env : Env) (f : Nat) : Prop :=
  ∀ tn e c t el b r, escapeBranch env f tn e c t el b = .ok r → NewMemo env.text e r.1
def TreeM (env : Env) (f : Nat) : Prop :=
  ∀ e c name r, escapeTree env f e c name = .ok r → NewMemo env.text e r.1
def HasTmpl (text : TextSet) (e : Esc) (n : String) : Prop :=
  (text.lookup n).isSome = true ∨ (alookup e.derived n).isSome = true
def OutM (env : Env) (f : Nat) : Prop :=
  ∀ e c tname t r, HasTmpl env.text e tname → computeOutCtx env f e c tname t = .ok r → NewMemo env.text e r.1
def BodyM (env : Env) (f : Nat) : Prop :=
  ∀ e c tname t r, HasTmpl env.text e tname → escapeTemplateBody env f e c tname t = .ok r →
    NewMemo env.text e r.1

theorem NewMemo.setOut {text : TextSet} {e : Esc} (k : String) (v : Ctx) (hk : HasTmpl text e k) :
    NewMemo text e (Analysis.setOut e k v) :=
  ⟨fun n hm => (memo_setOutput e k v n hm).elim (fun hn => .inr (hn ▸ hk)) .inl, fun _ hd => hd⟩

theorem nodeM_succ {env f} (hb : BranchM env f) (ht : TreeM env f) : NodeM env (f + 1) := by
  intro tn e c n r h
  cases n with
  | action id p =>
    rw [Analysis.escapeNode_action] at h
    rcases Analysis.escapeAction_ok h with h1 | ⟨_, h1⟩ <;> rw [h1] <;> exact NewMemo.of_core rfl rfl
  | text id b =>
    rw [Analysis.escapeNode_text] at h
    rcases Analysis.escapeTextNode_ok h with h1 | ⟨_, h1⟩ <;> rw [h1] <;> exact NewMemo.of_core rfl rfl
  | ifN id p t el => rw [Analysis.escapeNode_if] at h; exact hb _ _ _ _ _ _ _ h
  | withN id p t el => rw [Analysis.escapeNode_with] at h; exact hb _ _ _ _ _ _ _ h
  | rangeN id p t el => rw [Analysis.escapeNode_range] at h; exact hb _ _ _ _ _ _ _ h
  | tmpl id name p =>
    obtain ⟨e1, d, h1, h2⟩ := Analysis.escapeNode_tmpl_ok h
    have s1 := ht _ _ _ _ h1
    rcases h2 with ⟨_, h2⟩ | ⟨_, h2⟩
    · rw [h2]; exact s1
    · rw [(Analysis.editTmpl_ok h2).1]; exact s1.trans (NewMemo.of_core rfl rfl)
  | brk id => rw [Analysis.escapeNode_brk] at h; cases h; exact NewMemo.refl _ _
  | cont id => rw [Analysis.escapeNode_cont] at h; cases h; exact NewMemo.refl _ _
  | comment id => rw [Analysis.escapeNode_comment] at h; cases h; exact NewMemo.refl _ _

theorem listM_succ {env f} (hn : NodeM env f) (hl : ListM env f) : ListM env (f + 1) := by
  intro tn e c l r h
  cases l with
  | nil => rw [Analysis.escapeList_nil] at h; cases h; exact NewMemo.refl _ _
  | cons n ns =>
    obtain ⟨e1, c1, h1, h2⟩ := Analysis.escapeList_cons_ok h
    exact (hn _ _ _ _ _ h1).trans (hl _ _ _ _ _ h2)

theorem branchM_succ {env f} (hl : ListM env f) : BranchM env (f + 1) := by
  intro tn e c t el b r h
  obtain ⟨e1, c0, h1, ⟨_, _, _, _, ⟨_, hr⟩ | ⟨_, e2, c2, h2, hr⟩⟩ | ⟨_, e2, c2, h2, hr⟩⟩ :=
    Analysis.escapeBranch_ok h <;> rw [hr]
  · exact hl _ _ _ _ (e1, c0) h1
  · exact (hl _ _ _ _ (e1, c0) h1).trans (hl _ _ _ _ (e2, c2) h2)
  · exact (hl _ _ _ _ (e1, c0) h1).trans (hl _ _ _ _ (e2, c2) h2)

theorem bodyM_succ {env f} (hl : ListM env f) : BodyM env (f + 1) := by
  intro e c tname t r ht h
  have hback : ∀ n, Memo (Analysis.setOut e tname c) n →
      Memo e n ∨ (env.text.lookup n).isSome = true ∨ (alookup e.derived n).isSome = true :=
    (NewMemo.setOut tname c ht).1
  obtain ⟨tr, e1, c1, _, h1, ⟨_, _, _, _, hr⟩ | ⟨_, hr⟩⟩ := Analysis.escapeTemplateBody_ok h <;> rw [hr]
  · -- accepted: the body's memo and derived tables are folded into those of `e`
    have s1 := hl _ _ _ _ (e1, c1) h1
    refine ⟨fun n hm => ?_, fun n hd => Analysis.isSome_foldl_aset _ _ _ hd⟩
    rcases isSome_foldl_aset_inv _ _ n hm with h6 | h6
    · exact (hback n h6).imp_right (.imp_right (Analysis.isSome_foldl_aset _ _ _))
    · rcases s1.1 n h6 with h7 | h7 | h7
      · exact (hback n h7).imp_right (.imp_right (Analysis.isSome_foldl_aset _ _ _))
      · exact .inr (.inl h7)
      · exact .inr (.inr (isSome_foldl_aset_list _ _ _ h7))
  · exact ⟨hback, fun _ hd => hd⟩

theorem outM_succ {env f} (hb : BodyM env f) : OutM env (f + 1) := by
  intro e c tname t r ht h
  have fin : ∀ (e2 : Esc) (v : Ctx), NewMemo env.text e e2 → NewMemo env.text e (Analysis.setOut e2 tname v) :=
    fun e2 v hs => hs.trans (NewMemo.setOut tname v (ht.elim .inl (fun hd => .inr (hs.2 _ hd))))
  obtain ⟨e1, c1, ok1, h1, ⟨_, hr⟩ | ⟨_, e2, c2, ok2, h2, hr⟩⟩ := Analysis.computeOutCtx_ok h
  · rw [hr]; exact fin e1 c1 (hb _ _ _ _ _ ht h1)
  · have s1 := hb _ _ _ _ _ ht h1
    have s12 := s1.trans (hb _ _ _ _ _ (ht.elim .inl (fun hd => .inr (s1.2 _ hd))) h2)
    rcases hr with ⟨_, hr⟩ | ⟨_, _, hr⟩ | ⟨_, _, hr⟩ <;> rw [hr] <;> exact fin e2 _ s12

theorem template_some {env : Env} {e : Esc} {n : String} {x : Option Tree}
    (h : Esc.template env e n = some x) : HasTmpl env.text e n := by
  unfold Esc.template at h
  split at h
  · rename_i t ht; exact .inl (by rw [ht]; rfl)
  · cases hd : alookup e.derived n with
    | none => rw [hd] at h; cases h
    | some d => exact .inr (by rw [hd]; rfl)

theorem treeM_succ {env f} (ho : OutM env f) : TreeM env (f + 1) := by
  intro e c name r h
  rcases Analysis.escapeTree_ok h with ⟨_, hr⟩ | ⟨_, _, _, hr⟩ | ⟨_, _, _, hr⟩ | ⟨_, _, tr, e1, c1, htmpl, h1, hr⟩ <;>
    rw [hr]
  · exact NewMemo.refl _ _
  · exact NewMemo.of_core rfl rfl
  · exact NewMemo.of_core rfl rfl
  · -- the template entered has a tree: itself, an existing derived one, or the one derived now
    rcases Analysis.enter_cases env e c name tr with ⟨hm, he⟩ | ⟨_, dt, hdt, he⟩ | ⟨_, _, dt, _, he⟩ <;>
      rw [he] at h1
    · have s := ho _ _ _ _ (e1, c1) (show HasTmpl env.text (Analysis.miss e c (mangle c name)) (mangle c name) by
        rw [hm]; exact template_some htmpl) h1
      exact ⟨s.1, s.2⟩
    · have s := ho _ _ _ _ (e1, c1)
        (show HasTmpl env.text (Analysis.miss e c (mangle c name)) (mangle c name) from template_some hdt) h1
      exact ⟨s.1, s.2⟩
    · have s := ho _ _ _ _ (e1, c1) (.inr (by
        show (alookup (aset e.derived (mangle c name) dt) (mangle c name)).isSome = true
        rw [Analysis.alookup_aset, if_pos rfl]; rfl)) h1
      exact ⟨s.1, fun n hd => s.2 n (Analysis.isSome_aset _ _ _ _ hd)⟩

theorem analysis_newMemo (env : Env) : ∀ f,
    NodeM env f ∧ ListM env f ∧ BranchM env f ∧ TreeM env f ∧ OutM env f ∧ BodyM env f :=
  Analysis.fuel_induction
    ⟨fun _ _ _ _ _ h => (by rw [Analysis.escapeNode_zero] at h; cases h),
     fun _ _ _ _ _ h => (by rw [Analysis.escapeList_zero] at h; cases h),
     fun _ _ _ _ _ _ _ h => (by rw [Analysis.escapeBranch_zero] at h; cases h),
     fun _ _ _ _ h => (by rw [Analysis.escapeTree_zero] at h; cases h),
     fun _ _ _ _ _ _ h => (by rw [Analysis.computeOutCtx_zero] at h; cases h),
     fun _ _ _ _ _ _ h => (by rw [Analysis.escapeTemplateBody_zero] at h; cases h)⟩
    (fun _ => nodeM_succ) (fun _ => listM_succ) (fun _ => branchM_succ) (fun _ => treeM_succ) (fun _ => outM_succ)
    (fun _ => bodyM_succ)


/-- between critical sections: every memoized name has a template -/
def HasT (text : TextSet) (e : Esc) : Prop := ∀ n, Memo e n → HasTmpl text e n

theorem hasT_fresh (text : TextSet) (e : Esc) (ho : e.output = []) : HasT text e := by
  intro n hm; unfold Memo at hm; rw [ho] at hm; cases hm

theorem hasT_analysis {env : Env} {e : Esc} (hT : HasT env.text e) (f : Nat) (c : Ctx) (name : String)
    (r : Esc × Ctx × String) (h : escapeTree env f e c name = .ok r) : HasT env.text r.1 := by
  have s := (analysis_newMemo env f).2.2.2.1 e c name r h
  intro n hm
  rcases s.1 n hm with h1 | h1 | h1
  · exact (hT n h1).elim .inl (fun hd => .inr (s.2 n hd))
  · exact .inl h1
  · exact .inr h1

def msgArgs : String := "index out of range: command without arguments"
def msgShared : String := "node shared between templates"
def msgLoop : String := "infinite loop in escapeText"
def msgCommit : String := "nil pointer dereference: e.template(name).Funcs in commit"
def msgNilTree : String := "nil pointer dereference: t.Tree.Root of a nil Tree"

theorem editStep_panic (e : Esc) (ts : TextSet) (n m : String) (h : editStep e ts n = .panic m) : m = msgArgs := by
  unfold editStep at h
  split at h
  · split at h
    · cases h
    · cases h; rfl
  · cases h

theorem edits_panic (e : Esc) (names : List String) : ∀ (ts : TextSet) (m : String),
    names.foldlM (editStep e) ts = .panic m → m = msgArgs := by
  induction names with
  | nil => intro ts m h; cases h
  | cons n t ih =>
    intro ts m h
    rw [List.foldlM_cons] at h
    rcases bind_panic h with h1 | ⟨ts1, _, h2⟩
    · exact editStep_panic e ts n m h1
    · exact ih ts1 m h2

/-- `commit` does not dereference a vanished template: from a state in which every memoized name has a template,
    the only panic `commit` can still report is the one of `ensurePipelineContains` (a command without arguments,
    impossible for parser-produced trees). -/
theorem commit_no_panic (text : TextSet) (e : Esc) (hT : HasT text e) (m : String)
    (h : commit text e = .panic m) : m = msgArgs := by
  have hall : (e.output.all fun p => (text.lookup p.1).isSome || (alookup e.derived p.1).isSome) = true := by
    rw [List.all_eq_true]
    intro p hp
    have := hT p.1 (alookup_isSome_of_mem e.output p hp)
    rcases this with h1 | h1
    · rw [h1]; rfl
    · rw [h1]; simp
  unfold commit at h
  simp only [hall, Bool.not_true, Bool.false_eq_true, if_false] at h
  rcases bind_panic h with h1 | ⟨t2, _, h2⟩
  · exact edits_panic _ _ _ m h1
  · cases h2


/-! #### 7b. no nil tree is analysed -/

def PanicOK (m : String) : Prop := m = msgArgs ∨ m = msgShared ∨ m = msgLoop

/-- no template of the set is registered with a nil parse tree -/
def NoNil (text : TextSet) : Prop := ∀ n, text.lookup n ≠ some none

theorem satP_of {α} {x : Out α} (h : ∀ m, x = .panic m → PanicOK m) : Analysis.Sat (fun _ => True) PanicOK x := by
  cases x with
  | ok a => trivial
  | panic m => exact h m rfl
  | fuel => trivial

theorem satP_edit {α} {x : Out α} (h : x = .panic msgShared ∨ ∃ a, x = .ok a) :
    Analysis.Sat (fun _ => True) PanicOK x := by
  rcases h with rfl | ⟨_, rfl⟩
  · exact .inr (.inl rfl)
  · trivial

theorem escapeAction_panic (env : Env) (tn : String) (e : Esc) (c : Ctx) (id : Nat) (p : Pipe) (m : String)
    (h : escapeAction env tn e c id p = .panic m) : PanicOK m := by
  refine Analysis.Sat.of_panic (Q := fun _ => True) ?_ h
  rcases Analysis.escapeAction_cases env tn e c id p with ⟨_, h1⟩ | ⟨_, h1, _⟩ | ⟨s, _, h1⟩ <;> rw [h1]
  · exact .inl rfl
  · trivial
  · exact (satP_edit ((Analysis.editAction_cases e (tn, id) s).imp And.right (fun h => ⟨_, h.2⟩))).bind
      fun _ _ => trivial

theorem escapeTextNode_panic (env : Env) (tn : String) (e : Esc) (c : Ctx) (id : Nat) (b : Bytes) (m : String)
    (h : escapeTextNode env tn e c id b = .panic m) : PanicOK m := by
  refine Analysis.Sat.of_panic (Q := fun _ => True) ?_ h
  rcases Analysis.escapeTextNode_cases env tn e c id b with ⟨_, h1⟩ | ⟨_, _, h1⟩ | ⟨_, nb, _, h1⟩ <;> rw [h1]
  · exact .inr (.inr rfl)
  · trivial
  · exact (satP_edit ((Analysis.editText_cases e (tn, id) nb).imp And.right (fun h => ⟨_, h.2⟩))).bind
      fun _ _ => trivial

theorem mergeEdits_panic {β} (from_ : List (EditKey × β)) (into : List (EditKey × β)) (m : String)
    (h : mergeEdits into from_ = .panic m) : m = msgShared := by
  rcases Analysis.mergeEdits_cases from_ into with h1 | h1 <;> rw [h1] at h <;> cases h
  rfl

def NodeP (env : Env) (f : Nat) : Prop := ∀ tn e c n m, escapeNode env f tn e c n = .panic m → PanicOK m
def ListP (env : Env) (f : Nat) : Prop := ∀ tn e c l m, escapeList env f tn e c l = .panic m → PanicOK m
def BranchP (env : Env) (f : Nat) : Prop :=
  ∀ tn e c t el b m, escapeBranch env f tn e c t el b = .panic m → PanicOK m
def TreeP (env : Env) (f : Nat) : Prop := ∀ e c name m, escapeTree env f e c name = .panic m → PanicOK m
def OutP (env : Env) (f : Nat) : Prop :=
  ∀ e c tname t m, t ≠ none → computeOutCtx env f e c tname t = .panic m → PanicOK m
def BodyP (env : Env) (f : Nat) : Prop :=
  ∀ e c tname t m, t ≠ none → escapeTemplateBody env f e c tname t = .panic m → PanicOK m

theorem nodeP_succ {env f} (hb : BranchP env f) (ht : TreeP env f) : NodeP env (f + 1) := by
  intro tn e c n m h
  cases n with
  | action id p => rw [Analysis.escapeNode_action] at h; exact escapeAction_panic _ _ _ _ _ _ _ h
  | text id b => rw [Analysis.escapeNode_text] at h; exact escapeTextNode_panic _ _ _ _ _ _ _ h
  | ifN id p t el => rw [Analysis.escapeNode_if] at h; exact hb _ _ _ _ _ _ _ h
  | withN id p t el => rw [Analysis.escapeNode_with] at h; exact hb _ _ _ _ _ _ _ h
  | rangeN id p t el => rw [Analysis.escapeNode_range] at h; exact hb _ _ _ _ _ _ _ h
  | tmpl id name p =>
    rw [Analysis.escapeNode_tmpl] at h
    refine Analysis.Sat.of_panic (Q := fun _ => True) ?_ h
    refine (satP_of (ht e c name)).bind fun r _ => ?_
    split
    · exact (satP_edit ((Analysis.editTmpl_cases r.1 (tn, id) r.2.2).imp And.right (fun h => ⟨_, h.2⟩))).bind
        fun _ _ => trivial
    · trivial
  | brk id => rw [Analysis.escapeNode_brk] at h; cases h
  | cont id => rw [Analysis.escapeNode_cont] at h; cases h
  | comment id => rw [Analysis.escapeNode_comment] at h; cases h

theorem listP_succ {env f} (hn : NodeP env f) (hl : ListP env f) : ListP env (f + 1) := by
  intro tn e c l m h
  cases l with
  | nil => rw [Analysis.escapeList_nil] at h; cases h
  | cons n ns =>
    rw [Analysis.escapeList_cons] at h
    exact ((satP_of (hn tn e c n)).bind fun r _ => satP_of (hl tn r.1 r.2 ns)).of_panic h

theorem branchP_succ {env f} (hl : ListP env f) : BranchP env (f + 1) := by
  intro tn e c t el b m h
  rw [Analysis.escapeBranch_succ] at h
  refine Analysis.Sat.of_panic (Q := fun _ => True) ?_ h
  refine (satP_of (hl tn e c t)).bind fun r _ => Analysis.Sat.bind (Q := fun _ => True) ?_ fun o _ => ?_
  · split
    · exact (satP_of (hl _ _ _ _)).bind fun _ _ => trivial
    · trivial
  · cases o with
    | some j =>
      dsimp only
      split
      · trivial
      · exact (satP_of (hl _ _ _ _)).bind fun _ _ => trivial
    | none => exact (satP_of (hl _ _ _ _)).bind fun _ _ => trivial

theorem bodyP_succ {env f} (hl : ListP env f) : BodyP env (f + 1) := by
  intro e c tname t m hne h
  rw [Analysis.escapeTemplateBody_succ] at h
  cases t with
  | none => exact absurd rfl hne
  | some tr =>
    refine Analysis.Sat.of_panic (Q := fun _ => True) ?_ h
    refine (satP_of (hl _ _ _ _)).bind fun r _ => ?_
    have hm : ∀ {β} (into from_ : List (EditKey × β)), Analysis.Sat (fun _ => True) PanicOK (mergeEdits into from_) :=
      fun into from_ => satP_of fun m h => .inr (.inl (mergeEdits_panic from_ into m h))
    split
    · exact (hm _ _).bind fun _ _ => (hm _ _).bind fun _ _ => (hm _ _).bind fun _ _ => trivial
    · trivial

theorem outP_succ {env f} (hb : BodyP env f) : OutP env (f + 1) := by
  intro e c tname t m hne h
  rw [Analysis.computeOutCtx_succ] at h
  refine Analysis.Sat.of_panic (Q := fun _ => True) ?_ h
  refine (satP_of (hb _ _ _ _ · hne)).bind fun r1 _ => ?_
  split
  · trivial
  · refine (satP_of (hb _ _ _ _ · hne)).bind fun r2 _ => ?_
    split
    · trivial
    · split <;> trivial

theorem template_noNil {env : Env} (hnn : NoNil env.text) {e : Esc} {n : String} {dt : Option Tree}
    (h : Esc.template env e n = some dt) : dt ≠ none := by
  unfold Esc.template at h
  split at h
  · rename_i t ht
    cases h
    intro hn; subst hn
    exact hnn n ht
  · cases hd : alookup e.derived n with
    | none => rw [hd] at h; cases h
    | some d => rw [hd] at h; cases h; intro hn; cases hn

theorem treeP_succ {env f} (hnn : NoNil env.text) (ho : OutP env f) : TreeP env (f + 1) := by
  intro e c name m h
  rw [Analysis.escapeTree_succ] at h
  refine Analysis.Sat.of_panic (Q := fun _ => True) ?_ h
  split
  · trivial
  · split
    · trivial
    · split
      · rename_i tr _
        -- the tree entered is the template's own, an existing derived one (not nil), or a copy made now
        have hne : (Analysis.enter env e c name tr).2 ≠ none := by
          rcases Analysis.enter_cases env e c name tr with ⟨_, he⟩ | ⟨_, dt, hdt, he⟩ | ⟨_, _, dt, _, he⟩ <;> rw [he]
          · exact fun hx => nomatch hx
          · exact template_noNil hnn hdt
          · exact fun hx => nomatch hx
        exact (satP_of (ho _ _ _ _ · hne)).bind fun _ _ => trivial
      · trivial

/-- under `NoNil`, the analysis can only panic at the three sites that concern malformed trees (a command without
    arguments, a node shared between templates) or the loop guard of `escapeText` -/
theorem analysis_panics (env : Env) (hnn : NoNil env.text) : ∀ f,
    NodeP env f ∧ ListP env f ∧ BranchP env f ∧ TreeP env f ∧ OutP env f ∧ BodyP env f :=
  Analysis.fuel_induction
    ⟨fun _ _ _ _ _ h => (by rw [Analysis.escapeNode_zero] at h; cases h),
     fun _ _ _ _ _ h => (by rw [Analysis.escapeList_zero] at h; cases h),
     fun _ _ _ _ _ _ _ h => (by rw [Analysis.escapeBranch_zero] at h; cases h),
     fun _ _ _ _ h => (by rw [Analysis.escapeTree_zero] at h; cases h),
     fun _ _ _ _ _ _ h => (by rw [Analysis.computeOutCtx_zero] at h; cases h),
     fun _ _ _ _ _ _ h => (by rw [Analysis.escapeTemplateBody_zero] at h; cases h)⟩
    (fun _ => nodeP_succ) (fun _ => listP_succ) (fun _ => branchP_succ) (fun _ => treeP_succ hnn)
    (fun _ => outP_succ) (fun _ => bodyP_succ)


/-! #### 7c. one critical section -/

theorem panicOK_ne (m : String) (h : PanicOK m) : m ≠ msgCommit ∧ m ≠ msgNilTree := by
  rcases h with rfl | rfl | rfl <;> exact ⟨by decide, by decide⟩

/-- C08 for one analysis under the mutex. From a state in which every memoized name has a template
    and no template has a nil tree, `escapeTemplateTop` cannot report the nil dereference of `commit`
    (`e.template(name).Funcs`) nor the one of `escapeTemplateBody` (`t.Tree.Root`); whatever panic it reports is one
    of: a command without arguments, a node shared between templates, the loop guard of `escapeText`. -/
theorem escapeTemplateTop_no_panic_partial (w : World) (ns : Nat) (name : String) (m : String)
    (hT : HasT (w.ns ns).text (w.ns ns).esc) (hnn : NoNil (w.ns ns).text)
    (h : escapeTemplateTop w ns name = .inl (.panic m)) : PanicOK m := by
  rcases top_inl h with ⟨_, hx⟩ | ⟨_, he, hx⟩ | ⟨e1, c, d, he, _, ⟨_, hx⟩ | ⟨_, hc, hx⟩⟩ <;> cases hx
  · exact (analysis_panics (analysisEnv w ns) hnn w.fuel).2.2.2.1 _ _ _ _ he
  · exact .inl (commit_no_panic _ _ (hasT_analysis (env := analysisEnv w ns) hT _ _ _ _ he) _ hc)

theorem escapeTemplateTop_no_nil_panics (w : World) (ns : Nat) (name : String) (m : String)
    (hT : HasT (w.ns ns).text (w.ns ns).esc) (hnn : NoNil (w.ns ns).text)
    (h : escapeTemplateTop w ns name = .inl (.panic m)) : m ≠ msgCommit ∧ m ≠ msgNilTree :=
  panicOK_ne m (escapeTemplateTop_no_panic_partial w ns name m hT hnn h)

theorem isSome_lookup_set (ts : TextSet) (n : String) (t : Option Tree) (m : String)
    (h : (ts.lookup m).isSome = true) : ((ts.set n t).lookup m).isSome = true := by
  rw [lookup_set]; split
  · rfl
  · exact h

theorem install_isSome (ds : List (String × Tree)) : ∀ (ts : TextSet) (m : String),
    (ts.lookup m).isSome = true → ((ds.foldl installStep ts).lookup m).isSome = true := by
  intro ts m h
  rcases install_lookup ds ts m with h1 | ⟨_, _, h1⟩ <;> rw [h1]
  · exact h
  · rfl

theorem editStep_isSome_noNil (e : Esc) (ts ts' : TextSet) (n : String) (h : editStep e ts n = .ok ts') :
    (∀ m, (ts.lookup m).isSome = true → (ts'.lookup m).isSome = true) ∧ (NoNil ts → NoNil ts') := by
  unfold editStep at h
  split at h
  · split at h
    · cases h
      refine ⟨fun m hm => isSome_lookup_set _ _ _ _ hm, fun hnn m hm => ?_⟩
      rw [lookup_set] at hm
      split at hm
      · cases hm
      · exact hnn m hm
    · cases h
  · cases h; exact ⟨fun _ h => h, fun h => h⟩

theorem edits_isSome_noNil (e : Esc) (names : List String) : ∀ (ts ts' : TextSet),
    names.foldlM (editStep e) ts = .ok ts' →
    (∀ m, (ts.lookup m).isSome = true → (ts'.lookup m).isSome = true) ∧ (NoNil ts → NoNil ts') := by
  intro ts ts' h
  refine foldlM_ok_ind (P := fun x => (∀ m, (ts.lookup m).isSome = true → (x.lookup m).isSome = true) ∧
    (NoNil ts → NoNil x)) names ts ts' h ⟨fun _ h => h, fun h => h⟩ fun n _ x y hxy hx => ?_
  obtain ⟨a1, a2⟩ := editStep_isSome_noNil e x y n hxy
  exact ⟨fun m hm => a1 m (hx.1 m hm), fun hnn => a2 (hx.2 hnn)⟩

theorem install_noNil (ds : List (String × Tree)) (ts : TextSet) (h : NoNil ts) : NoNil (ds.foldl installStep ts) := by
  intro n hn
  rcases install_lookup ds ts n with h1 | ⟨d, _, h1⟩
  · rw [h1] at hn; exact h n hn
  · rw [h1] at hn; cases hn

theorem hasT_commit (text : TextSet) (e : Esc) (text2 : TextSet) (e2 : Esc)
    (hT : HasT text e) (h : commit text e = .ok (text2, e2)) : HasT text2 e2 := by
  have hpost := commit_post text e text2 e2 h
  obtain ⟨pr, h1, rfl⟩ := commit_spec text e text2 e2 h
  obtain ⟨k1, _⟩ := edits_isSome_noNil _ _ _ _ h1
  intro n hm
  rcases hT n hm with h2 | h2
  · exact .inl (k1 n (install_isSome _ _ n h2))
  · left
    cases hv : alookup e.derived n with
    | none => rw [hv] at h2; cases h2
    | some d =>
      have hmem := mem_of_alookup _ _ _ hv
      have : relink text2 (n, d) ∈ (e.derived.map (relink text2)) := List.mem_map.mpr ⟨_, hmem, rfl⟩
      have := hpost.2.2.2.2.2 _ this
      rw [relink_fst] at this
      rw [this]; rfl

theorem noNil_commit (text : TextSet) (e : Esc) (text2 : TextSet) (e2 : Esc)
    (hnn : NoNil text) (h : commit text e = .ok (text2, e2)) : NoNil text2 := by
  obtain ⟨pr, h1, rfl⟩ := commit_spec text e text2 e2 h
  exact (edits_isSome_noNil _ _ _ _ h1).2 (install_noNil _ _ hnn)

theorem top_keeps_hasT (w w' : World) (ns : Nat) (name : String) (r : Option ErrCode)
    (hT : HasT (w.ns ns).text (w.ns ns).esc) (h : escapeTemplateTop w ns name = .inr (w', r)) :
    HasT (w'.ns ns).text (w'.ns ns).esc := by
  obtain ⟨e1, c, d, he, hr⟩ := top_inr h
  have hT1 := hasT_analysis (env := analysisEnv w ns) hT _ _ _ _ he
  rcases hr with ⟨code, _, _, rfl⟩ | ⟨t, e2, _, hc, _, rfl⟩
  · rw [ns_markFailed, if_pos rfl]; exact hT1
  · rw [ns_markOk, if_pos rfl]; exact hasT_commit _ _ _ _ hT1 hc

theorem top_keeps_noNil (w w' : World) (ns : Nat) (name : String) (r : Option ErrCode)
    (hnn : NoNil (w.ns ns).text) (h : escapeTemplateTop w ns name = .inr (w', r)) : NoNil (w'.ns ns).text := by
  obtain ⟨e1, c, d, _, ⟨code, _, _, rfl⟩ | ⟨t, e2, _, hc, _, rfl⟩⟩ := top_inr h
  · rw [ns_markFailed, if_pos rfl]; exact hnn
  · rw [ns_markOk, if_pos rfl]; exact noNil_commit _ _ _ _ hnn hc

theorem top_keeps_hasT_noNil (w w' : World) (ns : Nat) (name : String) (r : Option ErrCode)
    (hT : HasT (w.ns ns).text (w.ns ns).esc) (hnn : NoNil (w.ns ns).text)
    (h : escapeTemplateTop w ns name = .inr (w', r)) :
    HasT (w'.ns ns).text (w'.ns ns).esc ∧ NoNil (w'.ns ns).text :=
  ⟨top_keeps_hasT w w' ns name r hT h, top_keeps_noNil w w' ns name r hnn h⟩

/-! ### What is and is not covered

C09. `crit` is the part of a call under `nameSpace.mu` (set `escaped`, look up, analyse, decide what to execute), `post`
is `textExecute` on the world as it is when the unlocked phase runs; by `step_eq_runCall` the serial semantics of
`Model/Conc` is literally the API state machine of the correspondence check. `Name` and `DefinedTemplates` are not model
operations. The remaining hypothesis, `Inv` of the initial world, is discharged for every reachable world in
`Proofs/ConcReach.lean`.

C08. Explicit panic sites not covered here: "index out of range: command without arguments" (`escapeAction`/
`predefinedCheck`, `commit`/`ensurePipelineContains`; `Proofs/NoPanic`, for parser-shaped trees), "node shared between
templates" (`Esc.editAction/editTmpl/editText`, `mergeEdits`) and the execution-time "nil pointer dereference:
execution of a called template whose Tree is nil" (`textExecute`; both `Proofs/NoPanic2`), "infinite loop in
escapeText" (`escapeTextLoop` fuel / no-progress guard; open, see `Proofs/NoPanic4`). Fuel exhaustion (`Out.fuel`) is
excluded in `NoPanic4` for the analysis of trees without `{{template}}` nodes only. `NoNil` is a genuine hypothesis here: `apiClone` can
register a template with a nil tree (`NoPanic3.C08_step_panics` drops it and keeps that panic in its conclusion).
-/

end SafeHtml.Proofs.ConcApi
