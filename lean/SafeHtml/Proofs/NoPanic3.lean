/-
C08. The analysis invariants of `NoPanic`/`NoPanic2` (without `NoNil`) hold in every world reachable by operations
whose `Parse` steps carry parser-shaped trees (`WInv`, `winv_step`, `ReachableP`); there the only panics of the four
`Execute*` operations are `msgLoop` and `msgNilTree` (`C08_step_panics`). Section 5 starts on `msgLoop`: the context
invariant `CI` and the zero-byte return of `tSpecialTagEnd`; `NoPanic4` has the other transitions and the guard itself.
-/
import SafeHtml.Proofs.NoPanic2
namespace SafeHtml.Proofs.NoPanic3
open SafeHtml SafeHtml.Model.Tmpl SafeHtml.Proofs.Analysis SafeHtml.Proofs.Frozen SafeHtml.Proofs.ConcApi
  SafeHtml.Proofs.ConcReach SafeHtml.Proofs.ApiFrames SafeHtml.Proofs.NoPanic SafeHtml.Proofs.NoPanic2

/-! ### 1. the invariants of one name space (without `NoNil`) -/

def QE (n : NS) : Prop :=
  n.escaped = false → n.esc.output = [] ∧ n.esc.derived = [] ∧ n.esc.pristine = [] ∧ n.esc.actionEdits = [] ∧
    n.esc.tmplEdits = [] ∧ n.esc.textEdits = []

def AI (n : NS) : Prop := HasT n.text n.esc ∧ TW n.text ∧ EW n.esc ∧ SI n.text n.esc ∧ NT n.text n.esc

def TextOK (text : TextSet) : Prop := TW text ∧ TD text

theorem ai_fresh (n : NS) (h : n.escaped = false) (hq : QE n) (ht : TextOK n.text) : AI n :=
  have ⟨ho, hd, hp, ha, htm, hx⟩ := hq h
  ⟨hasT_fresh _ _ ho, ht.1, escAll_of_nil hd hp,
    ⟨ht.2, (nd_km_of_nil ha htm hx).1, (nd_km_of_nil ha htm hx).2, escAll_of_nil hd hp⟩, nt_fresh _ _ ho⟩

theorem ai_top (w w' : World) (ns : Nat) (name : String) (r : Option ErrCode) (h : AI (w.ns ns))
    (ht : escapeTemplateTop w ns name = .inr (w', r)) : AI (w'.ns ns) := by
  obtain ⟨h1, h2, h3, h4, h5⟩ := h
  obtain ⟨b1, b2⟩ := (top_args w ns name h2 h3).2 w' r ht
  exact ⟨top_keeps_hasT w w' ns name r h1 ht, b1, b2, (top_shared w ns name h4).2 w' r ht,
    top_keeps_NT w w' ns name r h5 ht⟩

/-! ### 2. name spaces under the construction operations -/

def CoreSame (n n' : NS) : Prop := n'.text = n.text ∧ n'.esc = n.esc ∧ n'.csp = n.csp ∧ n'.escaped = n.escaped
def IsNew (n : NS) : Prop := n.text = [] ∧ n.esc = {} ∧ n.escaped = false
def CoreRel (w w' : World) : Prop :=
  w'.v = w.v ∧ w'.fuel = w.fuel ∧ ∀ k, CoreSame (w.ns k) (w'.ns k) ∨ IsNew (w'.ns k)

theorem CoreRel.refl (w : World) : CoreRel w w := ⟨rfl, rfl, fun _ => .inl ⟨rfl, rfl, rfl, rfl⟩⟩

theorem CoreRel.trans {w w1 w2 : World} (h1 : CoreRel w w1) (h2 : CoreRel w1 w2) : CoreRel w w2 := by
  obtain ⟨v1, f1, k1⟩ := h1
  obtain ⟨v2, f2, k2⟩ := h2
  refine ⟨v2.trans v1, f2.trans f1, fun k => ?_⟩
  rcases k2 k with ⟨a, b, c, d⟩ | h
  · rcases k1 k with ⟨a1, b1, c1, d1⟩ | ⟨a1, b1, d1⟩
    · exact .inl ⟨a.trans a1, b.trans b1, c.trans c1, d.trans d1⟩
    · exact .inr ⟨a.trans a1, b.trans b1, d.trans d1⟩
  · exact .inr h

theorem QE_AI_of_core {n n' : NS} (a : n'.text = n.text) (b : n'.esc = n.esc) (c : n'.escaped = n.escaped)
    (hq : QE n) (ha : AI n) : QE n' ∧ AI n' := by
  unfold QE AI
  rw [a, b, c]
  exact ⟨hq, ha⟩

theorem QE_AI_of_new {n : NS} (h : IsNew n) : QE n ∧ AI n := by
  obtain ⟨a, b, c⟩ := h
  have hq : QE n := by intro _; rw [b]; exact ⟨rfl, rfl, rfl, rfl, rfl, rfl⟩
  refine ⟨hq, ai_fresh n c hq ⟨?_, ?_⟩⟩
  · intro m tr hl; rw [a] at hl; cases hl
  · intro m tr hl; rw [a] at hl; cases hl

def WInv (w : World) : Prop := ∀ k, QE (w.ns k) ∧ AI (w.ns k)

theorem winv_core {w w' : World} (h : CoreRel w w') (hw : WInv w) : WInv w' := by
  intro k
  rcases h.2.2 k with ⟨a, b, _, c⟩ | h1
  · exact QE_AI_of_core a b c (hw k).1 (hw k).2
  · exact QE_AI_of_new h1

theorem core_setObj (w : World) (id : Nat) (o : TObj) : CoreRel w (w.setObj id o) := CoreRel.refl w

theorem core_newSet (w : World) (name : String) : CoreRel w (w.newSet name).1 := by
  refine ⟨rfl, rfl, fun k => ?_⟩
  rw [newSet_ns]
  by_cases hk : k = w.next
  · rw [if_pos hk]; exact .inr ⟨rfl, rfl, rfl⟩
  · rw [if_neg hk]; exact .inl ⟨rfl, rfl, rfl, rfl⟩

theorem core_bindNew (w : World) (k : Nat) (name : String) (obj : TObj) : CoreRel w (bindNew w k name obj).1 := by
  refine ⟨rfl, rfl, fun j => ?_⟩
  rw [bindNew_ns]
  by_cases hj : j = k
  · rw [if_pos hj, hj]; exact .inl ⟨rfl, rfl, rfl, rfl⟩
  · rw [if_neg hj]; exact .inl ⟨rfl, rfl, rfl, rfl⟩

theorem core_assocNew (w : World) (k : Nat) (name : String) : CoreRel w (w.assocNew k name).1 := by
  rw [assocNew_eq]
  refine CoreRel.trans ?_ (core_bindNew _ k name _)
  split
  · split
    · exact (core_newSet w name).trans (core_setObj _ _ _)
    · exact core_newSet w name
  · exact CoreRel.refl w

theorem core_parseStep (k : Nat) (w : World) (p : String × Option Tree) : CoreRel w (parseStep k w p) := by
  unfold parseStep
  simp only []
  cases hl : alookup (w.ns k).set p.1 with
  | some tid =>
    simp only []
    cases nlookup w.objs tid <;> exact CoreRel.refl w
  | none =>
    simp only []
    cases nlookup (w.assocNew k p.1).1.objs (w.assocNew k p.1).2 <;> exact core_assocNew w k p.1

theorem core_parseFold (k : Nat) (l : List (String × Option Tree)) (w : World) : CoreRel w (l.foldl (parseStep k) w) :=
  foldl_rel CoreRel.refl CoreRel.trans (core_parseStep k) l w

/-- the trees handed to `Parse` are parser-shaped: commands have arguments, node ids are distinct (the latter holds for
    everything decoded from the wire format, `NoPanic2.parseDefsBytes_ids`) -/
def DefsOK (defs : List Tree) : Prop := ∀ tr ∈ defs, listWF tr.root ∧ IdsDistinct tr.root

theorem textOK_set (text : TextSet) (tr : Tree) (h : TextOK text) (ht : listWF tr.root ∧ IdsDistinct tr.root) :
    TextOK (text.set tr.name (some tr)) := by
  refine ⟨?_, ?_⟩
  · intro n t hl
    rw [lookup_set] at hl
    split at hl
    · cases hl; exact ht.1
    · exact h.1 n t hl
  · intro n t hl
    rw [lookup_set] at hl
    split at hl
    · cases hl; exact ht.2
    · exact h.2 n t hl

theorem addParseTree_ok (text : TextSet) (nm : String) (reg : Bool) (tr : Tree) (h : TextOK text)
    (ht : listWF tr.root ∧ IdsDistinct tr.root) : TextOK (addParseTree text nm reg tr).1 := by
  -- whatever the test `keepOld` says, the text set is kept or `tr` is entered under its name
  have key : ∀ keepOld : Bool, TextOK (if keepOld then (text, reg)
      else (text.set tr.name (some tr), if tr.name == nm then true else reg)).1 := by
    intro keepOld
    cases keepOld
    · exact textOK_set text tr h ht
    · exact h
  exact key _

theorem parsed_ok (nm : String) (defs : List Tree) : ∀ (acc : TextSet × Bool), TextOK acc.1 → DefsOK defs →
    TextOK (defs.foldl (fun (acc : TextSet × Bool) tr => addParseTree acc.1 nm acc.2 tr) acc).1 := by
  induction defs with
  | nil => intro acc h _; exact h
  | cons tr t ih =>
    intro acc h hd
    rw [List.foldl_cons]
    exact ih _ (addParseTree_ok acc.1 nm acc.2 tr h (hd tr (List.mem_cons_self ..)))
      (fun x hx => hd x (List.mem_cons_of_mem _ hx))

theorem ai_textOK {n : NS} (h : AI n) : TextOK n.text := ⟨h.2.1, h.2.2.2.1.1⟩

theorem winv_setText (w : World) (k : Nat) (n : NS) (hw : WInv w) (hesc : (w.ns k).escaped = false)
    (hn1 : n.esc = (w.ns k).esc) (hn2 : n.escaped = false) (ht : TextOK n.text) : WInv (w.setNs k n) := by
  intro j
  rw [ns_setNs]
  by_cases hj : j = k
  · rw [if_pos hj]
    have hq : QE n := by
      intro _
      rw [hn1]
      exact (hw k).1 hesc
    exact ⟨hq, ai_fresh n hn2 hq ht⟩
  · rw [if_neg hj]; exact hw j

theorem winv_apiParse (w : World) (h : Nat) (defs : List Tree) (hw : WInv w) (hd : DefsOK defs) :
    WInv (apiParse w h defs).1 := by
  rcases apiParse_cases w h defs with ⟨_, hc⟩ | ⟨oid, o, text, reg, _, hesc, hacc, hc⟩ <;> rw [hc]
  · exact hw
  · have htxt := parsed_ok o.name defs ((w.ns o.ns).text, o.registered) (ai_textOK (hw o.ns).2) hd
    rw [hacc] at htxt
    exact winv_core (core_parseFold o.ns text _)
      (winv_setText (w.setObj oid { o with registered := reg }) o.ns { w.ns o.ns with text := text } hw hesc rfl hesc
        htxt)

theorem lookup_map_none (text : TextSet) (nm : String) (n : String) (tr : Tree)
    (h : TextSet.lookup (text.map (fun p => if (p.1 == nm) = true then (p.1, none) else p)) n = some (some tr)) :
    text.lookup n = some (some tr) := by
  rw [lookup_eq_alookup] at h ⊢
  induction text with
  | nil => cases h
  | cons p t ih =>
    rw [List.map_cons, alookup_cons] at h
    rw [alookup_cons]
    by_cases hp : (p.1 == nm) = true
    · rw [if_pos hp] at h
      simp only [] at h
      split at h
      · cases h
      · rename_i hne; rw [if_neg hne]; exact ih h
    · rw [if_neg hp] at h
      split at h
      · rename_i heq; rw [if_pos heq]; exact h
      · rename_i hne; rw [if_neg hne]; exact ih h

theorem core_cloneFold (nsId : Nat) (l : List (String × Option Tree)) (w : World) :
    CoreRel w (l.foldl (cloneStep nsId) w) :=
  foldl_rel CoreRel.refl CoreRel.trans (f := cloneStep nsId)
    (fun a p => show CoreRel a (cloneStep nsId a p) from core_bindNew a nsId p.1 _) l w

theorem winv_apiClone (w : World) (h h' : Nat) (hw : WInv w) : WInv (apiClone w h h').1 := by
  rcases apiClone_cases w h h' with ⟨_, hc, _⟩ | ⟨oid, o, _, _, hc⟩
  · rw [hc]; exact hw
  · have hok := ai_textOK (hw o.ns).2
    have hct : TextOK (cloneText w o) := by
      unfold cloneText
      split
      · exact hok
      · exact ⟨fun n tr hl => hok.1 n tr (lookup_map_none _ _ n tr hl),
          fun n tr hl => hok.2 n tr (lookup_map_none _ _ n tr hl)⟩
    have h0 : WInv (cloneHead w o.name (cloneText w o)) := by
      intro j
      unfold cloneHead
      rw [ns_setNs]
      by_cases hj : j = w.next
      · rw [if_pos hj]
        have hq : QE ({ set := [(o.name, w.next + 1)], text := cloneText w o } : NS) :=
          fun _ => ⟨rfl, rfl, rfl, rfl, rfl, rfl⟩
        exact ⟨hq, ai_fresh _ rfl hq hct⟩
      · rw [if_neg hj]; exact hw j
    have h1 := winv_core (core_cloneFold w.next (cloneText w o) _) h0
    obtain ⟨_, _, hc⟩ := hc
    rw [hc]
    exact h1

theorem winv_setEscaped (w : World) (k : Nat) (hw : WInv w) : WInv (w.setNs k { w.ns k with escaped := true }) := by
  intro j
  rw [ns_setNs]
  by_cases hj : j = k
  · rw [if_pos hj]
    exact ⟨fun h => (nomatch h), (hw k).2⟩
  · rw [if_neg hj]; exact hw j

theorem winv_top (w w' : World) (ns : Nat) (name : String) (r : Option ErrCode) (hw : WInv w)
    (hesc : (w.ns ns).escaped = true) (h : escapeTemplateTop w ns name = .inr (w', r)) : WInv w' := by
  intro j
  by_cases hj : j = ns
  · subst hj
    refine ⟨fun hf => ?_, ai_top w w' j name r (hw j).2 h⟩
    rw [escapeTemplateTop_escaped w j name w' r h, hesc] at hf
    cases hf
  · rw [ns_top h j hj]; exact hw j

theorem winv_critExecute (w : World) (h : Nat) (hw : WInv w) : WInv (critExecute w h).1 :=
  critExecute_ind WInv w h hw (fun k => winv_setEscaped w k hw) fun k name w' r he =>
    winv_top _ w' k name r (winv_setEscaped w k hw) (by rw [ns_setNs_same]) he

theorem winv_critExecuteTemplate (w : World) (h : Nat) (name : String) (hw : WInv w) :
    WInv (critExecuteTemplate w h name).1 :=
  critExecuteTemplate_ind WInv w h name hw (fun k => winv_setEscaped w k hw) fun k name w' r he =>
    winv_top _ w' k name r (winv_setEscaped w k hw) (by rw [ns_setNs_same]) he

def OpOK : Op → Prop
  | .parse _ defs => DefsOK defs
  | _ => True

theorem winv_step (w : World) (op : Op) (hw : WInv w) (hop : OpOK op) : WInv (Api.step w op).1 := by
  cases op with
  | new h name => exact winv_core (core_newSet w name) hw
  | assocNew h name h' =>
    simp only [Api.step]
    cases hobj : w.obj h with
    | none => exact hw
    | some p => exact winv_core (core_assocNew w p.2.ns name) hw
  | parse h defs => exact winv_apiParse w h defs hw hop
  | clone h h' => exact winv_apiClone w h h' hw
  | lookup h name h' =>
    obtain ⟨a, _, _⟩ := apiLookup_world w h name h'
    intro k
    show QE ((apiLookup w h name h').1.ns k) ∧ AI ((apiLookup w h name h').1.ns k)
    rw [a k]; exact hw k
  | templates h => exact hw
  | csp h =>
    simp only [Api.step]
    cases hobj : w.obj h with
    | none => exact hw
    | some p =>
      intro k
      simp only []
      rw [ns_setNs]
      by_cases hk : k = p.2.ns
      · rw [if_pos hk]; exact QE_AI_of_core rfl rfl rfl (hw p.2.ns).1 (hw p.2.ns).2
      · rw [if_neg hk]; exact hw k
  | exec h d => rw [step_exec]; exact winv_critExecute w h hw
  | execHTML h d => rw [step_execHTML]; exact winv_critExecute w h hw
  | execT h n d => rw [step_execT]; exact winv_critExecuteTemplate w h n hw
  | execTHTML h n d => rw [step_execTHTML]; exact winv_critExecuteTemplate w h n hw

/-- reachable from the empty world (empty handle table) by operations whose `Parse` steps carry parser-shaped trees -/
inductive ReachableP : World → Prop where
  | init (w : World) (h : Initial w) (hh : w.handles = []) : ReachableP w
  | step (w : World) (op : Op) (h : ReachableP w) (hop : OpOK op) : ReachableP (Api.step w op).1

theorem ReachableP.reachable0 {w : World} (h : ReachableP w) : Reachable0 w := by
  induction h with
  | init w h hh => exact Reachable0.init w h hh
  | step w op _ _ ih => exact Reachable0.step w op ih

theorem winv_initial (w : World) (h : Initial w) : WInv w := by
  intro k
  have : w.ns k = {} := by unfold World.ns; rw [h.2]; rfl
  rw [this]
  exact QE_AI_of_new ⟨rfl, rfl, rfl⟩

theorem winv_reachable (w : World) (h : ReachableP w) : WInv w := by
  induction h with
  | init w h _ => exact winv_initial w h
  | step w op _ hop ih => exact winv_step w op ih hop


/-! ### 3. which panics the analysis can report at all (no hypotheses) -/

def PanicAny (m : String) : Prop := m = msgArgs ∨ m = msgShared ∨ m = msgLoop ∨ m = msgNilTree

theorem analysis_M (env : Env) : ∀ f,
    (∀ tn e c n, Sat (fun _ => True) PanicAny (escapeNode env f tn e c n)) ∧
    (∀ tn e c l, Sat (fun _ => True) PanicAny (escapeList env f tn e c l)) ∧
    (∀ tn e c t el b, Sat (fun _ => True) PanicAny (escapeBranch env f tn e c t el b)) ∧
    (∀ e c name, Sat (fun _ => True) PanicAny (escapeTree env f e c name)) ∧
    (∀ e c tname t, Sat (fun _ => True) PanicAny (computeOutCtx env f e c tname t)) ∧
    (∀ e c tname t, Sat (fun _ => True) PanicAny (escapeTemplateBody env f e c tname t)) := by
  have hS : PanicAny msgShared := .inr (.inl rfl)
  refine fuel_induction ⟨?_, ?_, ?_, ?_, ?_, ?_⟩ ?_ ?_ ?_ ?_ ?_ ?_
  · intro _ _ _ _; rw [escapeNode_zero]; trivial
  · intro _ _ _ _; rw [escapeList_zero]; trivial
  · intro _ _ _ _ _ _; rw [escapeBranch_zero]; trivial
  · intro _ _ _; rw [escapeTree_zero]; trivial
  · intro _ _ _ _; rw [computeOutCtx_zero]; trivial
  · intro _ _ _ _; rw [escapeTemplateBody_zero]; trivial
  · intro f hb ht tn e c n
    cases n with
    | action id p =>
      rw [escapeNode_action]
      exact escapeAction_sat (Q := fun _ => True) (fun _ => .inl rfl) trivial fun s =>
        editAction_sat (fun _ => hS) fun _ => trivial
    | text id b =>
      rw [escapeNode_text]
      exact escapeTextNode_sat (Q := fun _ => True) (.inr (.inr (.inl rfl))) trivial fun nb =>
        editText_sat (fun _ => hS) fun _ => trivial
    | ifN id p t el => rw [escapeNode_if]; exact hb ..
    | withN id p t el => rw [escapeNode_with]; exact hb ..
    | rangeN id p t el => rw [escapeNode_range]; exact hb ..
    | tmpl id name p =>
      exact escapeNode_tmpl_sat (Q := fun _ => True) (R := fun _ => True) (ht e c name) (fun _ _ => trivial)
        fun e1 d _ => editTmpl_sat (fun _ => hS) fun _ => trivial
    | brk id => rw [escapeNode_brk]; trivial
    | cont id => rw [escapeNode_cont]; trivial
    | comment id => rw [escapeNode_comment]; trivial
  · intro f hn hl tn e c l
    cases l with
    | nil => rw [escapeList_nil]; trivial
    | cons n ns => rw [escapeList_cons]; exact (hn tn e c n).bind fun r _ => hl tn r.1 r.2 ns
  · intro f hl tn e c t el b
    exact escapeBranch_sat (Q := fun _ => True) (R := fun _ => True) (hl ..) (fun _ _ _ => hl ..)
      (fun _ _ => trivial) (fun _ _ => hl ..)
  · intro f ho e c name
    exact escapeTree_sat (R := fun _ => True) trivial (fun _ _ => trivial) (fun _ => trivial) (fun _ _ _ => ho ..)
  · intro f hy e c tname t
    exact computeOutCtx_sat (Q := fun _ _ => True) (Q2 := fun _ => True) (R := fun _ => True) (hy ..)
      (fun _ _ _ => trivial) (fun _ _ _ => hy ..) (fun _ _ _ => trivial)
  · intro f hl e c tname t
    exact escapeTemplateBody_sat (Q := fun _ => True) (R := fun _ _ => True) (fun _ => .inr (.inr (.inr rfl)))
      (fun _ _ => hl ..) (fun _ _ => ⟨mergeEdits_sat hS _ _, mergeEdits_sat hS _ _, mergeEdits_sat hS _ _⟩)
      (fun _ _ => trivial) (fun _ _ => trivial)

theorem top_panic_any (w : World) (ns : Nat) (name : String) (m : String)
    (h : escapeTemplateTop w ns name = .inl (.panic m)) : PanicAny m ∨ m = msgCommit :=
  (top_sat (J := fun _ _ => True) (B := fun m => PanicAny m ∨ m = msgCommit) w ns name
    (((analysis_M _ w.fuel).2.2.2.1 _ _ _).mono (fun _ _ => trivial) fun _ h => .inl h)
    fun e _ => sat_of (fun _ _ => trivial) fun m hm => (commit_panic hm).elim .inr fun h => .inl (.inl h)).1 m h

/-! ### 4. results -/

theorem top_no_commit_panic (w : World) (ns : Nat) (name : String) (m : String)
    (hT : HasT (w.ns ns).text (w.ns ns).esc) (h : escapeTemplateTop w ns name = .inl (.panic m)) : m ≠ msgCommit :=
  (top_sat (J := HasT) (B := (· ≠ msgCommit)) w ns name
    (sat_of (fun r hr => hasT_analysis (env := analysisEnv w ns) hT _ _ _ r hr) fun m hm => by
      rcases ((analysis_M _ w.fuel).2.2.2.1 _ _ _).of_panic hm with h | h | h | h <;> (rw [h]; decide))
    fun e he => sat_of (fun r hc => hasT_commit _ _ r.1 r.2 he hc) fun m hm => by
      rw [commit_no_panic _ _ he _ hm]; decide).1 m h

/-- **C08 for the analysis in every world satisfying the invariants** (in particular every `ReachableP` world): one
    critical section returns a result, or runs out of fuel, or reports the loop guard of `escapeText`, or — only if a
    template is registered with a nil tree under a mangled name — the nil-tree panic. -/
theorem C08_analysis_total_inv (w : World) (hw : WInv w) (ns : Nat) (name : String) :
    (∃ w' r, escapeTemplateTop w ns name = .inr (w', r)) ∨ escapeTemplateTop w ns name = .inl .fuel ∨
    escapeTemplateTop w ns name = .inl (.panic msgLoop) ∨ escapeTemplateTop w ns name = .inl (.panic msgNilTree) := by
  obtain ⟨h1, h2, h3, h4, _⟩ := (hw ns).2
  cases hres : escapeTemplateTop w ns name with
  | inr p => exact .inl ⟨p.1, p.2, rfl⟩
  | inl res =>
    rcases top_inl_res hres with rfl | ⟨m, rfl⟩
    · exact .inr (.inl rfl)
    · rcases top_panic_any w ns name m hres with (h | h | h | h) | h
      · exact absurd h ((top_args w ns name h2 h3).1 m hres)
      · exact absurd h ((top_shared w ns name h4).1 m hres)
      · rw [h]; exact .inr (.inr (.inl rfl))
      · rw [h]; exact .inr (.inr (.inr rfl))
      · exact absurd h (top_no_commit_panic w ns name m h1 hres)

theorem C08_analysis_total_reachable (w : World) (hr : ReachableP w) (ns : Nat) (name : String) :
    (∃ w' r, escapeTemplateTop w ns name = .inr (w', r)) ∨ escapeTemplateTop w ns name = .inl .fuel ∨
    escapeTemplateTop w ns name = .inl (.panic msgLoop) ∨ escapeTemplateTop w ns name = .inl (.panic msgNilTree) :=
  C08_analysis_total_inv w (winv_reachable w hr) ns name

theorem settled_no_panic (F : String → Prop) (w : World) (hw : WInv w) (o : TObj) (hs : Settled F w o)
    (d : Value) (m : String) : textExecute w o d ≠ .panic m := by
  obtain ⟨hi, hcl, hF⟩ := hs
  have hnt := (hw o.ns).2.2.2.2.2
  exact textExecute_no_panic F w o d hcl (fun n hn => hnt n (hi.pre.out n hn)) hF m

theorem top_panics {w : World} (hw : WInv w) {ns : Nat} {name m : String}
    (he : escapeTemplateTop w ns name = .inl (.panic m)) : m = msgLoop ∨ m = msgNilTree := by
  rcases C08_analysis_total_inv w hw ns name with ⟨_, _, h1⟩ | h1 | h1 | h1 <;> rw [he] at h1
  · cases h1
  · cases h1
  · exact .inl (Res.panic.inj (Sum.inl.inj h1))
  · exact .inr (Res.panic.inj (Sum.inl.inj h1))

/-- **Execute in a reachable world**: the only panics `t.Execute` can report are the loop guard of
    `escapeText` and the nil-tree analysis panic (both come out of the analysis of the critical section). -/
theorem C08_execute_panics (w : World) (hr : ReachableP w) (h : Nat) (d : Value) (m : String)
    (hres : (apiExecute w h d).2 = .panic m) : m = msgLoop ∨ m = msgNilTree := by
  have hi := invR_reachable w hr.reachable0.reachable
  have hw := winv_reachable w hr
  rw [apiExecute_crit] at hres
  cases hc : (critExecute w h).2 with
  | inr o =>
    rw [hc] at hres
    obtain ⟨F, hF⟩ := (critExecute_spec w h hi.inv).2 o hc
    exact absurd hres (settled_no_panic F _ (winv_critExecute w h hw) o hF d m)
  | inl x =>
    rw [hc] at hres
    dsimp only at hres
    subst hres
    obtain ⟨_, o, _, _, _, he⟩ := critExecute_abort hc (.inl ⟨m, rfl⟩)
    exact top_panics (winv_setEscaped w o.ns hw) he

/-- **ExecuteTemplate in a reachable world**: the same two panics only. -/
theorem C08_executeTemplate_panics (w : World) (hr : ReachableP w) (h : Nat) (name : String) (d : Value) (m : String)
    (hres : (apiExecuteTemplate w h name d).2 = .panic m) : m = msgLoop ∨ m = msgNilTree := by
  have hi := invR_reachable w hr.reachable0.reachable
  have hw := winv_reachable w hr
  rw [apiExecuteTemplate_crit] at hres
  cases hc : (critExecuteTemplate w h name).2 with
  | inr o =>
    rw [hc] at hres
    obtain ⟨F, hF⟩ := (critExecuteTemplate_spec w h name hi.inv).2 o hc
    exact absurd hres (settled_no_panic F _ (winv_critExecuteTemplate w h name hw) o hF d m)
  | inl x =>
    rw [hc] at hres
    dsimp only at hres
    subst hres
    obtain ⟨_, o, _, _, _, _, _, _, _, he⟩ := critExecuteTemplate_abort hc (.inl ⟨m, rfl⟩)
    exact top_panics (winv_setEscaped w o.ns hw) he

/-- `ExecuteToHTML` blanks the partial output of an error and passes every other result on -/
theorem zeroOnError_panic {r : Res} {m : String} (h : zeroOnError r = .panic m) : r = .panic m := by
  cases r <;> first | exact h | cases h

/-- the "out of sync" branch of `ExecuteTemplate` is not taken in any world: its guard `textTreeNil = false` already says
    that the text set has a tree for the name (`critExecuteTemplate_abort`), so a panic comes out of the analysis, whose
    messages are the five of `top_panic_any`, or out of the execution -/
theorem executeTemplate_not_out_of_sync (w : World) (h : Nat) (name : String) (d : Value) :
    (apiExecuteTemplate w h name d).2 ≠ .panic msgOutOfSync := by
  rw [apiExecuteTemplate_crit]
  intro hres
  cases hc : (critExecuteTemplate w h name).2 with
  | inl x =>
    rw [hc] at hres
    dsimp only at hres
    subst hres
    obtain ⟨_, o, _, _, _, _, _, _, _, he⟩ := critExecuteTemplate_abort hc (.inl ⟨_, rfl⟩)
    rcases top_panic_any _ o.ns name _ he with (h1 | h1 | h1 | h1) | h1 <;> exact absurd h1 (by decide)
  | inr o =>
    rw [hc] at hres
    exact absurd (textExecute_panic _ o d _ hres) (by decide)

/-- **every operation of the API state machine in a reachable world**: a panic result is one of the two -/
theorem C08_step_panics (w : World) (hr : ReachableP w) (op : Op) (m : String)
    (hres : (Api.step w op).2 = .exec (.panic m) ∨ (Api.step w op).2 = .html (.panic m)) :
    m = msgLoop ∨ m = msgNilTree := by
  cases op with
  | exec h d =>
    rcases hres with h1 | h1
    · simp only [Api.step, Ret.exec.injEq] at h1; exact C08_execute_panics w hr h d m h1
    · simp only [Api.step] at h1; cases h1
  | execT h n d =>
    rcases hres with h1 | h1
    · simp only [Api.step, Ret.exec.injEq] at h1; exact C08_executeTemplate_panics w hr h n d m h1
    · simp only [Api.step] at h1; cases h1
  | execHTML h d =>
    rcases hres with h1 | h1
    · simp only [Api.step] at h1; cases h1
    · simp only [Api.step, Ret.html.injEq] at h1
      exact C08_execute_panics w hr h d m (zeroOnError_panic h1)
  | execTHTML h n d =>
    rcases hres with h1 | h1
    · simp only [Api.step] at h1; cases h1
    · simp only [Api.step, Ret.html.injEq] at h1
      exact C08_executeTemplate_panics w hr h n d m (zeroOnError_panic h1)
  | new h name => rcases hres with h1 | h1 <;> (simp only [Api.step] at h1; cases h1)
  | assocNew h name h' =>
    rcases hres with h1 | h1 <;> (simp only [Api.step] at h1; split at h1 <;> cases h1)
  | parse h defs => rcases hres with h1 | h1 <;> (simp only [Api.step] at h1; cases h1)
  | clone h h' => rcases hres with h1 | h1 <;> (simp only [Api.step] at h1; cases h1)
  | lookup h n h' => rcases hres with h1 | h1 <;> (simp only [Api.step] at h1; cases h1)
  | templates h => rcases hres with h1 | h1 <;> (simp only [Api.step] at h1; cases h1)
  | csp h => rcases hres with h1 | h1 <;> (simp only [Api.step] at h1; split at h1 <;> cases h1)

/-! ### 5. the no-progress guard of `escapeText`: the suspicious configuration is unreachable through contexts

`tSpecialTagEnd` is the only transition that deliberately reads nothing: it returns 0 bytes when the end tag of the
special element is at offset 0, and then the new state is `text`. So no progress could only be made from state `text`
inside a special element, which `CI` rules out and every context operation of the analysis keeps ruled out. -/

def CI (c : Ctx) : Prop := c.state = .text → memKey Generated.Policy.specialElements c.elemName = false

theorem ci_of_ne {c : Ctx} (h : c.state ≠ .text) : CI c := fun h' => absurd h' h
theorem ci_default : CI {} := fun _ => notSpecial_nil
theorem ci_errorCtx (code : ErrCode) : CI (Ctx.errorCtx code) := ci_of_ne (by simp [Ctx.errorCtx])

theorem eq_state {c d : Ctx} (h : c.eq d = true) : c.state = d.state ∧ c.elemName = d.elemName := by
  unfold Ctx.eq at h
  simp only [Bool.and_eq_true, beq_iff_eq] at h
  exact ⟨h.1.1.1.1.1.1.1, h.1.1.1.1.1.2⟩

/-- the only steps into state `text` are the fresh context, and the end of the tag of a non-special element -/
theorem ci_step {c c' : Ctx} (h : CtxStep c c') (hc : CI c) : CI c' := by
  cases h with
  | fresh => exact ci_default
  | cmt => exact ci_of_ne (by simp)
  | tagOpen => exact ci_of_ne (by simp)
  | tagEnd st _ hst =>
    rcases hst with rfl | ⟨rfl, hk⟩
    · exact ci_of_ne (by simp)
    · exact fun _ => hk
  | tagEndVoid => exact fun _ => notSpecial_nil
  | attrStart st _ _ _ hst => rcases hst with rfl | rfl <;> exact ci_of_ne (by simp)
  | afterName => exact ci_of_ne (by simp)
  | tag => exact ci_of_ne (by simp)
  | beforeValue => exact ci_of_ne (by simp)
  | attr => exact ci_of_ne (by simp)
  | value => exact hc
  | attrEnd => exact ci_of_ne (by simp)

theorem nudge_ci (c : Ctx) (h : CI c) : CI (nudge c) := by
  unfold nudge
  split
  · exact ci_of_ne (by simp)
  · exact ci_of_ne (by simp)
  · exact ci_of_ne (by simp)
  · exact h

/-- `CI` is kept by everything the analysis does to a context: a join that is no error agrees with its second
    argument (or the nudged second argument) in state and element name -/
theorem ci_closed : CtxClosed CI where
  err := ci_errorCtx
  step := ci_step
  attrName := fun _ _ => ci_of_ne (by simp)
  join := by
    intro a b ha hb
    rcases join_cases a b with h | h | h | ⟨a0, b0, hab, _, _, h, he⟩ <;> rw [h]
    · exact ha
    · exact hb
    · exact ci_errorCtx _
    · have hb0 : CI b0 := by
        rcases hab with ⟨_, rfl⟩ | ⟨_, rfl⟩
        · exact hb
        · exact nudge_ci b hb
      have := eq_state he
      exact fun hst => this.2 ▸ hb0 (this.1 ▸ hst)

theorem transition_ci (c : Ctx) (s : Bytes) (hc : CI c) : CI (transition c s).1 :=
  transition_closed ci_closed.toTextClosed c s hc

theorem contextAfterText_ci (c : Ctx) (s : Bytes) (h : CI c) : CI (contextAfterText c s).1 :=
  contextAfterText_closed ci_closed.toTextClosed c s h

theorem join_ci (a b : Ctx) (ha : CI a) (hb : CI b) : CI (join a b) := ci_closed.join ha hb

theorem special_zero_progress (c : Ctx) (s : Bytes) (hc : CI c) (hs : s ≠ [])
    (h0 : (tSpecialTagEnd c s).2 = 0) : (tSpecialTagEnd c s).1.state ≠ c.state := by
  unfold tSpecialTagEnd at h0 ⊢
  split
  · rename_i hsp
    split
    · -- the end tag is at offset 0: the new context is the default one (state `text`)
      intro heq
      have : c.state = .text := heq.symm
      rw [hc this] at hsp; cases hsp
    · rename_i hn
      rw [if_pos hsp, hn] at h0
      simp only [] at h0
      exact absurd (List.length_eq_zero_iff.mp h0) hs
  · rename_i hsp
    rw [if_neg hsp] at h0
    simp only [] at h0
    exact absurd (List.length_eq_zero_iff.mp h0) hs

end SafeHtml.Proofs.NoPanic3

namespace SafeHtml.Proofs.NoPanic
open SafeHtml SafeHtml.Model.Tmpl SafeHtml.Proofs.Analysis SafeHtml.Proofs.Frozen SafeHtml.Proofs.ConcApi

set_option linter.unusedVariables false in
/-- **`ExecuteTemplate` never reports "template escaping out of sync"**: `NoPanic3.executeTemplate_not_out_of_sync`, which
    needs neither hypothesis (the messages of the analysis are known without them, `top_panic_any`). -/
theorem executeTemplate_never_out_of_sync (w : World) (h : Nat) (name : String) (d : Value)
    (hT : ∀ k, HasT (w.ns k).text (w.ns k).esc) (hnn : ∀ k, NoNil (w.ns k).text) :
    (apiExecuteTemplate w h name d).2 ≠ .panic msgOutOfSync :=
  NoPanic3.executeTemplate_not_out_of_sync w h name d

end SafeHtml.Proofs.NoPanic
