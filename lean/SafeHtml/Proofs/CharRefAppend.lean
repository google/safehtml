/-
The WHATWG character-reference decoder (`Spec.CharRef.decodeAttr` / `decodeText`) distributes over `++` where no
character reference is open: if `Spec.CharRef.endsWithCharRefPrefix p = false` then for EVERY `t`
`decodeAttr (p ++ t) = decodeAttr p ++ decodeAttr t`. No side condition on `t`: every `&` of `p` is followed inside
`p` by a byte that settles how the reference is read (a non-digit after `&#…`, a non-alphanumeric after `&name`),
or by a digit (no name of the entity table starts with a digit — `EntityFacts.lookup_digit_none`).
-/
import Lean.Elab.Command
import SafeHtml.Spec.Esc
import SafeHtml.Spec.CharRef
import SafeHtml.Proofs.CharRefEsc
import SafeHtml.Proofs.Html
import SafeHtml.Props.C14
namespace SafeHtml.Proofs.CharRefAppend
open SafeHtml SafeHtml.Spec SafeHtml.Spec.CharRef SafeHtml.Proofs.CharRefEsc
open SafeHtml.Proofs.DecodeWalk SafeHtml.Proofs.EntityFacts

/-! ### `digits` -/

theorem digits_append (val : Nat → Option Nat) (base : Nat) (t : Bytes) : ∀ (ds : Bytes) (x n : Nat),
    (ds.all fun c => (val c).isSome) = false → digits val base (ds ++ t) x n = digits val base ds x n
  | [], _, _, h => by simp at h
  | c :: ds, x, n, h => by
    simp only [List.cons_append, digits]
    cases hv : val c with
    | none => rfl
    | some d =>
      simp only []
      apply digits_append
      simpa [hv] using h

theorem digits_bounds (val : Nat → Option Nat) (base : Nat) : ∀ (ds : Bytes) (x n : Nat),
    n ≤ (digits val base ds x n).2 ∧ (digits val base ds x n).2 ≤ n + ds.length ∧
    ((ds.all fun c => (val c).isSome) = false → (digits val base ds x n).2 < n + ds.length)
  | [], _, _ => by simp [digits]
  | c :: ds, x, n => by
    simp only [digits, List.length_cons]
    cases hv : val c with
    | none =>
      simp only []
      exact ⟨Nat.le_refl _, by omega, fun _ => by omega⟩
    | some d =>
      obtain ⟨h1, h2, h3⟩ := digits_bounds val base ds (base * x + d) (n + 1)
      simp only [List.all_cons, hv, Option.isSome_some, Bool.true_and]
      exact ⟨by omega, by omega, fun h => by have := h3 h; omega⟩

/-! ### the numeric branch of `consume` -/

def semiOf (d : Bytes) : Nat :=
  match d with
  | 59 :: _ => 1
  | _ => 0

theorem semiOf_append (d t : Bytes) (h : d ≠ []) : semiOf (d ++ t) = semiOf d := by
  cases d with
  | nil => exact absurd rfl h
  | cons c r =>
    by_cases hc : c = 59
    · subst hc; rfl
    · simp [semiOf, hc]

theorem semiOf_le (d : Bytes) : semiOf d ≤ d.length := by
  unfold semiOf
  split <;> simp

def digitsOf (isHex : Bool) (ds : Bytes) : Nat × Nat :=
  if isHex then digits Spec.CharRef.hexVal 16 ds 0 0 else digits decVal 10 ds 0 0

def numBody (isHex : Bool) (ds : Bytes) : Bytes × Nat :=
  if (digitsOf isHex ds).2 == 0 then ([38], 0)
  else (Utf8.encodeRune (numericCodePoint (digitsOf isHex ds).1),
    1 + (if isHex then 1 else 0) + (digitsOf isHex ds).2 + semiOf (ds.drop (digitsOf isHex ds).2))

/-- the bytes after `&#` are `pre ++ ds`, where `pre` is the hex marker `x` / `X` if there is one -/
def NumPre (isHex : Bool) (pre ds : Bytes) : Prop :=
  (isHex = true ∧ (pre = [120] ∨ pre = [88])) ∨ (isHex = false ∧ pre = [] ∧ ∃ c u, ds = c :: u ∧ c ≠ 120 ∧ c ≠ 88)

theorem numPre_cases (t : Bytes) : t = [] ∨ ∃ isHex pre ds, t = pre ++ ds ∧ NumPre isHex pre ds := by
  cases t with
  | nil => exact Or.inl rfl
  | cons d w =>
    right
    by_cases h1 : d = 120
    · exact ⟨true, [120], w, by rw [h1]; rfl, Or.inl ⟨rfl, Or.inl rfl⟩⟩
    · by_cases h2 : d = 88
      · exact ⟨true, [88], w, by rw [h2]; rfl, Or.inl ⟨rfl, Or.inr rfl⟩⟩
      · exact ⟨false, [], d :: w, rfl, Or.inr ⟨rfl, rfl, d, w, rfl, h1, h2⟩⟩

theorem consume_hash_nil (attr : Bool) : consume attr [35] = ([38], 0) := by
  unfold consume; rfl

theorem consume_hash (attr : Bool) {isHex : Bool} {pre ds : Bytes} (h : NumPre isHex pre ds) :
    consume attr (35 :: (pre ++ ds)) = numBody isHex ds := by
  rcases h with ⟨rfl, rfl | rfl⟩ | ⟨rfl, rfl, c, u, rfl, h1, h2⟩
  · unfold consume; simp only [numBody, semiOf, if_true]; rfl
  · unfold consume; simp only [numBody, semiOf, if_true]; rfl
  · unfold consume
    simp only [numBody, semiOf, List.nil_append]
    split
    · next heq => cases heq; exact absurd rfl h1
    · next heq => cases heq; exact absurd rfl h2
    · rfl

def validOf (isHex : Bool) (c : Nat) : Bool :=
  if isHex then (Spec.CharRef.hexVal c).isSome else (decVal c).isSome

theorem digitsOf_append (isHex : Bool) (ds t : Bytes) (h : ds.all (validOf isHex) = false) :
    digitsOf isHex (ds ++ t) = digitsOf isHex ds := by
  cases isHex
  · exact digits_append decVal 10 t ds 0 0 h
  · exact digits_append Spec.CharRef.hexVal 16 t ds 0 0 h

theorem digitsOf_bounds (isHex : Bool) (ds : Bytes) :
    (digitsOf isHex ds).2 ≤ ds.length ∧ (ds.all (validOf isHex) = false → (digitsOf isHex ds).2 < ds.length) := by
  have h := fun val base => (digits_bounds val base ds 0 0).2
  simp only [Nat.zero_add] at h
  cases isHex
  · exact h decVal 10
  · exact h Spec.CharRef.hexVal 16

theorem numBody_append (isHex : Bool) (ds t : Bytes) (h : ds.all (validOf isHex) = false) :
    numBody isHex (ds ++ t) = numBody isHex ds := by
  rw [numBody, numBody, digitsOf_append isHex ds t h]
  have hlt := (digitsOf_bounds isHex ds).2 h
  rw [List.drop_append_of_le_length (Nat.le_of_lt hlt), semiOf_append]
  intro h0
  have := congrArg List.length h0
  simp only [List.length_drop, List.length_nil] at this
  omega

theorem numBody_le (isHex : Bool) (ds : Bytes) :
    (numBody isHex ds).2 ≤ 1 + (if isHex then 1 else 0) + ds.length := by
  rw [numBody]
  split
  · simp
  · have h1 := (digitsOf_bounds isHex ds).1
    have h2 := semiOf_le (ds.drop (digitsOf isHex ds).2)
    simp only [List.length_drop] at h2
    simp only []
    omega

/-! ### `longestPrefix` with the table lookup abstracted

`longestPrefix` is defined by structural recursion with `EntityTable.lookup` inside a `match`; whenever the kernel
unfolds one step of it on `k+1` it tries to evaluate `lookup …` (a binary search over the 2229-row table, which
overflows its stack). So the definition body is abstracted over the constant `EntityTable.lookup` (metaprogram
below: no axiom, an ordinary definition `lpFraw` checked by the kernel), all unfolding is done for a VARIABLE lookup
function, and the result is instantiated. -/

def longestPrefixG (lk : Bytes → Option (Nat × Nat)) (run : Bytes) : Nat → Option ((Nat × Nat) × Nat)
  | 0 => none
  | j+1 =>
    match lk (run.take (j + 1)) with
    | some e => some (e, j + 1)
    | none => longestPrefixG lk run j

/-- what the compiler makes of a structural recursion over `Nat` (`Nat.brecOn` of a functional `F`), computed by
    the equations of the recursion -/
theorem brecOn_eq {α : Type} (G : Nat → α) (S : Nat → α → α) (hG : ∀ j, G (j + 1) = S j (G j))
    (F : (x : Nat) → Nat.below (motive := fun _ => α) x → α)
    (h0 : ∀ f, F 0 f = G 0) (hS : ∀ j f, F (j + 1) f = S j f.1) (k : Nat) :
    Nat.brecOn (motive := fun _ => α) k F = G k := by
  induction k with
  | zero => exact h0 _
  | succ k ih => rw [hG, ← ih]; exact hS k _

/- `lpFraw` := the definition body of `longestPrefix._f` with the constant `EntityTable.lookup` abstracted -/
open Lean Elab Command Meta in
run_cmd liftTermElabM do
  let ci ← getConstInfo ``SafeHtml.Spec.CharRef.longestPrefix._f
  let v := ci.value!
  let lk := mkConst ``SafeHtml.EntityTable.lookup
  let lkTy ← inferType lk
  let vAbs := v.replace fun e =>
    if e.isConstOf ``SafeHtml.EntityTable.lookup then some (mkFVar ⟨`_lk_tmp⟩) else none
  let body := vAbs.abstract #[mkFVar ⟨`_lk_tmp⟩]
  let val := mkLambda `lk .default lkTy body
  let ty := mkForall `lk .default lkTy ci.type
  addDecl (.defnDecl { name := `SafeHtml.Proofs.CharRefAppend.lpFraw, levelParams := [], type := ty, value := val,
                       hints := .abbrev, safety := .safe })

theorem brecOn_lpFraw (lk : Bytes → Option (Nat × Nat)) (run : Bytes) (k : Nat) :
    Nat.brecOn k (lpFraw lk run) = longestPrefixG lk run k :=
  brecOn_eq (longestPrefixG lk run)
    (fun j r => match lk (run.take (j + 1)) with | some e => some (e, j + 1) | none => r)
    (fun _ => rfl) _ (fun _ => rfl) (fun _ _ => rfl) k

theorem longestPrefix_eq_G (run : Bytes) (k : Nat) :
    longestPrefix run k = longestPrefixG EntityTable.lookup run k := by
  have h1 : longestPrefix run k = Nat.brecOn k (longestPrefix._f run) := by
    delta longestPrefix; rfl
  have h2 : @longestPrefix._f = lpFraw EntityTable.lookup := by
    delta longestPrefix._f lpFraw
    exact Eq.refl _
  rw [h1, h2]
  exact brecOn_lpFraw _ run k

theorem longestPrefixG_spec (lk : Bytes → Option (Nat × Nat)) (run : Bytes) : ∀ (k : Nat) (e : Nat × Nat) (j : Nat),
    longestPrefixG lk run k = some (e, j) → 1 ≤ j ∧ j ≤ k ∧ lk (run.take j) = some e
  | 0, _, _, h => by simp [longestPrefixG] at h
  | k+1, e, j, h => by
    rw [longestPrefixG] at h
    split at h
    · next e' he' =>
      simp only [Option.some.injEq, Prod.mk.injEq] at h
      obtain ⟨rfl, rfl⟩ := h
      exact ⟨by omega, Nat.le_refl _, he'⟩
    · have := longestPrefixG_spec lk run k e j h
      exact ⟨this.1, by omega, this.2.2⟩

theorem longestPrefixG_none (lk : Bytes → Option (Nat × Nat)) (run : Bytes) : ∀ (k : Nat),
    (∀ j, j < k → lk (run.take (j + 1)) = none) → longestPrefixG lk run k = none
  | 0, _ => rfl
  | k+1, h => by
    rw [longestPrefixG, h k (by omega)]
    exact longestPrefixG_none lk run k (fun j hj => h j (by omega))

theorem longestPrefix_spec (run : Bytes) (k : Nat) (e : Nat × Nat) (j : Nat)
    (h : longestPrefix run k = some (e, j)) : 1 ≤ j ∧ j ≤ k ∧ EntityTable.lookup (run.take j) = some e :=
  longestPrefixG_spec _ run k e j (longestPrefix_eq_G run k ▸ h)

theorem longestPrefix_none (run : Bytes) (k : Nat)
    (h : ∀ j, j < k → EntityTable.lookup (run.take (j + 1)) = none) : longestPrefix run k = none := by
  rw [longestPrefix_eq_G]
  exact longestPrefixG_none _ run k h

/-! ### the named branch of `consume` -/

def semiLookup (run d : Bytes) : Option (Nat × Nat) :=
  match d with
  | 59 :: _ => EntityTable.lookup (run ++ [59])
  | _ => none

def blockedBy (attr : Bool) (next : Bytes) : Bool :=
  attr && (match next with
    | c :: _ => c == 61 || isAlnum c
    | [] => false)

def namedBody (attr : Bool) (rest : Bytes) : Bytes × Nat :=
  if alnumRun rest == 0 then ([38], 0) else
  match semiLookup (rest.take (alnumRun rest)) (rest.drop (alnumRun rest)) with
  | some e => (encodeEntity e, alnumRun rest + 1)
  | none =>
    match longestPrefix (rest.take (alnumRun rest)) (alnumRun rest) with
    | none => ([38], 0)
    | some (e, j) => if blockedBy attr (rest.drop j) then ([38], 0) else (encodeEntity e, j)

theorem consume_named_eq (attr : Bool) (c : Nat) (u : Bytes) (hc : c ≠ 35) :
    consume attr (c :: u) = namedBody attr (c :: u) := by
  unfold consume
  split
  · next heq => cases heq
  · next heq => cases heq; exact absurd rfl hc
  · rfl

theorem semiLookup_ne (run : Bytes) (c : Nat) (r : Bytes) (hc : c ≠ 59) : semiLookup run (c :: r) = none := by
  unfold semiLookup
  split
  · next heq => cases heq; exact absurd rfl hc
  · rfl

theorem semiLookup_append (run d t : Bytes) (h : d ≠ []) : semiLookup run (d ++ t) = semiLookup run d := by
  cases d with
  | nil => exact absurd rfl h
  | cons c r =>
    by_cases hc : c = 59
    · subst hc; rfl
    · rw [List.cons_append, semiLookup_ne run c _ hc, semiLookup_ne run c _ hc]

theorem semiLookup_nil (run : Bytes) : semiLookup run [] = none := rfl

theorem blockedBy_append (attr : Bool) (d t : Bytes) (h : d ≠ []) : blockedBy attr (d ++ t) = blockedBy attr d := by
  cases d with
  | nil => exact absurd rfl h
  | cons c r => rfl

theorem alnumRun_le : ∀ (r : Bytes), alnumRun r ≤ r.length
  | [] => by simp [alnumRun]
  | c :: r => by
    simp only [alnumRun, List.length_cons]
    split
    · have := alnumRun_le r; omega
    · omega

theorem alnumRun_lt : ∀ (r : Bytes), r.all isAlnum = false → alnumRun r < r.length
  | [], h => by simp at h
  | c :: r, h => by
    simp only [alnumRun, List.length_cons]
    split
    · next hc =>
      have := alnumRun_lt r (by simpa [hc] using h); omega
    · omega

theorem alnumRun_append (t : Bytes) : ∀ (r : Bytes), r.all isAlnum = false → alnumRun (r ++ t) = alnumRun r
  | [], h => by simp at h
  | c :: r, h => by
    simp only [List.cons_append, alnumRun]
    split
    · next hc => rw [alnumRun_append t r (by simpa [hc] using h)]
    · rfl

theorem namedBody_append (attr : Bool) (r t : Bytes) (h : r.all isAlnum = false) :
    namedBody attr (r ++ t) = namedBody attr r := by
  have hk := alnumRun_lt r h
  unfold namedBody
  rw [alnumRun_append t r h]
  rw [List.take_append_of_le_length (Nat.le_of_lt hk), List.drop_append_of_le_length (Nat.le_of_lt hk)]
  rw [semiLookup_append _ _ _ (List.ne_nil_of_length_pos (by rw [List.length_drop]; omega))]
  split
  · rfl
  · split
    · rfl
    · split
      · rfl
      · next e j hj =>
        have hjk := (longestPrefix_spec _ _ _ _ hj).2.1
        rw [List.drop_append_of_le_length (by omega)]
        rw [blockedBy_append _ _ _ (List.ne_nil_of_length_pos (by rw [List.length_drop]; omega))]

theorem namedBody_le (attr : Bool) (r : Bytes) : (namedBody attr r).2 ≤ r.length := by
  unfold namedBody
  split
  · simp
  · split
    · next e he =>
      -- a `;` was seen after the run
      simp only []
      have : r.drop (alnumRun r) ≠ [] := by
        intro h0; rw [h0, semiLookup_nil] at he; cases he
      have h1 : 0 < (r.drop (alnumRun r)).length := by
        cases hd : r.drop (alnumRun r) with
        | nil => exact absurd hd this
        | cons => simp
      rw [List.length_drop] at h1
      omega
    · split
      · simp
      · next e j hj =>
        have hjk := (longestPrefix_spec _ _ _ _ hj).2.1
        have := alnumRun_le r
        split
        · simp
        · simp only []; omega

/-! ### a run starting with a digit is never a reference -/

theorem alnum_lt (c : Nat) (h : isAlnum c = true) : c < 256 := by
  simp only [isAlnum, isAlpha, isLowerAlpha, isUpperAlpha, isDigit, Bool.or_eq_true, Bool.and_eq_true,
    decide_eq_true_eq] at h
  omega

theorem alnumRun_take_all : ∀ (r : Bytes) (j : Nat), j ≤ alnumRun r → ∀ b ∈ r.take j, isAlnum b = true
  | _, 0, _, b, hb => by simp at hb
  | [], j+1, _, b, hb => by simp at hb
  | c :: r, j+1, h, b, hb => by
    simp only [alnumRun] at h
    split at h
    · next hc =>
      simp only [List.take_succ_cons, List.mem_cons] at hb
      rcases hb with rfl | hb
      · exact hc
      · exact alnumRun_take_all r j (by omega) b hb
    · omega

theorem semiLookup_digit (c : Nat) (w d : Bytes) (hc : isDigit c = true) (hw : ∀ b ∈ w, b < 256) :
    semiLookup (c :: w) d = none := by
  unfold semiLookup
  split
  · rw [List.cons_append]
    refine lookup_digit_none c (w ++ [59]) hc ?_
    intro b hb
    rcases List.mem_append.1 hb with hb | hb
    · exact hw b hb
    · simp at hb; omega
  · rfl

theorem namedBody_digit (attr : Bool) (c : Nat) (u : Bytes) (hc : isDigit c = true) :
    namedBody attr (c :: u) = ([38], 0) := by
  by_cases hk0 : alnumRun (c :: u) = 0
  · unfold namedBody
    rw [hk0]
    rfl
  · obtain ⟨k, hk⟩ : ∃ k, alnumRun (c :: u) = k + 1 := ⟨alnumRun (c :: u) - 1, by omega⟩
    have hall : ∀ b ∈ u.take k, b < 256 := fun b hb =>
      alnum_lt b (alnumRun_take_all (c :: u) (k + 1) (by omega) b (by simp [hb]))
    have hsl : semiLookup ((c :: u).take (alnumRun (c :: u))) ((c :: u).drop (alnumRun (c :: u))) = none := by
      rw [hk, List.take_succ_cons]
      exact semiLookup_digit c _ _ hc hall
    have hlp : longestPrefix ((c :: u).take (alnumRun (c :: u))) (alnumRun (c :: u)) = none := by
      apply longestPrefix_none
      intro j _
      rw [hk, List.take_succ_cons, List.take_succ_cons]
      exact lookup_digit_none c _ hc (fun b hb => hall b (List.mem_of_mem_take hb))
    unfold namedBody
    rw [hsl, hlp]
    split <;> rfl

/-! ### `consume` does not look beyond a closed reference -/

theorem consume_nil (attr : Bool) : consume attr [] = ([38], 0) := by
  unfold consume; rfl

theorem consume_le (attr : Bool) (r : Bytes) : (consume attr r).2 ≤ r.length := by
  cases r with
  | nil => rw [consume_nil]; simp
  | cons c u =>
    by_cases hc : c = 35
    · subst hc
      rcases numPre_cases u with rfl | ⟨isHex, pre, ds, rfl, h⟩
      · rw [consume_hash_nil]; simp
      · rw [consume_hash attr h]
        have := numBody_le isHex ds
        rcases h with ⟨rfl, rfl | rfl⟩ | ⟨rfl, rfl, _⟩ <;> simp at this ⊢ <;> omega
    · rw [consume_named_eq attr c u hc]; exact namedBody_le attr (c :: u)

theorem decVal_isSome (c : Nat) : (decVal c).isSome = isDigit c := by
  unfold decVal; split <;> simp [*]

theorem validOf_true : validOf true = fun c => (Spec.CharRef.hexVal c).isSome := rfl
theorem validOf_false : validOf false = isDigit := by
  funext c; simp [validOf, decVal_isSome]

theorem refPrefixTail_other (c : Nat) (u : Bytes) (hc : c ≠ 35) :
    refPrefixTail (c :: u) = (isAlpha c && u.all isAlnum) := by
  unfold refPrefixTail
  split
  · next heq => cases heq
  · next heq => cases heq; exact absurd rfl hc
  · next heq => cases heq; rfl

theorem refPrefixTail_hash {isHex : Bool} {pre ds : Bytes} (h : NumPre isHex pre ds) :
    refPrefixTail (35 :: (pre ++ ds)) = ds.all (validOf isHex) := by
  rcases h with ⟨rfl, rfl | rfl⟩ | ⟨rfl, rfl, c, u, rfl, h1, h2⟩
  · simp [refPrefixTail, validOf_true, isDigit]
  · simp [refPrefixTail, validOf_true, isDigit]
  · simp only [refPrefixTail, validOf_false, List.nil_append]
    split
    · next heq => cases heq; exact absurd rfl h1
    · next heq => cases heq; exact absurd rfl h2
    · rfl

theorem consume_append (attr : Bool) (r t : Bytes) (h : refPrefixTail r = false) :
    consume attr (r ++ t) = consume attr r := by
  cases r with
  | nil => simp [refPrefixTail] at h
  | cons c u =>
    by_cases hc : c = 35
    · subst hc
      rcases numPre_cases u with rfl | ⟨isHex, pre, ds, rfl, hp⟩
      · simp [refPrefixTail] at h
      · have hds := refPrefixTail_hash hp ▸ h
        have hp' : NumPre isHex pre (ds ++ t) := by
          rcases hp with hp | ⟨h1, h2, c, u, rfl, h3⟩
          · exact Or.inl hp
          · exact Or.inr ⟨h1, h2, c, u ++ t, rfl, h3⟩
        rw [List.cons_append, List.append_assoc, consume_hash attr hp', consume_hash attr hp,
          numBody_append isHex ds t hds]
    · rw [refPrefixTail_other c u hc] at h
      simp only [List.cons_append]
      rw [consume_named_eq attr c _ hc, consume_named_eq attr c _ hc]
      by_cases hall : (c :: u).all isAlnum = false
      · exact namedBody_append attr (c :: u) t hall
      · have hall' : (c :: u).all isAlnum = true := by simpa using hall
        simp only [List.all_cons, Bool.and_eq_true] at hall'
        have ha : isAlpha c = false := by
          cases hx : isAlpha c
          · rfl
          · rw [hx, hall'.2] at h; simp at h
        have hd : isDigit c = true := by
          have := hall'.1; simp only [isAlnum, ha, Bool.false_or] at this; exact this
        rw [namedBody_digit attr c _ hd, namedBody_digit attr c _ hd]

/-! ### `endsWithCharRefPrefix` -/

theorem ewcrp_cons (c : Nat) (t : Bytes) :
    endsWithCharRefPrefix (c :: t) = ((c == 38 && refPrefixTail t) || endsWithCharRefPrefix t) := rfl

theorem ewcrp_drop : ∀ (n : Nat) (p : Bytes), endsWithCharRefPrefix p = false →
    endsWithCharRefPrefix (p.drop n) = false
  | 0, p, h => by simpa using h
  | _+1, [], h => by simpa using h
  | n+1, c :: p, h => by
    rw [ewcrp_cons, Bool.or_eq_false_iff] at h
    simp only [List.drop_succ_cons]
    exact ewcrp_drop n p h.2

/-! ### the decoder distributes over `++` where no reference is open -/

theorem walk_consume_append (attr : Bool) (t : Bytes) : ∀ p : Bytes, endsWithCharRefPrefix p = false →
    walk (consume attr) (p ++ t) = walk (consume attr) p ++ walk (consume attr) t := by
  refine amp_induct (fun r => (consume attr r).2) (fun _ => rfl) (fun r ih hp => ?_) (fun c r hc ih hp => ?_)
  · rw [ewcrp_cons, Bool.or_eq_false_iff] at hp
    rw [List.cons_append, walk_amp, walk_amp, consume_append attr r t (by simpa using hp.1),
      List.drop_append_of_le_length (consume_le attr r), ih (ewcrp_drop _ _ hp.2), List.append_assoc]
  · rw [ewcrp_cons, Bool.or_eq_false_iff] at hp
    rw [List.cons_append, walk_other _ c _ hc, walk_other _ c _ hc, ih hp.2, List.cons_append]

theorem decodeAttr_append (p t : Bytes) (hp : endsWithCharRefPrefix p = false) :
    decodeAttr (p ++ t) = decodeAttr p ++ decodeAttr t := by
  simpa only [decodeAttr_eq_walk] using walk_consume_append true t p hp

theorem decodeText_append (p t : Bytes) (hp : endsWithCharRefPrefix p = false) :
    decodeText (p ++ t) = decodeText p ++ decodeText t := by
  simpa only [decodeText_eq_walk] using walk_consume_append false t p hp

/-- the case needed by C14: escaper output after a closed prefix -/
theorem decodeAttr_append_esc (p v : Bytes) (hp : endsWithCharRefPrefix p = false) (hv : Spec.Esc v = true) :
    decodeAttr (p ++ v) = decodeAttr p ++ unescape5 v := by
  rw [decodeAttr_append p v hp, decodeAttr_eq_unescape5 v hv]


/-! ### C14: the browser sees the decoded prefix followed by exactly the chain output -/

section C14
open SafeHtml.Model SafeHtml.Model.TmplUrl SafeHtml.Generated.Regexes SafeHtml.Props.C14 SafeHtml.Spec.UrlComp

theorem prefixValid_of_choose (sc : SC) (p : Bytes) (ch : Chain) (hc : chooseChain sc p = some ch) :
    prefixValid sc p = true := by
  rw [C14_choice] at hc
  cases hv : prefixValid sc p with
  | true => rfl
  | false => rw [hv] at hc; simp at hc

theorem prefixValid_decodes (sc : SC) (p : Bytes) (hsc : sc ≠ .other) (h : prefixValid sc p = true) :
    ∃ d, decodeURLPrefix p = some d := by
  cases hd : decodeURLPrefix p with
  | some d => exact ⟨d, rfl⟩
  | none => cases sc <;> simp [prefixValid, validateURLPrefix, validateTrustedResourceURLPrefix, hd] at h hsc

theorem isUnreserved_gt32 (b : Nat) (h : isUnreserved b = true ∨ b = 37) : 32 < b := by
  rcases h with h | h
  · simp only [isUnreserved, isAlnum, isAlpha, isLowerAlpha, isUpperAlpha, isDigit, Bool.or_eq_true,
      Bool.and_eq_true, decide_eq_true_eq, beq_iff_eq] at h
    omega
  · omega

theorem choose_ne_htmlOnly (sc : SC) (p : Bytes) (hsc : sc ≠ .other) : chooseChain sc p ≠ some .htmlOnly := by
  intro h
  rw [C14_choice] at h
  split at h
  · cases h
  · cases sc with
    | other => exact hsc rfl
    | tru => cases h
    | url => simp only [] at h; split at h <;> cases h
    | truOrUrl => simp only [] at h; split at h <;> cases h

theorem chain_output_gt32 (sc : SC) (p w v : Bytes) (ch : Chain) (hsc : sc ≠ .other)
    (hc : chooseChain sc p = some ch) (hr : runChain ch w = some v) : ∀ b ∈ v, 32 < b := by
  intro b hb
  cases ch with
  | htmlOnly => exact absurd hc (choose_ne_htmlOnly sc p hsc)
  | norm =>
    simp only [runChain, Option.some.injEq] at hr; subst hr
    exact (C14_norm_alphabet w b hb).1
  | query =>
    simp only [runChain, Option.some.injEq] at hr; subst hr
    exact isUnreserved_gt32 b (C14_query w b hb)
  | queryNoDotDot =>
    simp only [runChain, Option.map_eq_some_iff] at hr
    obtain ⟨u, _, rfl⟩ := hr
    exact isUnreserved_gt32 b (C14_query u b hb)

/-- First conjunct of `C14_prefix_sound_statement` (`bd = bp ++ v`), under the Rx obligation that the
    regenerated pattern `endsWithCharRefPrefixPattern` means `Spec.CharRef.endsWithCharRefPrefix` on `p`. -/
theorem C14_prefix_sound_decode (sc : SC) (p w v : Bytes) (ch : Chain) (hsc : sc ≠ .other)
    (hc : chooseChain sc p = some ch) (hr : runChain ch w = some v)
    (hrx : Rx.matchString template_endsWithCharRefPrefixPattern p = endsWithCharRefPrefix p) :
    decodeAttr (p ++ htmlEscapeString v) = decodeAttr p ++ v := by
  obtain ⟨d, hd⟩ := prefixValid_decodes sc p hsc (prefixValid_of_choose sc p ch hc)
  have hp : endsWithCharRefPrefix p = false := hrx ▸ (decodeURLPrefix_some p d hd).2.2.1
  have h0 : 0 ∉ v := fun h0 => absurd (chain_output_gt32 sc p w v ch hsc hc hr 0 h0) (by omega)
  rw [decodeAttr_append_esc p _ hp (HtmlFacts.Esc_htmlEscapeString v h0), HtmlFacts.unescape5_htmlEscapeString]

end C14

/- The hypothesis of `decodeAttr_append` is needed in each of its three forms (no theorem records this; `#eval`
shows it): `decodeAttr "&am" ++ decodeAttr "p;" = "&amp;"` but `decodeAttr "&amp;" = "&"`;
`decodeAttr "&#3" ++ decodeAttr "4;x" = "\x03" ++ "4;x"` but `decodeAttr "&#34;x" = "\"x"`;
`decodeAttr "&not" ++ decodeAttr "in;" = "¬in;"` but `decodeAttr "&notin;" = "∉"`. -/

end SafeHtml.Proofs.CharRefAppend

#print axioms SafeHtml.Proofs.CharRefAppend.decodeAttr_append
#print axioms SafeHtml.Proofs.CharRefAppend.decodeText_append
#print axioms SafeHtml.Proofs.CharRefAppend.decodeAttr_append_esc
#print axioms SafeHtml.Proofs.CharRefAppend.C14_prefix_sound_decode
