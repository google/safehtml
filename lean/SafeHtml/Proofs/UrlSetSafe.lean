/-
C12: `Model.isSafeURL` is stable under writing a leading / trailing comma of the URL as `%2c`
(`SafeStable isSafeURL`). Uses the byte-level reading of `safeURLPattern` from `Proofs/UrlRx.lean` (C11).
-/
import SafeHtml.Proofs.UrlSet
import SafeHtml.Proofs.UrlRx
namespace SafeHtml.Proofs.UrlSet
open SafeHtml SafeHtml.Model SafeHtml.Model.UrlSet SafeHtml.UrlRx

theorem handCaps_cons_negB (c : Nat) (X : Bytes) (h1 : isSchemeLower c = false) (h2 : isNegB c = true) :
    handCaps (c :: X) = handCaps2 X := by
  unfold handCaps handCaps2
  rw [List.takeWhile_cons_of_neg (by simp [h1]), List.dropWhile_cons_of_pos h2]

theorem handCaps2_append_negB (M T : Bytes) (hT : ∀ b ∈ T, isNegB b = true) :
    handCaps2 (M ++ T) = handCaps2 M := by
  obtain ⟨a, r, rfl, _, _, ha, hr⟩ := span_split isNegB M
  rcases stops_cases hr with rfl | ⟨d, r', rfl, hd⟩
  · have := handCaps2_span (a ++ [] ++ T) [] (by simpa [or_imp, forall_and] using ⟨ha, hT⟩) (stops_nil _)
    rw [List.append_nil] at this
    rw [this, handCaps2_span a [] ha (stops_nil _)]
  · rw [List.append_assoc, List.cons_append, handCaps2_span a _ ha (stops_cons _ _ _ hd),
      handCaps2_span a _ ha (stops_cons _ _ _ hd)]
    rfl

theorem handCaps_append_negB (M : Bytes) (b0 : Nat) (rest : Bytes) (h1 : isSchemeLower b0 = false)
    (h2 : b0 ≠ 58) (hT : ∀ b ∈ b0 :: rest, isNegB b = true) :
    handCaps (M ++ b0 :: rest) = handCaps M := by
  obtain ⟨a, r, rfl, _, _, ha, hr⟩ := span_split isSchemeLower M
  rcases stops_cases hr with rfl | ⟨d, r', rfl, hd⟩
  · rw [List.append_nil, handCaps_span a _ ha (stops_cons _ _ _ h1), if_neg (by simp [h2]),
      handCaps2_append_negB a _ hT]
    have := handCaps_span a [] ha (stops_nil _)
    simpa using this.symm
  · rw [List.append_assoc, List.cons_append, handCaps_span a _ ha (stops_cons _ _ _ hd),
      handCaps_span a _ ha (stops_cons _ _ _ hd), ← List.cons_append, ← List.append_assoc,
      handCaps2_append_negB _ _ hT]
    rfl

theorem toLower_sandwich (A core B : Bytes) (hA : ∀ b ∈ A, b < 128) (hB : ∀ b ∈ B, b < 128) :
    toLowerForScheme (A ++ core ++ B) = A.map asciiLower ++ toLowerForScheme core ++ B.map asciiLower := by
  rw [List.append_assoc, toLower_ascii_append A _ hA]
  cases B with
  | nil => simp
  | cons c r =>
    rw [toLower_append_ascii core c r (hB c (by simp))]
    have := toLower_ascii_append r [] (fun b hb => hB b (by simp [hb]))
    rw [List.append_nil, toLower_nil, List.append_nil] at this
    rw [this]; simp

theorem handCaps_edge (L L' R R' M : Bytes)
    (hL : (L = [] ∧ L' = []) ∨ (L = [44] ∧ L' = [37, 50, 99]))
    (hR : (R = [] ∧ R' = []) ∨ (R = [44] ∧ R' = [37, 50, 99])) :
    handCaps (L' ++ M ++ R') = handCaps (L ++ M ++ R) := by
  have nR : ∀ a ∈ R, isNegB a = true := by rcases hR with ⟨rfl, _⟩ | ⟨rfl, _⟩ <;> decide
  have nR' : ∀ a ∈ R', isNegB a = true := by rcases hR with ⟨_, rfl⟩ | ⟨_, rfl⟩ <;> decide
  rcases hL with ⟨rfl, rfl⟩ | ⟨rfl, rfl⟩
  · -- no leading comma: the first alternative reads `M` on both sides
    rcases hR with ⟨rfl, rfl⟩ | ⟨rfl, rfl⟩
    · rfl
    · rw [List.nil_append, handCaps_append_negB M 37 [50, 99] (by decide) (by decide) (by decide),
        handCaps_append_negB M 44 [] (by decide) (by decide) (by decide)]
  · -- leading comma: neither side can match the scheme alternative
    simp only [List.cons_append, List.nil_append]
    rw [handCaps_cons_negB 44 _ (by decide) (by decide), handCaps_cons_negB 37 _ (by decide) (by decide),
      handCaps2_append_negB M R nR]
    show handCaps2 ([50, 99] ++ M ++ R') = _
    rw [handCaps2_append_negB _ R' nR']
    unfold handCaps2
    rfl

theorem isSafeURL_stable : SafeStable isSafeURL := by
  intro u hu hs
  obtain ⟨lead, core, trail, hdec, hl, ht, hres, _, _⟩ := appendURLToSet_spec u hu
  rw [hres, isSafeURL_eq]
  rw [hdec, isSafeURL_eq] at hs
  have a1 : ∀ b ∈ lead, b < 128 := by rcases hl with rfl | rfl <;> decide
  have a2 : ∀ b ∈ trail, b < 128 := by rcases ht with rfl | rfl <;> decide
  have a3 : ∀ b ∈ encComma lead, b < 128 := by rcases hl with rfl | rfl <;> decide
  have a4 : ∀ b ∈ encComma trail, b < 128 := by rcases ht with rfl | rfl <;> decide
  rw [toLower_sandwich _ _ _ a1 a2] at hs
  rw [toLower_sandwich _ _ _ a3 a4]
  rw [handCaps_edge (lead.map asciiLower) ((encComma lead).map asciiLower) (trail.map asciiLower)
      ((encComma trail).map asciiLower) (toLowerForScheme core)
      (by rcases hl with rfl | rfl <;> simp [asciiLower, isUpperAlpha, pct2c])
      (by rcases ht with rfl | rfl <;> simp [asciiLower, isUpperAlpha, pct2c])]
  exact hs

end SafeHtml.Proofs.UrlSet
