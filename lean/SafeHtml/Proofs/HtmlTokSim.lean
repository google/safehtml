/-
Simulation argument for the HTML tokenizer spec (Spec/HtmlTok): two tokenizer states that are equal
except for the *contents* of pending character data (`txt`), of the current attribute value (`av`), of
the values of completed attributes and of text tokens stay so under every byte. Consequently the
token skeleton (tags, attribute names, comments, doctype) and the final state of a rendering do not
depend on the `Esc` data inserted at inert positions (C01 for one action and for n actions).
-/
import SafeHtml.Props.C01
namespace SafeHtml.Proofs.HtmlTokSim
open SafeHtml SafeHtml.Spec SafeHtml.Spec.HtmlTok
open SafeHtml.Props.C01 (InertPos run_append Esc_no_special)

/-- equal except for character data, attribute values, and text tokens -/
structure Sim (a b : T) : Prop where
  st : a.st = b.st
  toks : skeleton a.toks = skeleton b.toks
  isEnd : a.isEnd = b.isEnd
  name : a.name = b.name
  attrs : a.attrs.map Prod.fst = b.attrs.map Prod.fst
  an : a.an = b.an
  hasAttr : a.hasAttr = b.hasAttr
  selfClosing : a.selfClosing = b.selfClosing
  lastStart : a.lastStart = b.lastStart
  tmp : a.tmp = b.tmp
  cmt : a.cmt = b.cmt
  bogus : a.bogus = b.bogus
  pend : a.pend = b.pend

theorem Sim.refl (a : T) : Sim a a := ⟨rfl, rfl, rfl, rfl, rfl, rfl, rfl, rfl, rfl, rfl, rfl, rfl, rfl⟩

theorem Sim.symm {a b : T} (h : Sim a b) : Sim b a :=
  ⟨h.st.symm, h.toks.symm, h.isEnd.symm, h.name.symm, h.attrs.symm, h.an.symm, h.hasAttr.symm,
   h.selfClosing.symm, h.lastStart.symm, h.tmp.symm, h.cmt.symm, h.bogus.symm, h.pend.symm⟩

theorem Sim.trans {a b c : T} (h : Sim a b) (g : Sim b c) : Sim a c :=
  ⟨h.st.trans g.st, h.toks.trans g.toks, h.isEnd.trans g.isEnd, h.name.trans g.name, h.attrs.trans g.attrs,
   h.an.trans g.an, h.hasAttr.trans g.hasAttr, h.selfClosing.trans g.selfClosing,
   h.lastStart.trans g.lastStart, h.tmp.trans g.tmp, h.cmt.trans g.cmt, h.bogus.trans g.bogus,
   h.pend.trans g.pend⟩

/-! ### skeleton -/

theorem skeleton_cons (x : Token) (l : List Token) : skeleton (x :: l) = skeleton [x] ++ skeleton l := by
  simp only [skeleton, List.filterMap_cons, List.filterMap_nil]
  split <;> rfl

theorem skeleton_reverse (l : List Token) : skeleton l.reverse = (skeleton l).reverse := by
  simp [skeleton, List.filterMap_reverse]

/-! ### what `flush` and `finishAttr` leave alone -/

theorem flush_frame (t : T) (k : String) :
    flush t k = { t with toks := (flush t k).toks, txt := (flush t k).txt } := by
  unfold flush; split <;> rfl

theorem flush_st (t : T) (k : String) : (flush t k).st = t.st := by rw [flush_frame]
theorem flush_av (t : T) (k : String) : (flush t k).av = t.av := by rw [flush_frame]
theorem flush_isEnd (t : T) (k : String) : (flush t k).isEnd = t.isEnd := by rw [flush_frame]
theorem flush_name (t : T) (k : String) : (flush t k).name = t.name := by rw [flush_frame]
theorem flush_lastStart (t : T) (k : String) : (flush t k).lastStart = t.lastStart := by rw [flush_frame]

theorem finishAttr_frame (t : T) :
    finishAttr t = { t with attrs := (finishAttr t).attrs, an := (finishAttr t).an, av := (finishAttr t).av,
                            hasAttr := false } := by
  unfold finishAttr; split
  · next h => simp only [Bool.not_eq_true'] at h; rw [← h]
  · rfl

theorem finishAttr_txt (t : T) : (finishAttr t).txt = t.txt := by rw [finishAttr_frame]
theorem finishAttr_isEnd (t : T) : (finishAttr t).isEnd = t.isEnd := by rw [finishAttr_frame]
theorem finishAttr_name (t : T) : (finishAttr t).name = t.name := by rw [finishAttr_frame]
theorem finishAttr_lastStart (t : T) : (finishAttr t).lastStart = t.lastStart := by rw [finishAttr_frame]

/-! ### updates that preserve `Sim` -/

section
variable {a b : T}

namespace Sim
variable (h : Sim a b)
include h

theorem setSt (s : St) : Sim { a with st := s } { b with st := s } := { h with st := rfl }
theorem setTxt (x y : Bytes) : Sim { a with txt := x } { b with txt := y } := { h with }
theorem setAv (x y : Bytes) : Sim { a with av := x } { b with av := y } := { h with }
theorem setName (x : Bytes) : Sim { a with name := x } { b with name := x } := { h with name := rfl }
theorem setAn (x : Bytes) : Sim { a with an := x } { b with an := x } := { h with an := rfl }
theorem setHasAttr (x : Bool) : Sim { a with hasAttr := x } { b with hasAttr := x } := { h with hasAttr := rfl }
theorem setSelfClosing (x : Bool) : Sim { a with selfClosing := x } { b with selfClosing := x } :=
  { h with selfClosing := rfl }
theorem setTmp (x : Bytes) : Sim { a with tmp := x } { b with tmp := x } := { h with tmp := rfl }
theorem setCmt (x : Bytes) : Sim { a with cmt := x } { b with cmt := x } := { h with cmt := rfl }
theorem setBogus (x : Bool) : Sim { a with bogus := x } { b with bogus := x } := { h with bogus := rfl }
theorem setPend (x : Bytes) : Sim { a with pend := x } { b with pend := x } := { h with pend := rfl }
theorem emitChar (x y : Nat) : Sim (emitChar a x) (emitChar b y) := h.setTxt _ _
theorem emitChars (x y : Bytes) : Sim (emitChars a x) (emitChars b y) := h.setTxt _ _
theorem newTag (e : Bool) : Sim (newTag a e) (newTag b e) :=
  { h with isEnd := rfl, name := rfl, attrs := rfl, an := rfl, hasAttr := rfl, selfClosing := rfl }

theorem push {x y : Token} (e : skeleton [x] = skeleton [y]) :
    Sim { a with toks := x :: a.toks } { b with toks := y :: b.toks } :=
  { h with toks := by rw [skeleton_cons, skeleton_cons y, e, h.toks] }

theorem flush (k k' : String) : Sim (flush a k) (flush b k') := by
  have e (t : T) : skeleton (.text k t.txt.reverse :: t.toks) = skeleton t.toks := skeleton_cons _ _
  have e' (t : T) : skeleton (.text k' t.txt.reverse :: t.toks) = skeleton t.toks := skeleton_cons _ _
  unfold HtmlTok.flush
  split <;> split
  · exact h
  · exact { h with toks := h.toks.trans (e' b).symm }
  · exact { h with toks := (e a).trans h.toks }
  · exact { h with toks := (e a).trans (h.toks.trans (e' b).symm) }

theorem finishAttr : Sim (finishAttr a) (finishAttr b) := by
  have any_fst (l : List (Bytes × Bytes)) (n : Bytes) :
      l.any (fun x => x.1 == n) = (l.map Prod.fst).any (· == n) := by rw [List.any_map]; rfl
  unfold HtmlTok.finishAttr
  simp only [← h.hasAttr, ← h.an, any_fst, ← h.attrs]
  split
  · exact h
  · refine { h with an := rfl, hasAttr := rfl, attrs := ?_ }
    split
    · exact h.attrs
    · simp only [List.map_cons, h.attrs]

theorem emitTag (k k' : String) : Sim (emitTag a k) (emitTag b k') := by
  have g := h.finishAttr.flush k k'
  unfold HtmlTok.emitTag
  simp only [← g.isEnd, ← g.name]
  split
  · exact { g with st := rfl, isEnd := rfl, name := rfl, attrs := rfl, selfClosing := rfl,
                   toks := (g.push rfl).toks }
  · refine { g with st := rfl, isEnd := rfl, name := rfl, attrs := rfl, selfClosing := rfl, lastStart := rfl,
                    toks := (g.push ?_).toks }
    simp only [skeleton, List.filterMap_cons, List.map_reverse, g.attrs, g.selfClosing]

theorem emitComment : Sim (emitComment a) (emitComment b) :=
  have g := h.flush "data" "data"
  { g with st := rfl, cmt := rfl, bogus := rfl,
           toks := (g.push (x := .comment _ _) (y := .comment _ _) rfl).toks }

/-- the attribute that `beforeAttrName` and `afterAttrName` start -/
theorem newAttr (n : Bytes) :
    Sim { HtmlTok.finishAttr a with st := .attrName, an := n, av := [], hasAttr := true }
        { HtmlTok.finishAttr b with st := .attrName, an := n, av := [], hasAttr := true } :=
  (((h.finishAttr.setSt _).setAn _).setAv _ _).setHasAttr _

end Sim
end

/-! ### step -/

theorem Sim.ite {p : Prop} [Decidable p] {x y x' y' : T} (h1 : Sim x x') (h2 : Sim y y') :
    Sim (if p then x else y) (if p then x' else y') := by
  split <;> assumption

theorem foldl_sim (g : T → Nat → T) (hg : ∀ a b c, Sim a b → Sim (g a c) (g b c)) :
    ∀ (l : List Nat) (a b : T), Sim a b → Sim (l.foldl g a) (l.foldl g b)
  | [], _, _, h => h
  | c :: l, a, b, h => foldl_sim g hg l _ _ (hg a b c h)

theorem Sim.exists_eq {a b : T} (h : Sim a b) :
    ∃ toks txt attrs av, b = { a with toks := toks, txt := txt, attrs := attrs, av := av } := by
  cases b; cases h; simp only at *; subst_vars; exact ⟨_, _, _, _, rfl⟩

theorem step_sim : ∀ (f : Nat) (a b : T) (c : Nat), Sim a b → Sim (step f a c) (step f b c)
  | 0, a, b, c, h => h
  | f+1, a, b, c, h => by
    have ih := step_sim f
    -- with `b` written as an update of `a`, both sides branch on the same conditions
    obtain ⟨_, _, _, _, rfl⟩ := h.exists_eq
    obtain ⟨s⟩ := a
    cases s <;> simp only [step]
    case data | rcdata | rawtext | script => exact .ite (h.setSt _) (h.emitChar _ _)
    case plaintext => exact h.emitChar _ _
    case tagOpen =>
      exact .ite ((h.setSt _).setPend _) (.ite (h.setSt _) (.ite (ih _ _ _ (((h.flush _ _).newTag _).setSt _))
        (.ite (ih _ _ _ ((((h.flush _ _).setSt _).setCmt _).setBogus _)) (ih _ _ _ ((h.emitChar _ _).setSt _)))))
    case endTagOpen =>
      exact .ite (ih _ _ _ (((h.flush _ _).newTag _).setSt _))
        (.ite (h.setSt _) (ih _ _ _ ((((h.flush _ _).setSt _).setCmt _).setBogus _)))
    case tagName => exact .ite (h.setSt _) (.ite (h.setSt _) (.ite (h.emitTag _ _) (h.setName _)))
    case textLt =>
      exact .ite ((h.setSt _).setTmp _) (.ite ((h.emitChars _ _).setSt _) (ih _ _ _ ((h.emitChar _ _).setSt _)))
    case textEndOpen | scriptEscEndOpen =>
      exact .ite (ih _ _ _ ((h.newTag _).setSt _)) (ih _ _ _ ((h.emitChars _ _).setSt _))
    case textEndName | scriptEscEndName =>
      exact .ite ((h.setSt _).setTmp _) (.ite ((h.setSt _).setTmp _) (.ite ((h.setTmp _).emitTag _ _)
        (.ite ((h.setName _).setTmp _) (ih _ _ _ ((((h.emitChars _ _).setSt _).setTmp _).setName _)))))
    case scriptEscStart | scriptEscStartDash => exact .ite ((h.emitChar _ _).setSt _) (ih _ _ _ (h.setSt _))
    case scriptEsc => exact .ite ((h.emitChar _ _).setSt _) (.ite (h.setSt _) (h.emitChar _ _))
    case scriptEscDash => exact .ite ((h.emitChar _ _).setSt _) (.ite (h.setSt _) ((h.emitChar _ _).setSt _))
    case scriptEscDashDash =>
      exact .ite (h.emitChar _ _) (.ite (h.setSt _) (.ite ((h.emitChar _ _).setSt _) ((h.emitChar _ _).setSt _)))
    case scriptEscLt =>
      exact .ite ((h.setSt _).setTmp _) (.ite (ih _ _ _ (((h.emitChar _ _).setSt _).setTmp _))
        (ih _ _ _ ((h.emitChar _ _).setSt _)))
    case scriptDblEscStart | scriptDblEscEnd =>
      exact .ite ((h.emitChar _ _).setSt _) (.ite ((h.emitChar _ _).setTmp _) (ih _ _ _ (h.setSt _)))
    case scriptDblEsc =>
      exact .ite ((h.emitChar _ _).setSt _) (.ite ((h.emitChar _ _).setSt _) (h.emitChar _ _))
    case scriptDblEscDash =>
      exact .ite ((h.emitChar _ _).setSt _) (.ite ((h.emitChar _ _).setSt _) ((h.emitChar _ _).setSt _))
    case scriptDblEscDashDash =>
      exact .ite (h.emitChar _ _) (.ite ((h.emitChar _ _).setSt _)
        (.ite ((h.emitChar _ _).setSt _) ((h.emitChar _ _).setSt _)))
    case scriptDblEscLt => exact .ite (((h.emitChar _ _).setSt _).setTmp _) (ih _ _ _ (h.setSt _))
    case beforeAttrName =>
      exact .ite h (.ite (ih _ _ _ (h.setSt _)) (.ite (h.newAttr _) (ih _ _ _ (h.newAttr _))))
    case attrName => exact .ite (ih _ _ _ (h.setSt _)) (.ite (h.setSt _) (h.setAn _))
    case afterAttrName =>
      exact .ite h (.ite (h.setSt _) (.ite (h.setSt _) (.ite (h.emitTag _ _) (ih _ _ _ (h.newAttr _)))))
    case beforeAttrValue =>
      exact .ite h (.ite (h.setSt _) (.ite (h.setSt _) (.ite (h.emitTag _ _) (ih _ _ _ (h.setSt _)))))
    case attrValueDq | attrValueSq => exact .ite (h.setSt _) (h.setAv _ _)
    case attrValueUnq => exact .ite (h.setSt _) (.ite (h.emitTag _ _) (h.setAv _ _))
    case afterAttrValueQ =>
      exact .ite (h.setSt _) (.ite (h.setSt _) (.ite (h.emitTag _ _) (ih _ _ _ (h.setSt _))))
    case selfClosingStart => exact .ite ((h.setSelfClosing _).emitTag _ _) (ih _ _ _ (h.setSt _))
    case bogusComment => exact .ite h.emitComment (h.setCmt _)
    case markupDeclOpen =>
      exact .ite ((((h.flush _ _).setSt _).setCmt _).setPend _) (.ite (((h.flush _ _).setSt _).setPend _)
        (.ite (h.setPend _)
          (foldl_sim _ ih _ _ _ (((((h.flush _ _).setSt _).setCmt _).setPend _).setBogus _))))
    case commentStart => exact .ite (h.setSt _) (.ite h.emitComment (ih _ _ _ (h.setSt _)))
    case commentStartDash => exact .ite (h.setSt _) (.ite h.emitComment (ih _ _ _ ((h.setSt _).setCmt _)))
    case comment => exact .ite ((h.setSt _).setCmt _) (.ite (h.setSt _) (h.setCmt _))
    case commentLt => exact .ite ((h.setSt _).setCmt _) (.ite (h.setCmt _) (ih _ _ _ (h.setSt _)))
    case commentLtBang | commentLtBangDash => exact .ite (h.setSt _) (ih _ _ _ (h.setSt _))
    case commentLtBangDashDash => exact ih _ _ _ (h.setSt _)
    case commentEndDash => exact .ite (h.setSt _) (ih _ _ _ ((h.setSt _).setCmt _))
    case commentEnd =>
      exact .ite h.emitComment (.ite (h.setSt _) (.ite (h.setCmt _) (ih _ _ _ ((h.setSt _).setCmt _))))
    case commentEndBang =>
      exact .ite ((h.setSt _).setCmt _) (.ite h.emitComment (ih _ _ _ ((h.setSt _).setCmt _)))
    case doctype => exact .ite ((h.push rfl).setSt _) h

theorem run_sim (s : Bytes) (a b : T) (h : Sim a b) : Sim (run a s) (run b s) :=
  foldl_sim (fun acc c => step 4 acc c) (step_sim 4) s a b h

theorem finish_sim (a b : T) (h : Sim a b) : Sim (finish a) (finish b) := by
  unfold finish
  rw [← h.st]
  cases a.st with
  | bogusComment | commentStart | commentStartDash | comment | commentLt | commentLtBang | commentLtBangDash
  | commentLtBangDashDash | commentEndDash | commentEnd | commentEndBang => exact h.emitComment.setSt _
  | _ => exact h.flush _ _

theorem result_sim (a b : T) (h : Sim a b) :
    skeleton a.toks.reverse = skeleton b.toks.reverse ∧ a.st = b.st := by
  rw [skeleton_reverse, skeleton_reverse, h.toks]
  exact ⟨rfl, h.st⟩

/-! ### inert text -/

theorem txt_sim (t : T) (x : Bytes) (hst : t.st = .data ∨ t.st = .rcdata ∨ t.st = .rawtext ∨ t.st = .script)
    (hx : ∀ c ∈ x, c ≠ 60) : Sim t (run t x) := by
  rw [run_txt x t hst hx]; exact (Sim.refl t).setTxt t.txt _

theorem av_sim (t : T) (x : Bytes) (q : Nat) (hst : t.st = .attrValueDq ∧ q = 34 ∨ t.st = .attrValueSq ∧ q = 39)
    (hx : ∀ c ∈ x, c ≠ q) : Sim t (run t x) := by
  rw [run_av x t q hst hx]; exact (Sim.refl t).setAv t.av _

theorem inert_sim (t : T) (x : Bytes) (hx : Esc x = true) (hp : InertPos t.st) : Sim t (run t x) := by
  have hs := Esc_no_special x hx
  rcases hp with h | h | h | h
  · exact txt_sim t x (.inl h) fun c hc => (hs c hc).1
  · exact txt_sim t x (.inr (.inl h)) fun c hc => (hs c hc).1
  · exact av_sim t x 34 (.inl ⟨h, rfl⟩) fun c hc => (hs c hc).2.2.1
  · exact av_sim t x 39 (.inr ⟨h, rfl⟩) fun c hc => (hs c hc).2.2.2.1

theorem inert_sim2 (a b : T) (h : Sim a b) (x y : Bytes) (hx : Esc x = true) (hy : Esc y = true)
    (hp : InertPos a.st) : Sim (run a x) (run b y) :=
  (inert_sim a x hx hp).symm.trans (h.trans (inert_sim b y hy (h.st ▸ hp)))

/-! ### C01, one action -/

theorem tokenize_tokens (s : Bytes) : (tokenize s).tokens = (finish (run {} s)).toks.reverse := rfl
theorem tokenize_final (s : Bytes) : (tokenize s).final = (finish (run {} s)).st := rfl

/-- C01 for one action: the token skeleton and the final tokenizer state of `pre ++ data ++ post` do not
    depend on the (escaped) data inserted at an inert position. -/
theorem C01_one_action : SafeHtml.Props.C01.C01_one_action_statement := by
  intro pre post x y hx hy hp
  simp only [tokenize_tokens, tokenize_final, run_append]
  exact result_sim _ _ (finish_sim _ _ (run_sim post _ _ (inert_sim2 _ _ (Sim.refl _) x y hx hy hp)))

/-! ### C01, n actions -/

/-- `static₁ ++ data₁ ++ static₂ ++ data₂ ++ … ++ tail` -/
def render : List (Bytes × Bytes) → Bytes → Bytes
  | [], tail => tail
  | (s, d) :: ps, tail => s ++ d ++ render ps tail

/-- started in `t`, the tokenizer is at an inert position after each static part -/
def InertAll (t : T) : List (Bytes × Bytes) → Prop
  | [] => True
  | (s, d) :: ps => InertPos (run t s).st ∧ InertAll (run (run t s) d) ps

/-- the same, spelled out with prefixes of the rendering: for every `k`, after
    `static₁ ++ data₁ ++ … ++ dataₖ ++ staticₖ₊₁` the tokenizer is at an inert position -/
theorem inertAll_iff : ∀ (ps : List (Bytes × Bytes)) (t : T),
    InertAll t ps ↔ ∀ (k : Nat) (hk : k < ps.length), InertPos (run t (render (ps.take k) (ps[k]'hk).1)).st
  | [], t => by simp [InertAll]
  | (s, d) :: ps, t => by
    simp only [InertAll, inertAll_iff ps]
    constructor
    · rintro ⟨h0, h1⟩ k hk
      cases k with
      | zero => simpa [render] using h0
      | succ k =>
        have := h1 k (by simpa using hk)
        simpa [render, run_append] using this
    · intro h
      refine ⟨by simpa [render] using h 0 (Nat.zero_lt_succ _), fun k hk => ?_⟩
      have := h (k+1) (by simpa using hk)
      simpa [render, run_append] using this

theorem render_sim : ∀ (ps qs : List (Bytes × Bytes)) (tail : Bytes) (a b : T), Sim a b →
    ps.map Prod.fst = qs.map Prod.fst → (∀ p ∈ ps, Esc p.2 = true) → (∀ q ∈ qs, Esc q.2 = true) →
    InertAll a ps → Sim (run a (render ps tail)) (run b (render qs tail))
  | [], [], tail, a, b, h, _, _, _, _ => run_sim tail a b h
  | [], _ :: _, _, _, _, _, hs, _, _, _ => by simp at hs
  | _ :: _, [], _, _, _, _, hs, _, _, _ => by simp at hs
  | (s, d) :: ps, (s', d') :: qs, tail, a, b, h, hs, hp, hq, hi => by
    simp only [List.map_cons, List.cons.injEq] at hs
    obtain ⟨rfl, hs⟩ := hs
    simp only [render, run_append]
    have h1 := run_sim s a b h
    have h2 := inert_sim2 _ _ h1 d d' (hp (s, d) (by simp)) (hq (s, d') (by simp)) hi.1
    exact render_sim ps qs tail _ _ h2 hs (fun p hp' => hp p (by simp [hp'])) (fun q hq' => hq q (by simp [hq']))
      hi.2

/-- C01 for n actions: two renderings with the same static parts and `Esc` data at inert positions have the
    same token skeleton and the same final tokenizer state. -/
theorem C01_n_actions (ps qs : List (Bytes × Bytes)) (tail : Bytes)
    (hs : ps.map Prod.fst = qs.map Prod.fst)
    (hp : ∀ p ∈ ps, Esc p.2 = true) (hq : ∀ q ∈ qs, Esc q.2 = true) (hi : InertAll {} ps) :
    skeleton (tokenize (render ps tail)).tokens = skeleton (tokenize (render qs tail)).tokens ∧
    (tokenize (render ps tail)).final = (tokenize (render qs tail)).final := by
  simp only [tokenize_tokens, tokenize_final]
  exact result_sim _ _ (finish_sim _ _ (render_sim ps qs tail {} {} (Sim.refl _) hs hp hq hi))

theorem C01_n_actions' (ps qs : List (Bytes × Bytes)) (tail : Bytes)
    (hs : ps.map Prod.fst = qs.map Prod.fst)
    (hp : ∀ p ∈ ps, Esc p.2 = true) (hq : ∀ q ∈ qs, Esc q.2 = true)
    (hi : ∀ (k : Nat) (hk : k < ps.length), InertPos (run {} (render (ps.take k) (ps[k]'hk).1)).st) :
    skeleton (tokenize (render ps tail)).tokens = skeleton (tokenize (render qs tail)).tokens ∧
    (tokenize (render ps tail)).final = (tokenize (render qs tail)).final :=
  C01_n_actions ps qs tail hs hp hq ((inertAll_iff ps {}).2 hi)

end SafeHtml.Proofs.HtmlTokSim
