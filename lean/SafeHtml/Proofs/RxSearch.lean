/- Unanchored search with a single character class: some rune is in the class (some byte, for an ASCII class). -/
import SafeHtml.Rx.Thm
import SafeHtml.Proofs.Utf8
namespace SafeHtml
namespace Rx

theorem findFrom_cls (rs : List (Nat × Nat)) (f : Nat) : ∀ (s : List Sym) (i : Nat),
    (findFrom (.cls rs) f i s).isSome = s.any (fun x => inCls rs x.rune) := by
  intro s
  induction s with
  | nil => intro i; simp [findFrom, m]
  | cons c t ih =>
    intro i
    simp only [findFrom, m_cls_cons, List.any_cons]
    cases inCls rs c.rune
    · simpa using ih (i + 1)
    · simp

theorem findSubmatch_cls_isSome (rs : List (Nat × Nat)) (n : Nat) (s : Bytes) :
    (findSubmatch (.cls rs) n s).isSome = (Utf8.decodeSyms s).any (fun x => inCls rs x.rune) := by
  unfold findSubmatch find
  simp only []
  rw [← findFrom_cls rs ((Utf8.decodeSyms s).length + 1) (Utf8.decodeSyms s) 0]
  cases findFrom (.cls rs) ((Utf8.decodeSyms s).length + 1) 0 (Utf8.decodeSyms s) <;> rfl

theorem match_cls_any_bytes (rs) (h : asciiCls rs = true) (s : Bytes) :
    matchString (.cls rs) s = s.any (inCls rs) := by
  unfold matchString find
  rw [findFrom_cls]
  exact Utf8.any_ascii_iff (inCls rs) (inCls_ascii rs h) s

end Rx
end SafeHtml
