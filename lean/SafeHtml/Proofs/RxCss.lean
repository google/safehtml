/- `^(?:A?(?:S|$))*$` (the shape of safeRegularPropertyValuePattern, C15 / C16) as a structural recogniser. -/
import SafeHtml.Rx.Thm
namespace SafeHtml
namespace Rx

theorem cls_isSome_cons (rs) (f) (st : MSt) (c : Sym) (t) (k : MSt → List Sym → Option α) :
    (m (.cls rs) f st (c :: t) k).isSome = (inCls rs c.rune && (k (adv st 1) t).isSome) := by
  rw [m_cls_cons]; cases inCls rs c.rune <;> simp

theorem cls_isSome_nil (rs) (f) (st : MSt) (k : MSt → List Sym → Option α) :
    (m (.cls rs) f st [] k).isSome = false := by
  rw [m_cls_nil]; rfl

theorem eot_isSome (f) (st : MSt) (s) (k : MSt → List Sym → Option α) :
    (m .eot f st s k).isSome = (s.isEmpty && (k st s).isSome) := by
  rw [m_eot]; cases s <;> simp

theorem starLoop_greedy_isSome (body : MSt → List Sym → (MSt → List Sym → Option α) → Option α)
    (f) (st : MSt) (s) (k : MSt → List Sym → Option α) :
    (starLoop body true (f+1) st s k).isSome =
      ((body st s (fun st' s' => if s'.length < s.length then starLoop body true f st' s' k else none)).isSome ||
        (k st s).isSome) := by
  simp only [starLoop, if_true]
  cases body st s _ <;> simp

def regOKs (A S : List (Nat × Nat)) : List Sym → Bool
  | [] => true
  | c :: t =>
    (inCls A c.rune && (match t with
      | [] => true
      | d :: t' => inCls S d.rune && regOKs A S t')) ||
    (inCls S c.rune && regOKs A S t)

def kE : MSt → List Sym → Option Match := fun st s => if s.isEmpty then K0 st s else none

def bodyF (A S : List (Nat × Nat)) (f0 : Nat) :
    MSt → List Sym → (MSt → List Sym → Option Match) → Option Match :=
  fun st s k => m (.cat (Re.quest (.cls A) true) (.alt (.cls S) .eot)) f0 st s k

theorem bodyF_isSome (A S f0) (st : MSt) (s) (k : MSt → List Sym → Option Match) :
    (bodyF A S f0 st s k).isSome =
      ((m (.cls A) f0 st s (fun st1 s1 => m (.alt (.cls S) .eot) f0 st1 s1 k)).isSome ||
       (m (.alt (.cls S) .eot) f0 st s k).isSome) := by
  unfold bodyF
  rw [m_cat]
  simp only [Re.quest, if_true]
  rw [m_alt_isSome, m_eps]

theorem starX_nil (A S) (f0 f : Nat) (st : MSt) (hf : 0 < f) :
    (starLoop (bodyF A S f0) true f st [] kE).isSome = true := by
  cases f with
  | zero => omega
  | succ f =>
    rw [starLoop_greedy_isSome]
    simp [kE, K0]

/-- Induction on a bound `n` of the length, because the body consumes one or two symbols. -/
theorem starX (A S) (f0 : Nat) : ∀ (n : Nat) (s : List Sym) (st : MSt) (f : Nat), s.length ≤ n → s.length < f →
    (starLoop (bodyF A S f0) true f st s kE).isSome = regOKs A S s := by
  intro n
  induction n with
  | zero =>
    intro s st f hn hf
    have : s = [] := by cases s <;> simp_all
    subst this
    rw [starX_nil A S f0 f st hf]; rfl
  | succ n ih =>
    intro s st f hn hf
    cases s with
    | nil => rw [starX_nil A S f0 f st hf]; rfl
    | cons c t =>
      cases f with
      | zero => omega
      | succ f =>
        have hlt : t.length < f := by simp at hf; omega
        have hln : t.length ≤ n := by simp at hn; omega
        rw [starLoop_greedy_isSome, bodyF_isSome]
        have hk : (kE st (c :: t)).isSome = false := by simp [kE]
        rw [hk, Bool.or_false, cls_isSome_cons, m_alt_isSome, m_alt_isSome, cls_isSome_cons, eot_isSome, eot_isSome]
        simp only [List.isEmpty_cons, Bool.false_and, Bool.or_false, List.length_cons, Nat.lt_succ_self, if_true]
        rw [ih t (adv st 1) f hln hlt]
        cases t with
        | nil =>
          rw [cls_isSome_nil]
          simp [regOKs]
        | cons d t' =>
          rw [cls_isSome_cons]
          have h1 : t'.length < t'.length + 1 + 1 := by omega
          simp only [List.isEmpty_cons, Bool.false_and, Bool.or_false, List.length_cons, h1, if_true]
          rw [ih t' _ f (by simp at hln; omega) (by simp at hlt; omega)]
          simp [regOKs]

/-- `^(?:A?(?:S|$))*$` -/
theorem match_regular_shape (A S : List (Nat × Nat)) (s : Bytes) :
    matchString (.cat .bot (.cat (.star (.cat (Re.quest (.cls A) true) (.alt (.cls S) .eot)) true) .eot)) s =
      regOKs A S (Utf8.decodeSyms s) := by
  unfold matchString
  rw [find_bot]
  generalize Utf8.decodeSyms s = syms
  rw [m_cat, m_star]
  have := starX A S (syms.length + 1) syms.length syms ⟨0, []⟩ (syms.length + 1) (Nat.le_refl _) (by omega)
  rw [← this]
  congr 1

end Rx
end SafeHtml
