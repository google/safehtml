/-
The WHATWG character-reference decoder (`Spec.CharRef.decodeAttr` / `decodeText`) and Go's `html.UnescapeString`
(`Model.GoHtml.unescapeString`) are the same loop: copy bytes, and at an `&` let a reference reader `step` say what
to emit and how many bytes to skip. Here: that loop (`walk`), its three equations, and the induction principle that
follows the loop, so that no proof about either decoder mentions fuel.
-/
import SafeHtml.Spec.CharRef
import SafeHtml.Model.GoHtml
namespace SafeHtml.Proofs.DecodeWalk
open SafeHtml SafeHtml.Spec.CharRef SafeHtml.Model

def walkAux (step : Bytes → Bytes × Nat) : Nat → Bytes → Bytes
  | 0, s => s
  | _+1, [] => []
  | f+1, c :: t => if c == 38 then (step t).1 ++ walkAux step f (t.drop (step t).2) else c :: walkAux step f t

def walk (step : Bytes → Bytes × Nat) (s : Bytes) : Bytes := walkAux step s.length s

theorem decodeAux_eq_walkAux (attr : Bool) : ∀ f s, decodeAux attr f s = walkAux (consume attr) f s
  | 0, _ => rfl
  | _+1, [] => rfl
  | f+1, c :: t => by simp only [decodeAux, walkAux, decodeAux_eq_walkAux attr f]

theorem unescapeAux_eq_walkAux : ∀ f s, GoHtml.unescapeAux f s = walkAux GoHtml.unescapeEntity f s
  | 0, _ => rfl
  | _+1, [] => rfl
  | f+1, c :: t => by simp only [GoHtml.unescapeAux, walkAux, unescapeAux_eq_walkAux f]

theorem decodeAttr_eq_walk (s : Bytes) : decodeAttr s = walk (consume true) s := decodeAux_eq_walkAux true _ s
theorem decodeText_eq_walk (s : Bytes) : decodeText s = walk (consume false) s := decodeAux_eq_walkAux false _ s
theorem unescapeString_eq_walk (s : Bytes) : GoHtml.unescapeString s = walk GoHtml.unescapeEntity s :=
  unescapeAux_eq_walkAux _ s

variable (step : Bytes → Bytes × Nat)

theorem walkAux_fuel : ∀ (f : Nat) (s : Bytes), s.length ≤ f → walkAux step f s = walk step s
  | _, [], _ => by cases ‹Nat› <;> rfl
  | 0, _ :: _, hf => by simp at hf
  | f+1, c :: t, hf => by
    simp only [List.length_cons] at hf
    simp only [walk, walkAux, List.length_cons]
    rw [walkAux_fuel f t (by omega), walkAux_fuel f (t.drop _) (by rw [List.length_drop]; omega),
      walkAux_fuel t.length (t.drop _) (by rw [List.length_drop]; omega)]
    rfl

theorem walk_nil : walk step [] = [] := rfl

theorem walk_amp (t : Bytes) : walk step (38 :: t) = (step t).1 ++ walk step (t.drop (step t).2) := by
  simp only [walk, walkAux, List.length_cons, beq_self_eq_true, if_true]
  rw [walkAux_fuel step _ _ (by rw [List.length_drop]; omega)]
  rfl

theorem walk_other (c : Nat) (t : Bytes) (h : c ≠ 38) : walk step (c :: t) = c :: walk step t := by
  simp [walk, walkAux, h]

theorem amp_induct (n : Bytes → Nat) {P : Bytes → Prop} (nil : P [])
    (amp : ∀ t, P (t.drop (n t)) → P (38 :: t)) (other : ∀ c t, c ≠ 38 → P t → P (c :: t)) : ∀ s, P s := by
  have key : ∀ k (s : Bytes), s.length ≤ k → P s := by
    intro k
    induction k with
    | zero => intro s hs; rw [List.eq_nil_of_length_eq_zero (Nat.le_zero.1 hs)]; exact nil
    | succ k ih =>
      intro s hs
      cases s with
      | nil => exact nil
      | cons c t =>
        simp only [List.length_cons] at hs
        by_cases hc : c = 38
        · subst hc; exact amp t (ih _ (by rw [List.length_drop]; omega))
        · exact other c t hc (ih t (by omega))
  exact fun s => key s.length s (Nat.le_refl _)

end SafeHtml.Proofs.DecodeWalk
