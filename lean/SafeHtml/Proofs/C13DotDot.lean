/-
C13 helper lemmas: the regenerated `urlDoubleDotSegmentPattern` is "two adjacent dots, each
literal or %2e/%2E", and a string without that has no double-dot path segment anywhere.
-/
import SafeHtml.Model.Tru
import SafeHtml.Spec.TruUrl
import SafeHtml.Proofs.RxSeq
namespace SafeHtml.Proofs.C13
open SafeHtml SafeHtml.Rx SafeHtml.Model SafeHtml.Spec.Rfc3986 SafeHtml.Spec.TruUrl
open SafeHtml.Generated.Regexes

/-- one dot, literal or `%2e`/`%2E` -/
def dotRe : Re :=
  .alt (.cls [(46, 46)]) (.cat (.cls [(37, 37)]) (.cat (.cls [(50, 50)]) (.cls [(69, 69), (101, 101)])))

theorem dotAt_cons_46 (t : Bytes) : dotAt (46 :: t) = some t := by simp [dotAt]

theorem lensB_dotRe (s : Bytes) :
    (∃ n r, dotAt s = some r ∧ lensB dotRe s = [n] ∧ s.drop n = r) ∨
      (dotAt s = none ∧ lensB dotRe s = []) := by
  unfold dotRe
  rcases s with _ | ⟨a, t⟩
  · right; simp [dotAt, lensB]
  · by_cases ha : a = 46
    · subst ha
      left
      refine ⟨1, t, by simp [dotAt], ?_, by simp⟩
      simp [lensB, inCls]
    · by_cases ha' : a = 37
      · subst ha'
        rcases t with _ | ⟨b, t⟩
        · right; simp [dotAt, lensB, inCls]
        · by_cases hb : b = 50
          · subst hb
            rcases t with _ | ⟨c, t⟩
            · right; simp [dotAt, lensB, inCls]
            · by_cases hc : c = 101 ∨ c = 69
              · left
                refine ⟨3, t, ?_, ?_, by simp⟩
                · rcases hc with rfl | rfl <;> simp [dotAt]
                · rcases hc with rfl | rfl <;> simp [lensB, inCls]
              · right
                constructor
                · simp [dotAt]; omega
                · simp [lensB, inCls]; omega
          · right
            constructor
            · simp [dotAt, hb]
            · simp [lensB, inCls]; omega
      · right
        constructor
        · simp [dotAt, ha, ha']
        · simp [lensB, inCls]
          exact ⟨by omega, fun _ h1 h2 => absurd (Nat.le_antisymm h2 h1) ha'⟩

theorem lensB_dotdot_head (s : Bytes) :
    ((lensB (.cat dotRe dotRe) s).head?).isSome =
      (match dotAt s with | some r => (dotAt r).isSome | none => false) := by
  rw [lensB]
  rcases lensB_dotRe s with ⟨n, r, h1, h2, h3⟩ | ⟨h1, h2⟩
  · rw [h1, h2, List.flatMap_singleton, h3]
    rcases lensB_dotRe r with ⟨m, r', g1, g2, _⟩ | ⟨g1, g2⟩
    · simp [g1, g2]
    · simp [g1, g2]
  · simp [h1, h2]

theorem firstMatchB_dotdot (s : Bytes) :
    (firstMatchB (.cat dotRe dotRe) s).isSome = hasDoubleDot s := by
  induction s with
  | nil =>
    have : lensB (.cat dotRe dotRe) [] = [] := lensB_nil_of_nil _ (by decide)
    simp [firstMatchB, this, hasDoubleDot]
  | cons c t ih =>
    -- a match at the head (`lensB_dotdot_head`), or a match further on
    rw [hasDoubleDot, ← ih, firstMatchB]
    refine Eq.trans ?_ (congrArg (· || (firstMatchB (.cat dotRe dotRe) t).isSome) (lensB_dotdot_head (c :: t)))
    cases (lensB (.cat dotRe dotRe) (c :: t)).head? <;> cases firstMatchB (.cat dotRe dotRe) t <;> rfl

theorem rx_dotdot (s : Bytes) : urlContainsDoubleDotSegment s = hasDoubleDot s := by
  unfold urlContainsDoubleDotSegment safehtmlutil_urlDoubleDotSegmentPattern
  rw [matchString_ascii _ (by decide) (by decide) (by decide)]
  exact firstMatchB_dotdot s

theorem hasDoubleDot_append_left (a b : Bytes) (h : hasDoubleDot b = true) : hasDoubleDot (a ++ b) = true := by
  induction a with
  | nil => simpa using h
  | cons c a ih => rw [List.cons_append, hasDoubleDot, ih]; simp

theorem dotAt_append (x r b : Bytes) (h : dotAt x = some r) : dotAt (x ++ b) = some (r ++ b) := by
  rcases x with _ | ⟨a, t⟩
  · simp [dotAt] at h
  · by_cases ha : a = 46
    · subst ha
      simp [dotAt] at h ⊢; exact h
    · by_cases ha' : a = 37
      · subst ha'
        rcases t with _ | ⟨b1, _ | ⟨c, t⟩⟩
        · simp [dotAt] at h
        · simp [dotAt] at h
        · by_cases hb : b1 = 50
          · subst hb
            simp [dotAt] at h ⊢
            refine ⟨h.1, ?_⟩; rw [h.2]
          · simp [dotAt, hb] at h
      · simp [dotAt, ha, ha'] at h

theorem hasDoubleDot_append_right (a b : Bytes) (h : hasDoubleDot a = true) : hasDoubleDot (a ++ b) = true := by
  induction a with
  | nil => simp [hasDoubleDot] at h
  | cons c a ih =>
    rw [hasDoubleDot, Bool.or_eq_true] at h
    rw [List.cons_append, hasDoubleDot, Bool.or_eq_true]
    rcases h with h | h
    · left
      rw [← List.cons_append]
      cases h1 : dotAt (c :: a) with
      | none => rw [h1] at h; simp at h
      | some r =>
        rw [h1] at h
        simp only [] at h
        cases h2 : dotAt r with
        | none => rw [h2] at h; simp at h
        | some r' =>
          rw [dotAt_append _ _ b h1]
          simp only []
          rw [dotAt_append _ _ b h2]; rfl
    · right; exact ih h

theorem isDotDotSeg_hasDoubleDot (seg : Bytes) (h : isDotDotSeg seg = true) : hasDoubleDot seg = true := by
  cases seg with
  | nil => simp [isDotDotSeg, dotAt] at h
  | cons c t =>
    rw [hasDoubleDot, Bool.or_eq_true]; left
    unfold isDotDotSeg at h
    cases h1 : dotAt (c :: t) with
    | none => rw [h1] at h; simp at h
    | some r =>
      rw [h1] at h
      simp only [] at h ⊢
      cases h2 : dotAt r with
      | none => rw [h2] at h; simp at h
      | some r' => rfl

theorem segments_struct (p : Bytes) :
    ∃ s ss, segments p = s :: ss ∧ (∃ r, p = s ++ r) ∧ ∀ seg ∈ ss, ∃ a b, p = a ++ seg ++ b := by
  induction p with
  | nil => exact ⟨[], [], rfl, ⟨[], rfl⟩, by simp⟩
  | cons b t ih =>
    obtain ⟨s, ss, h1, ⟨r, h2⟩, h3⟩ := ih
    by_cases hb : b = 47
    · subst hb
      refine ⟨[], segments t, by simp [segments], ⟨_, rfl⟩, ?_⟩
      intro seg hseg
      rw [h1] at hseg
      rcases List.mem_cons.1 hseg with rfl | hseg
      · exact ⟨[47], r, by simp [← h2]⟩
      · obtain ⟨a, b', h⟩ := h3 seg hseg
        exact ⟨47 :: a, b', by simp [h]⟩
    · refine ⟨b :: s, ss, by simp [segments, hb, h1], ⟨r, by simp [← h2]⟩, ?_⟩
      intro seg hseg
      obtain ⟨a, b', h⟩ := h3 seg hseg
      exact ⟨b :: a, b', by simp [h]⟩

theorem segments_infix (p : Bytes) : ∀ seg ∈ segments p, ∃ a b, p = a ++ seg ++ b := by
  obtain ⟨s, ss, h1, ⟨r, h2⟩, h3⟩ := segments_struct p
  intro seg hseg
  rw [h1] at hseg
  rcases List.mem_cons.1 hseg with rfl | hseg
  · exact ⟨[], r, by simpa using h2⟩
  · exact h3 seg hseg

theorem cut_prefix (c : Nat) (s : Bytes) : ∃ r, s = (cut c s).1 ++ r := by
  induction s with
  | nil => exact ⟨[], rfl⟩
  | cons b t ih =>
    by_cases hb : b = c
    · exact ⟨b :: t, by simp [cut, hb]⟩
    · obtain ⟨r, hr⟩ := ih
      exact ⟨r, by simp [cut, hb, ← hr]⟩

theorem splitScheme_suffix (s : Bytes) : ∃ a, s = a ++ (splitScheme s).2 := by
  unfold splitScheme
  simp only []
  split
  · rename_i rest heq
    split
    · exact ⟨[], rfl⟩
    · refine ⟨s.take (s.takeWhile fun b => !(b == 58 || b == 47 || b == 63 || b == 35)).length ++ [58], ?_⟩
      simp only [List.append_assoc, List.singleton_append]
      rw [← heq, List.take_append_drop]
  · exact ⟨[], rfl⟩

theorem splitAuthority_suffix (s : Bytes) : ∃ a, s = a ++ (splitAuthority s).2 := by
  unfold splitAuthority
  split
  · rename_i t
    simp only []
    refine ⟨47 :: 47 :: t.take (t.takeWhile fun b => !(b == 47 || b == 63 || b == 35)).length, ?_⟩
    simp only [List.cons_append, List.take_append_drop]
  · exact ⟨[], rfl⟩

theorem split_path_infix (s : Bytes) : ∃ a b, s = a ++ (split s).path ++ b := by
  unfold split
  simp only []
  obtain ⟨r1, h1⟩ := cut_prefix 35 s
  obtain ⟨r2, h2⟩ := cut_prefix 63 (cut 35 s).1
  obtain ⟨a3, h3⟩ := splitScheme_suffix (cut 63 (cut 35 s).1).1
  obtain ⟨a4, h4⟩ := splitAuthority_suffix (splitScheme (cut 63 (cut 35 s).1).1).2
  refine ⟨a3 ++ a4, r2 ++ r1, ?_⟩
  generalize (splitAuthority (splitScheme (cut 63 (cut 35 s).1).1).2).2 = p at *
  generalize (splitScheme (cut 63 (cut 35 s).1).1).2 = q at *
  generalize (cut 63 (cut 35 s).1).1 = u at *
  generalize (cut 35 s).1 = v at *
  subst h4 h3 h2
  rw [h1]; simp

theorem no_dotdot_segment (s : Bytes) (h : hasDoubleDot s = false) :
    ∀ seg ∈ segments (split s).path, isDotDotSeg seg = false := by
  intro seg hseg
  cases hd : isDotDotSeg seg with
  | false => rfl
  | true =>
    exfalso
    obtain ⟨a, b, hp⟩ := segments_infix _ seg hseg
    obtain ⟨a', b', hs⟩ := split_path_infix s
    have h1 := isDotDotSeg_hasDoubleDot seg hd
    have h2 : hasDoubleDot (a' ++ (a ++ seg ++ b) ++ b') = true :=
      hasDoubleDot_append_right _ _ (hasDoubleDot_append_left _ _
        (hasDoubleDot_append_right _ _ (hasDoubleDot_append_left _ _ h1)))
    rw [← hp, ← hs, h] at h2
    exact Bool.noConfusion h2
end SafeHtml.Proofs.C13
