/-
C12: every string accepted by the model of `strconv.ParseFloat` is over `[0-9A-Za-z+-._]`
(`PfAlphabet parseFloatOk`) — in particular it contains no parenthesis, whitespace or comma.
-/
import SafeHtml.Proofs.UrlSet
namespace SafeHtml.Proofs.UrlSet
open SafeHtml SafeHtml.Model.UrlSet

/-- every byte of `l` is in `rest` or is a float byte; weaker than `l = consumed ++ rest`, and all the scanner
    steps need, since only membership in the alphabet is wanted at the end -/
def Consumed (l rest : Bytes) : Prop := ∀ b ∈ l, b ∈ rest ∨ floatByte b = true

theorem consumed_refl (l : Bytes) : Consumed l l := fun _ hb => Or.inl hb

theorem consumed_cons (c : Nat) (t rest : Bytes) (hc : floatByte c = true) (h : Consumed t rest) :
    Consumed (c :: t) rest := by
  intro b hb
  simp at hb
  rcases hb with rfl | hb
  · exact Or.inr hc
  · exact h b hb

theorem consumed_trans (a b c : Bytes) (h1 : Consumed a b) (h2 : Consumed b c) : Consumed a c := by
  intro x hx
  rcases h1 x hx with h | h
  · exact h2 x h
  · exact Or.inr h

theorem consumed_nil_all (l : Bytes) (h : Consumed l []) : ∀ b ∈ l, floatByte b = true := by
  intro b hb
  rcases h b hb with h | h
  · simp at h
  · exact h

theorem fb_digit (c : Nat) (h : isDigit c = true) : floatByte c = true := by simp [floatByte, h]

theorem fb_hexLetter (c : Nat) (h : isHexLetter c = true) : floatByte c = true := by
  simp only [isHexLetter, Bool.or_eq_true, Bool.and_eq_true, decide_eq_true_eq] at h
  simp only [floatByte, isAlpha, isLowerAlpha, isUpperAlpha, isDigit, Bool.or_eq_true, Bool.and_eq_true,
    decide_eq_true_eq, beq_iff_eq]
  omega

theorem orBit5_eq (c v : Nat) (h : orBit5 c = v) : c = v ∨ c + 32 = v := by
  unfold orBit5 at h
  split at h <;> omega

theorem fb_orBit5_letter (c v : Nat) (h : orBit5 c = v) (hv : 97 ≤ v ∧ v ≤ 122) : floatByte c = true := by
  have := orBit5_eq c v h
  simp only [floatByte, isAlpha, isLowerAlpha, isUpperAlpha, isDigit, Bool.or_eq_true, Bool.and_eq_true,
    decide_eq_true_eq, beq_iff_eq]
  omega

theorem readMant_consumed (hex : Bool) : ∀ (l : Bytes) (st : Mant), Consumed l (readMant hex st l).2 := by
  intro l
  induction l with
  | nil => intro st; simp [readMant, Consumed]
  | cons c t ih =>
    intro st
    unfold readMant
    by_cases h95 : c = 95
    · simp only [h95, if_true]; exact consumed_cons _ _ _ (by decide) (ih _)
    · simp only [h95, if_false]
      by_cases h46 : c = 46
      · simp only [h46, if_true]
        cases st.sawdot
        · simp only [Bool.false_eq_true, if_false]; exact consumed_cons _ _ _ (by decide) (ih _)
        · simp only [if_true]; exact consumed_refl _
      · simp only [h46, if_false]
        by_cases hd : isDigit c = true
        · simp only [hd, if_true]; exact consumed_cons _ _ _ (fb_digit c hd) (ih _)
        · simp only [hd]
          by_cases hh : (hex && isHexLetter c) = true
          · simp only [hh, if_true]
            exact consumed_cons _ _ _ (fb_hexLetter c (by simp at hh; exact hh.2)) (ih _)
          · simp only [hh]; exact consumed_refl _

theorem readExpDigits_consumed : ∀ (l : Bytes) (e : Nat), Consumed l (readExpDigits e l).2 := by
  intro l
  induction l with
  | nil => intro e; simp [readExpDigits, Consumed]
  | cons c t ih =>
    intro e
    unfold readExpDigits
    by_cases h95 : c = 95
    · simp only [h95, if_true]; exact consumed_cons _ _ _ (by decide) (ih _)
    · simp only [h95, if_false]
      by_cases hd : isDigit c = true
      · simp only [hd, if_true]; exact consumed_cons _ _ _ (fb_digit c hd) (ih _)
      · simp only [hd]; exact consumed_refl _

theorem stripSign_consumed (s : Bytes) : Consumed s (stripSign s) := by
  unfold stripSign
  cases s with
  | nil => exact consumed_refl _
  | cons c t =>
    by_cases h : c = 43 ∨ c = 45
    · simp only [h, if_true]
      exact consumed_cons _ _ _ (by rcases h with rfl | rfl <;> decide) (consumed_refl _)
    · simp only [h, if_false]; exact consumed_refl _

theorem stripHex_consumed (body : Bytes) : Consumed body (stripHex body).2 := by
  unfold stripHex
  split
  · rename_i x y t
    by_cases h : orBit5 x = 120
    · simp only [h, if_true]
      exact consumed_cons _ _ _ (by decide)
        (consumed_cons _ _ _ (fb_orBit5_letter x 120 h (by omega)) (consumed_refl _))
    · simp only [h, if_false]; exact consumed_refl _
  · exact consumed_refl _

theorem readExponent_all (hex : Bool) (rest : Bytes) (r : Bool × Nat) (h : readExponent hex rest = some r) :
    ∀ b ∈ rest, floatByte b = true := by
  unfold readExponent at h
  cases rest with
  | nil => simp
  | cons c t =>
    simp only at h
    by_cases hc : orBit5 c = (if hex = true then 112 else 101)
    · rw [if_pos hc] at h
      have fc : floatByte c = true := by
        cases hex
        · exact fb_orBit5_letter c 101 (by simpa using hc) (by omega)
        · exact fb_orBit5_letter c 112 (by simpa using hc) (by omega)
      cases t with
      | nil => simp at h
      | cons d t' =>
        simp only at h
        -- the part after the exponent character
        have key : ∀ (t2 : Bytes), Consumed (d :: t') t2 →
            (match t2 with
              | [] => none
              | d2 :: _ => if (!isDigit d2) = true then none
                  else if (readExpDigits 0 t2).2.isEmpty = true then some (decide (d = 45), (readExpDigits 0 t2).1) else none)
              = some r → ∀ b ∈ d :: t', floatByte b = true := by
          intro t2 hcons hm
          cases t2 with
          | nil => simp at hm
          | cons d2 t3 =>
            simp only at hm
            by_cases hd2 : (!isDigit d2) = true
            · rw [if_pos hd2] at hm; cases hm
            · rw [if_neg hd2] at hm
              by_cases he : (readExpDigits 0 (d2 :: t3)).2.isEmpty = true
              · have hnil : (readExpDigits 0 (d2 :: t3)).2 = [] := by simpa using he
                have := readExpDigits_consumed (d2 :: t3) 0
                rw [hnil] at this
                exact consumed_nil_all _ (consumed_trans _ _ _ hcons this)
              · rw [if_neg he] at hm; cases hm
        have hall := key _ (by
          by_cases hs : d = 43 ∨ d = 45
          · simp only [hs, if_true]
            exact consumed_cons _ _ _ (by rcases hs with rfl | rfl <;> decide) (consumed_refl _)
          · simp only [hs, if_false]; exact consumed_refl _) h
        intro b hb
        simp only [List.mem_cons] at hb
        rcases hb with rfl | hb
        · exact fc
        · exact hall b (by simpa using hb)
    · rw [if_neg hc] at h; cases h

theorem readFloatOk_all (s : Bytes) (h : readFloatOk s = true) : ∀ b ∈ s, floatByte b = true := by
  unfold readFloatOk at h
  by_cases he : s.isEmpty = true
  · rw [if_pos he] at h; cases h
  · rw [if_neg he] at h
    simp only at h
    by_cases hd : (!(readMant (stripHex (stripSign s)).1 {} (stripHex (stripSign s)).2).1.sawdigits) = true
    · rw [if_pos hd] at h; cases h
    · rw [if_neg hd] at h
      cases hx : readExponent (stripHex (stripSign s)).1 (readMant (stripHex (stripSign s)).1 {} (stripHex (stripSign s)).2).2 with
      | none => rw [hx] at h; cases h
      | some r =>
        have hrest := readExponent_all _ _ r hx
        have c1 := stripSign_consumed s
        have c2 := stripHex_consumed (stripSign s)
        have c3 := readMant_consumed (stripHex (stripSign s)).1 (stripHex (stripSign s)).2 {}
        intro b hb
        rcases consumed_trans _ _ _ (consumed_trans _ _ _ c1 c2) c3 b hb with h' | h'
        · exact hrest b h'
        · exact h'

theorem cpl_take (p : Bytes) (hp : ∀ q ∈ p, isLowerAlpha q = true) : ∀ (s : Bytes),
    commonPrefixLenIgnoreCase s p ≤ s.length ∧
    ∀ b ∈ s.take (commonPrefixLenIgnoreCase s p), floatByte b = true := by
  induction p with
  | nil => intro s; cases s <;> simp [commonPrefixLenIgnoreCase]
  | cons q ps ih =>
    intro s
    cases s with
    | nil => simp [commonPrefixLenIgnoreCase]
    | cons c t =>
      unfold commonPrefixLenIgnoreCase
      by_cases hc : lowerB c = q
      · rw [if_pos hc]
        have ⟨i1, i2⟩ := ih (fun x hx => hp x (by simp [hx])) t
        refine ⟨by simp; omega, ?_⟩
        intro b hb
        simp only [List.take_succ_cons, List.mem_cons] at hb
        rcases hb with rfl | hb
        · have hq := hp q (by simp)
          unfold lowerB at hc
          simp only [isLowerAlpha, Bool.and_eq_true, decide_eq_true_eq] at hq
          simp only [floatByte, isAlpha, isLowerAlpha, isUpperAlpha, isDigit, Bool.or_eq_true, Bool.and_eq_true,
            decide_eq_true_eq, beq_iff_eq]
          split at hc <;> omega
        · exact i2 b hb
      · rw [if_neg hc]; simp

theorem forall_of_take {P : Nat → Prop} (s : Bytes) (k : Nat) (hk : s.length ≤ k)
    (h : ∀ b ∈ s.take k, P b) : ∀ b ∈ s, P b := by
  rwa [List.take_of_length_le hk] at h

theorem infLen_all (t : Bytes) (n : Nat)
    (h : (let n := commonPrefixLenIgnoreCase t strInfinity
          let n := if 3 < n ∧ n < 8 then 3 else n
          if n = 3 ∨ n = 8 then some n else none) = some n) (hn : n = t.length) :
    ∀ b ∈ t, floatByte b = true := by
  have ⟨_, i2⟩ := cpl_take strInfinity (by decide) t
  simp only at h
  generalize commonPrefixLenIgnoreCase t strInfinity = k at h i2
  have hle : n ≤ k := by
    by_cases hc : 3 < k ∧ k < 8
    · rw [if_pos hc] at h
      simp at h; omega
    · rw [if_neg hc] at h
      by_cases h2 : k = 3 ∨ k = 8
      · rw [if_pos h2] at h; simp at h; omega
      · rw [if_neg h2] at h; cases h
  exact forall_of_take t k (by omega) i2

theorem special_all (s : Bytes) (n : Nat) (h : special s = some n) (hn : n = s.length) :
    ∀ b ∈ s, floatByte b = true := by
  unfold special at h
  cases s with
  | nil => simp
  | cons c t =>
    simp only at h
    by_cases h1 : c = 43 ∨ c = 45
    · rw [if_pos h1] at h
      simp only [Option.map_eq_some_iff] at h
      obtain ⟨k, hk, hkn⟩ := h
      have := infLen_all t k hk (by simp at hn; omega)
      intro b hb
      simp only [List.mem_cons] at hb
      rcases hb with rfl | hb
      · rcases h1 with rfl | rfl <;> decide
      · exact this b hb
    · rw [if_neg h1] at h
      by_cases h2 : c = 105 ∨ c = 73
      · rw [if_pos h2] at h
        exact infLen_all (c :: t) n h hn
      · rw [if_neg h2] at h
        by_cases h3 : c = 110 ∨ c = 78
        · rw [if_pos h3] at h
          split at h
          · rename_i h4
            cases h
            have ⟨_, i2⟩ := cpl_take strNan (by decide) (c :: t)
            exact forall_of_take (c :: t) _ (by omega) i2
          · cases h
        · rw [if_neg h3] at h; cases h

theorem parseFloatOk_alphabet : PfAlphabet parseFloatOk := by
  intro p hp
  unfold parseFloatOk at hp
  cases hs : special p with
  | none => rw [hs] at hp; exact readFloatOk_all p hp
  | some n =>
    rw [hs] at hp
    exact special_all p n hs (by simpa using hp)

end SafeHtml.Proofs.UrlSet
