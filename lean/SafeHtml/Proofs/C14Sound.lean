/-
C14, soundness of an accepted URL prefix. Everything here rests on the test the library has since commit 213930e:
numeric character references without `;` are refused in URL prefixes. The two Rx obligations
(`rx_endsWithCharRefPrefix`, `rx_unterminatedNumericCharRef`); `decoders_dichotomy`: on a prefix without such a
reference Go's `html.UnescapeString` and the WHATWG attribute-value decoder agree, or agree up to a byte that ends
the URL scheme state; hence conjuncts 1–3 of `C14_prefix_sound_statement` in the browser's reading
(`C14_prefix_sound_scheme_of`). Conjunct 4 is in Proofs/C14Sound2.lean.
-/
import Lean.Elab.Command
import SafeHtml.Proofs.CharRefAppend
import SafeHtml.Proofs.Utf8More
import SafeHtml.Proofs.RxAscii
import SafeHtml.Proofs.Tactics
import SafeHtml.Props.C14
import SafeHtml.Props.C11
import SafeHtml.Proofs.C13Prefix
namespace SafeHtml.Proofs.C14Sound
open SafeHtml SafeHtml.Rx SafeHtml.Spec SafeHtml.Spec.CharRef SafeHtml.Generated.Regexes
open SafeHtml.Proofs.CharRefAppend SafeHtml.Proofs.CharRefEsc SafeHtml.Proofs.DecodeWalk SafeHtml.Proofs.EntityFacts
open SafeHtml.Model SafeHtml.Model.TmplUrl SafeHtml.Props.C14 SafeHtml.Spec.UrlComp

/-! ### byte-level reading of `X$` for simple ASCII `X` -/

theorem lensB_cat_cls_nil (rs) (Y : Re) : lensB (.cat (.cls rs) Y) [] = [] := lensB_cls_cat rs Y []

theorem lensB_cat_cls_cons (rs) (Y : Re) (c : Nat) (u : Bytes) :
    lensB (.cat (.cls rs) Y) (c :: u) = if inCls rs c then (lensB Y u).map (1 + ·) else [] :=
  lensB_cls_cat rs Y (c :: u)

theorem hasEnd_cat_cls_nil (rs) (Y : Re) : hasEnd (.cat (.cls rs) Y) [] = false := hasEnd_cls_cat rs Y []

theorem hasEnd_cat_cls_cons (rs) (Y : Re) (c : Nat) (u : Bytes) :
    hasEnd (.cat (.cls rs) Y) (c :: u) = (inCls rs c && hasEnd Y u) := hasEnd_cls_cat rs Y (c :: u)

theorem lensB_cat_eot_isSome (X : Re) (t : Bytes) :
    (lensB (.cat X .eot) t).head?.isSome = hasEnd X t := by
  rw [← nb_cat_eot, nb]
  cases lensB (.cat X .eot) t <;> rfl

/-! ### the classes of `endsWithCharRefPrefixPattern` -/

theorem cls_x (c : Nat) : inCls [(88, 88), (120, 120)] c = (c == 120 || c == 88) := by
  simp only [inCls, List.any, Bool.or_false]; cls_arith
theorem cls_alpha : inCls [(65, 90), (97, 122)] = isAlpha := by
  funext c; simp only [inCls, List.any, Bool.or_false, isAlpha, isLowerAlpha, isUpperAlpha]; cls_arith
theorem cls_alnum : inCls [(48, 57), (65, 90), (97, 122)] = isAlnum := by
  funext c
  simp only [inCls, List.any, Bool.or_false, isAlnum, isAlpha, isLowerAlpha, isUpperAlpha, isDigit]; cls_arith
theorem cls_digit : inCls [(48, 57)] = isDigit := by
  funext c; simp only [inCls, List.any, Bool.or_false, isDigit]
theorem cls_hex : inCls [(48, 57), (65, 70), (97, 102)] = fun c => (Spec.CharRef.hexVal c).isSome := by
  funext c
  simp only [inCls, List.any, Bool.or_false, Spec.CharRef.hexVal, isDigit]
  by_cases h1 : (48 ≤ c && c ≤ 57) = true
  · simp [h1]
  · by_cases h2 : (97 ≤ c && c ≤ 102) = true
    · simp [h1, h2]
    · by_cases h3 : (65 ≤ c && c ≤ 70) = true
      · simp [h1, h2, h3]
      · simp [h1, h2, h3]

/-! ### the pattern -/

def reA : Re := .cat (.cls [(65, 90), (97, 122)]) (.star (.cls [(48, 57), (65, 90), (97, 122)]) true)
def reX : Re := .cat (.cls [(88, 88), (120, 120)]) (.star (.cls [(48, 57), (65, 70), (97, 102)]) true)
def reB : Re := .cat (.cls [(35, 35)]) (.alt reX (.star (.cls [(48, 57)]) true))
def reQ : Re := .alt (.alt reA reB) .eps

theorem pattern_eq : template_endsWithCharRefPrefixPattern = .cat (.cls [(38, 38)]) (.cat reQ .eot) := rfl

theorem hasEnd_reQ (t : Bytes) : hasEnd reQ t = refPrefixTail t := by
  unfold reQ
  rw [hasEnd_alt, hasEnd_alt, hasEnd_eps]
  cases t with
  | nil => simp [reA, reB, hasEnd_cat_cls_nil, refPrefixTail]
  | cons c u =>
    unfold reA reB
    rw [hasEnd_cat_cls_cons, hasEnd_cat_cls_cons, hasEnd_star, hasEnd_alt, hasEnd_star, cls_alpha, cls_alnum,
      cls_lit, cls_digit]
    simp only [List.isEmpty_cons, Bool.or_false]
    by_cases hc : c = 35
    · subst hc
      have : isAlpha 35 = false := by decide
      simp only [this, Bool.false_and, Bool.false_or, beq_self_eq_true, Bool.true_and]
      rcases numPre_cases u with rfl | ⟨isHex, pre, ds, rfl, hp⟩
      · simp [reX, hasEnd_cat_cls_nil, refPrefixTail]
      · rw [refPrefixTail_hash hp]
        rcases hp with ⟨rfl, rfl | rfl⟩ | ⟨rfl, rfl, d, w, rfl, h1, h2⟩
        · simp [reX, hasEnd_cat_cls_cons, hasEnd_star, cls_x, cls_hex, validOf_true, isDigit]
        · simp [reX, hasEnd_cat_cls_cons, hasEnd_star, cls_x, cls_hex, validOf_true, isDigit]
        · simp [reX, hasEnd_cat_cls_cons, cls_x, validOf_false, h1, h2]
    · rw [refPrefixTail_other c u hc]
      have : (c == 35) = false := by simp [hc]
      simp [this]

theorem firstMatchB_pattern : ∀ s : Bytes,
    (firstMatchB template_endsWithCharRefPrefixPattern s).isSome = endsWithCharRefPrefix s
  | [] => by
    rw [pattern_eq]
    simp [firstMatchB, lensB_cat_cls_nil, endsWithCharRefPrefix]
  | c :: t => by
    have ih := firstMatchB_pattern t
    rw [ewcrp_cons, ← ih, ← hasEnd_reQ, ← lensB_cat_eot_isSome]
    rw [pattern_eq] at ih ⊢
    simp only [firstMatchB, lensB_cat_cls_cons, cls_lit]
    by_cases hc : c = 38
    · subst hc
      simp only [beq_self_eq_true, if_true, Bool.true_and, List.head?_map]
      cases (lensB (.cat reQ .eot) t).head? with
      | none => simp
      | some l => simp
    · have : (c == 38) = false := by simp [hc]
      simp [this]

/-- Go's `endsWithCharRefPrefixPattern`
    `&(?:[[:alpha:]][[:alnum:]]*|#(?:[xX][[:xdigit:]]*|[[:digit:]]*))?$` is exactly the WHATWG-side notion
    "ends with something that could still become (or be changed as) a character reference". -/
theorem rx_endsWithCharRefPrefix (p : Bytes) :
    Rx.matchString template_endsWithCharRefPrefixPattern p = Spec.CharRef.endsWithCharRefPrefix p := by
  rw [matchString_ascii _ (by decide) (by decide) (by decide), firstMatchB_pattern]

/-! ### WHATWG scheme: the two transcriptions agree; append lemmas -/

theorem schemeState_eq (t : Bytes) : ∀ acc : Bytes,
    UrlComp.schemeState t acc = UrlScheme.schemeState acc t := by
  induction t with
  | nil => intro acc; rfl
  | cons c t ih =>
    intro acc
    simp only [UrlComp.schemeState, UrlScheme.schemeState]
    rw [ih]
    rfl

theorem whatwgScheme_eq (s : Bytes) : UrlComp.whatwgScheme s = UrlScheme.whatwgScheme s := by
  unfold UrlComp.whatwgScheme UrlScheme.whatwgScheme UrlScheme.schemeStart
  have : UrlComp.preprocess s = UrlScheme.preprocess s := rfl
  rw [this]
  cases UrlScheme.preprocess s with
  | nil => rfl
  | cons c t => simp only [schemeState_eq]

theorem schemeState_append (b : Bytes) : ∀ (a acc : Bytes), (∃ c ∈ a, isSchemeChar c = false) →
    schemeState (a ++ b) acc = schemeState a acc
  | [], _, h => by obtain ⟨c, hc, _⟩ := h; simp at hc
  | x :: a, acc, h => by
    simp only [List.cons_append, schemeState]
    by_cases hx : isSchemeChar x = true
    · simp only [hx, if_true]
      apply schemeState_append b a
      obtain ⟨c, hc, hcs⟩ := h
      simp only [List.mem_cons] at hc
      rcases hc with rfl | hc
      · rw [hx] at hcs; cases hcs
      · exact ⟨c, hc, hcs⟩
    · simp only [hx, Bool.false_eq_true, if_false]

theorem isAlpha_schemeChar (c : Nat) (h : isAlpha c = true) : isSchemeChar c = true := by
  simp [isSchemeChar, isAlnum, h]

theorem dropWhile_append_stop {α} (q : α → Bool) : ∀ (l1 l2 : List α), (∀ x, l2.head? = some x → q x = false) →
    l2 ≠ [] → (l1 ++ l2).dropWhile q = l1.dropWhile q ++ l2
  | [], l2, h, hne => by
    cases l2 with
    | nil => exact absurd rfl hne
    | cons x t => simp [List.dropWhile, h x rfl]
  | a :: l1, l2, h, hne => by
    simp only [List.cons_append, List.dropWhile_cons]
    split
    · exact dropWhile_append_stop q l1 l2 h hne
    · rfl

theorem preprocess_prefix (a X : Bytes) (ha : ∀ b ∈ a, 32 < b) (hne : a ≠ []) :
    preprocess (a ++ X) =
      a ++ ((X.reverse.dropWhile isC0OrSpace).reverse).filter (fun c => !isTabOrNewline c) := by
  have hc : ∀ b ∈ a, isC0OrSpace b = false := by
    intro b hb; have := ha b hb; simp [isC0OrSpace]; omega
  unfold preprocess stripLeading
  cases a with
  | nil => exact absurd rfl hne
  | cons x t =>
    have h1 : ((x :: t) ++ X).dropWhile isC0OrSpace = (x :: t) ++ X := by
      simp [hc x (by simp)]
    rw [h1, List.reverse_append]
    rw [dropWhile_append_stop isC0OrSpace X.reverse (x :: t).reverse (by
        intro y hy
        have : y ∈ (x :: t).reverse := List.mem_of_mem_head? hy
        exact hc y (List.mem_reverse.1 this)) (by simp)]
    rw [List.reverse_append, List.reverse_reverse, List.filter_append]
    congr 1
    apply List.filter_eq_self.2
    intro b hb
    have := ha b hb
    simp [isTabOrNewline]; omega

theorem preprocess_id (s : Bytes) (h : ∀ b ∈ s, 32 < b) : preprocess s = s := by
  cases s with
  | nil => rfl
  | cons c t => simpa using preprocess_prefix (c :: t) [] h (by simp)

theorem whatwgScheme_stop (a X : Bytes) (ha : ∀ b ∈ a, 32 < b) (hstop : ∃ x ∈ a, isSchemeChar x = false) :
    whatwgScheme (a ++ X) = whatwgScheme a := by
  have hne : a ≠ [] := by rintro rfl; obtain ⟨x, hx, _⟩ := hstop; simp at hx
  unfold whatwgScheme
  rw [preprocess_prefix a X ha hne, preprocess_id a ha]
  cases a with
  | nil => exact absurd rfl hne
  | cons c t =>
    simp only [List.cons_append]
    by_cases hal : isAlpha c = true
    · simp only [hal, if_true]
      apply schemeState_append
      obtain ⟨x, hx, hxs⟩ := hstop
      simp only [List.mem_cons] at hx
      rcases hx with rfl | hx
      · rw [isAlpha_schemeChar _ hal] at hxs; cases hxs
      · exact ⟨x, hx, hxs⟩
    · simp only [hal, Bool.false_eq_true, if_false]

theorem whatwgScheme_some (d r : Bytes) (hd : ∀ b ∈ d, 32 < b) (h : whatwgScheme d = some r) :
    ∃ c run rest, d = c :: (run ++ 58 :: rest) ∧ isAlpha c = true ∧ (∀ b ∈ run, isSchemeChar b = true) ∧
      r = asciiLower c :: run.map asciiLower := by
  unfold whatwgScheme at h
  rw [preprocess_id d hd] at h
  cases d with
  | nil => cases h
  | cons c t =>
    simp only [] at h
    split at h
    · next ha =>
      obtain ⟨run, rest, ht, hrun, hr⟩ := UrlSchemeFacts.schemeState_some t _ r (schemeState_eq t _ ▸ h)
      exact ⟨c, run, rest, by rw [ht], ha, hrun, hr⟩
    · cases h

/-! ### `startsWithFullySpecifiedSchemePattern` read on bytes -/

/-- `[a-zA-Z0-9+.-]`, the class of `startsWithFullySpecifiedSchemePattern` -/
abbrev schCls : List (Nat × Nat) := [(43, 43), (45, 46), (48, 57), (65, 90), (97, 122)]

def reSch : Re :=
  .cat (.cls [(65, 90), (97, 122)])
    (.cat (.star (.cls schCls) true) (.cls [(58, 58)]))

theorem rx_scheme (d : Bytes) :
    matchString template_startsWithFullySpecifiedSchemePattern d = !(lensB reSch d).isEmpty := by
  rw [show template_startsWithFullySpecifiedSchemePattern = .cat .bot reSch from rfl,
    matchString_bot_ascii _ (by decide) (by decide)]

theorem cls_sch : inCls schCls = isSchemeChar := by
  funext c
  simp only [inCls, List.any, Bool.or_false, isSchemeChar, isAlnum, isAlpha, isLowerAlpha, isUpperAlpha, isDigit]
  cls_arith

theorem mem_of_lensB_cat (X Y : Re) (c : Nat) (hY : ∀ t n, n ∈ lensB Y t → c ∈ t) (s : Bytes) (n : Nat)
    (h : n ∈ lensB (.cat X Y) s) : c ∈ s := by
  simp only [lensB, List.mem_flatMap, List.mem_map] at h
  obtain ⟨m, _, k, hk, _⟩ := h
  exact List.mem_of_mem_drop (hY _ _ hk)

theorem scheme_match_colon (d : Bytes)
    (h : matchString template_startsWithFullySpecifiedSchemePattern d = true) : 58 ∈ d := by
  rw [rx_scheme] at h
  cases hl : lensB reSch d with
  | nil => rw [hl] at h; cases h
  | cons n _ =>
    refine mem_of_lensB_cat _ _ 58 (mem_of_lensB_cat _ _ 58 fun t n hn => ?_) d n (by rw [reSch] at hl; rw [hl]; simp)
    cases t with
    | nil => cases hn
    | cons x r =>
      simp only [lensB, cls_lit] at hn
      split at hn
      · next hx => rw [eq_of_beq hx]; simp
      · cases hn

theorem spanB_ge_run (rs) : ∀ (run rest : Bytes), (∀ b ∈ run, inCls rs b = true) →
    run.length ≤ spanB rs (run ++ rest)
  | [], _, _ => by simp
  | c :: run, rest, h => by
    simp only [List.cons_append, spanB, h c (by simp), if_true, List.length_cons]
    have := spanB_ge_run rs run rest (fun b hb => h b (by simp [hb]))
    omega

theorem scheme_found_match (d r : Bytes) (hd : ∀ b ∈ d, 32 < b) (h : whatwgScheme d = some r) :
    matchString template_startsWithFullySpecifiedSchemePattern d = true := by
  obtain ⟨c, run, rest, rfl, ha, hrun, _⟩ := whatwgScheme_some d r hd h
  rw [rx_scheme]
  unfold reSch
  rw [lensB_cat_cls_cons, cls_alpha, ha, if_pos rfl]
  have hmem : run.length + 1 ∈
      lensB (.cat (.star (.cls schCls) true) (.cls [(58, 58)]))
        (run ++ 58 :: rest) := by
    simp only [lensB, List.mem_flatMap, List.mem_map, List.mem_reverse, List.mem_range]
    refine ⟨run.length, ?_, 1, ?_, rfl⟩
    · have := spanB_ge_run schCls run (58 :: rest)
        (fun b hb => by rw [cls_sch]; exact hrun b hb)
      omega
    · rw [List.drop_left]; simp [lensB, cls_lit]
  cases hl : lensB (.cat (.star (.cls schCls) true) (.cls [(58, 58)]))
      (run ++ 58 :: rest) with
  | nil => rw [hl] at hmem; simp at hmem
  | cons l ls => simp

/-! ### what an accepted prefix guarantees about Go's decoding of it -/

theorem asciiLower_58 (c : Nat) (h : asciiLower c = 58) : c = 58 := by
  unfold asciiLower at h
  split at h
  · next hu => simp only [isUpperAlpha, Bool.and_eq_true, decide_eq_true_eq] at hu; omega
  · exact h

theorem safePrefix_first_stop (d : Bytes) (h : Spec.TruUrl.safePrefix d = true) :
    (∃ c t, d = c :: t ∧ asciiLower c ≠ 106) ∧ ∃ x ∈ d, isSchemeChar x = false := by
  -- `https:` and `about:blank#`: the first letter is not `j`, and there is a `:`
  have lit : ∀ l ls, Spec.TruUrl.ciPrefix (l :: ls) d = true → l ≠ 106 → 58 ∈ l :: ls →
      (∃ c t, d = c :: t ∧ asciiLower c ≠ 106) ∧ ∃ x ∈ d, isSchemeChar x = false := by
    intro l ls h hl h58
    obtain ⟨c, t, hd, hc⟩ := SafeHtml.Proofs.C13.ciPrefix_cons l ls d h
    obtain ⟨x, hx, hx58⟩ := SafeHtml.Proofs.C13.ciPrefix_mem _ _ h 58 h58
    exact ⟨⟨c, t, hd, by rw [hc]; exact hl⟩, x, hx, by rw [asciiLower_58 x hx58]; decide⟩
  unfold Spec.TruUrl.safePrefix at h
  simp only [Bool.or_eq_true, Bool.and_eq_true] at h
  rcases h with ((h | h) | h) | h
  · exact lit _ _ h.1 (by decide) (by decide)
  · unfold Spec.TruUrl.netPath at h
    split at h
    · exact ⟨⟨47, _, rfl, by decide⟩, 47, by simp, by decide⟩
    · cases h
  · unfold Spec.TruUrl.pathAbsolute at h
    split at h
    · exact ⟨⟨47, _, rfl, by decide⟩, 47, by simp, by decide⟩
    · cases h
  · exact lit _ _ h (by decide) (by decide)

theorem prefix_facts (sc : SC) (p : Bytes) (hsc : sc ≠ .other) (hvalid : prefixValid sc p = true) :
    (∀ b ∈ GoHtml.unescapeString p, 32 < b) ∧ (∃ c ∈ GoHtml.unescapeString p, isSchemeChar c = false) ∧
    whatwgScheme (GoHtml.unescapeString p) ≠ some javascript := by
  obtain ⟨d, hd⟩ := prefixValid_decodes sc p hsc hvalid
  obtain ⟨rfl, _, _, hws, _⟩ := decodeURLPrefix_some p d hd
  have hgt : ∀ b ∈ GoHtml.unescapeString p, 32 < b := fun b hb => by
    have := List.any_eq_false.1 hws b hb
    simp only [isWsOrCtl, Bool.or_eq_true, decide_eq_true_eq, beq_iff_eq, not_or] at this
    omega
  refine ⟨hgt, ?_⟩
  have hv : validateURLPrefix p = true ∨ validateTrustedResourceURLPrefix p = true := by
    cases sc <;> first | exact absurd rfl hsc | exact Or.inl hvalid | exact Or.inr hvalid
  rcases hv with hv | hv
  · obtain ⟨d, hd', hcases⟩ := validateURLPrefix_cases p hv
    cases hd.symm.trans hd'
    constructor
    · rcases hcases with ⟨hm, _⟩ | ⟨_, hc⟩
      · exact ⟨58, scheme_match_colon _ hm, by decide⟩
      · obtain ⟨b, hb, hbc⟩ := List.any_eq_true.1 hc
        refine ⟨b, hb, ?_⟩
        simp only [List.contains_cons, List.contains_nil, Bool.or_false, Bool.or_eq_true, beq_iff_eq] at hbc
        rcases hbc with rfl | rfl | rfl <;> decide
    · rcases hcases with ⟨_, hsan⟩ | ⟨hm, _⟩
      -- `C11_safe` speaks of any decoder that copies the text before the first `&` (`DecLaw`); only its first
      -- conjunct, about the string itself, is used, so the identity decoder will do
      · exact whatwgScheme_eq _ ▸ (SafeHtml.Props.C11.C11_safe id ⟨rfl, fun _ _ _ => rfl⟩ _ hsan).1
      · intro hjs
        rw [scheme_found_match _ _ hgt hjs] at hm
        cases hm
  · simp only [validateTrustedResourceURLPrefix, hd, Bool.and_eq_true] at hv
    obtain ⟨⟨c, t, hct, hne⟩, hstop⟩ := safePrefix_first_stop _ (SafeHtml.Proofs.C13.rx_prefix _ ▸ hv.1)
    refine ⟨hstop, fun hjs => ?_⟩
    obtain ⟨c', _, _, hct', _, _, hj⟩ := whatwgScheme_some _ _ hgt hjs
    rw [hct] at hct'
    cases hct'
    exact hne (List.cons.inj hj).1.symm

/-! ### soundness of an accepted prefix -/

/-- Conjunct 1 of `C14_prefix_sound_statement`: the browser sees the decoded prefix followed by exactly the chain output. -/
theorem C14_prefix_sound_decode (sc : SC) (p w v : Bytes) (ch : Chain) (hsc : sc ≠ .other)
    (hc : chooseChain sc p = some ch) (hr : runChain ch w = some v) :
    CharRef.decodeAttr (p ++ htmlEscapeString v) = CharRef.decodeAttr p ++ v :=
  CharRefAppend.C14_prefix_sound_decode sc p w v ch hsc hc hr (rx_endsWithCharRefPrefix p)

/-- Conjuncts 2–4 in the engine's reading: with `d` = Go's `html.UnescapeString` of the prefix (the string the
    validators look at) in place of the browser's reading of the prefix, the data cannot change the scheme, the
    scheme is not `javascript`, and after `?`/`#` the data is fully percent-encoded. -/
theorem C14_prefix_sound_go (sc : SC) (p w v : Bytes) (ch : Chain) (hsc : sc ≠ .other)
    (hc : chooseChain sc p = some ch) (hr : runChain ch w = some v) :
    let d := GoHtml.unescapeString p
    whatwgScheme (d ++ v) = whatwgScheme d ∧ whatwgScheme (d ++ v) ≠ some javascript ∧
    ((d.contains 63 || d.contains 35) = true → unreservedOrPct v = true) := by
  intro d
  obtain ⟨hgt, hstop, hjs⟩ := prefix_facts sc p hsc (prefixValid_of_choose sc p ch hc)
  have h2 : whatwgScheme (d ++ v) = whatwgScheme d := whatwgScheme_stop d v hgt hstop
  refine ⟨h2, by rw [h2]; exact hjs, ?_⟩
  intro hq
  by_cases htru : sc = .tru
  · exact (C14_choice_query sc p w v ch hsc (Or.inr htru) hc hr).1
  · refine (C14_choice_query sc p w v ch hsc (Or.inl ?_) hc hr).1
    unfold inQueryOrFragment containsAny
    simp only [Bool.or_eq_true, List.any_eq_true]
    right
    simp only [Bool.or_eq_true, List.contains_iff_mem] at hq
    rcases hq with hq | hq
    · exact ⟨63, hq, by decide⟩
    · exact ⟨35, hq, by decide⟩

/-! ### Go's `unescapeEntity` on a `;`-terminated named reference -/

theorem goAlnumRun_eq : ∀ r : Bytes, GoHtml.alnumRun r = CharRef.alnumRun r
  | [] => rfl
  | c :: t => by simp only [GoHtml.alnumRun, CharRef.alnumRun, goAlnumRun_eq t]

theorem take_succ_of_drop {α} : ∀ (k : Nat) (l : List α) (x : α) (u : List α), l.drop k = x :: u →
    l.take (k + 1) = l.take k ++ [x]
  | 0, l, x, u, h => by simp at h; subst h; simp
  | k+1, [], x, u, h => by simp at h
  | k+1, a :: l, x, u, h => by
    simp only [List.drop_succ_cons] at h
    simp only [List.take_succ_cons, List.cons_append, take_succ_of_drop k l x u h]

/- `D_def : @D = <definition value of D>` for definitions whose body is a `match` on `EntityTable.lookup …`:
   the kernel cannot unfold such a body next to anything else (it would evaluate the table), but it can check
   `D = value` (it unfolds the constant and finds the identical lambda). -/
open Lean Elab Command Meta in
run_cmd liftTermElabM do
  for (c, thm) in [(``SafeHtml.Model.GoHtml.entity1, `SafeHtml.Proofs.C14Sound.entity1_def),
                   (``SafeHtml.Model.GoHtml.entity2, `SafeHtml.Proofs.C14Sound.entity2_def)] do
    let ci ← getConstInfo c
    let lhs := mkConst c
    let ty ← mkEq lhs ci.value!
    let pf ← mkEqRefl lhs
    addDecl (.thmDecl { name := thm, levelParams := [], type := ty, value := pf })

theorem entity1_of_lookup (name : Bytes) (a b : Nat) (h : EntityTable.lookup name = some (a, b)) :
    GoHtml.entity1 name = if b = 0 then a else 0 := by
  rw [congrFun entity1_def name, h]
  cases b <;> rfl

theorem entity2_of_lookup (name : Bytes) (a b : Nat) (h : EntityTable.lookup name = some (a, b)) :
    GoHtml.entity2 name = if b = 0 then none else some (a, b) := by
  rw [congrFun entity2_def name, h]
  cases b <;> rfl

theorem encodeEntity_eq (a b : Nat) :
    encodeEntity (a, b) = if b = 0 then Utf8.encodeRune a else Utf8.encodeRune a ++ Utf8.encodeRune b := by
  unfold encodeEntity
  cases b <;> rfl

theorem go_named_semi (c : Nat) (u w : Bytes) (e : Nat × Nat) (hc : c ≠ 35)
    (hk : CharRef.alnumRun (c :: u) ≠ 0)
    (hd : (c :: u).drop (CharRef.alnumRun (c :: u)) = 59 :: w)
    (hl : EntityTable.lookup ((c :: u).take (CharRef.alnumRun (c :: u)) ++ [59]) = some e) (he : e.1 ≠ 0) :
    GoHtml.unescapeEntity (c :: u) = (encodeEntity e, CharRef.alnumRun (c :: u) + 1) := by
  have hname := take_succ_of_drop _ _ _ _ hd
  obtain ⟨a, b⟩ := e
  have h1 := entity1_of_lookup _ a b hl
  have h2 := entity2_of_lookup _ a b hl
  have hk1 : (CharRef.alnumRun (c :: u) + 1 == 0) = false := by simp
  unfold GoHtml.unescapeEntity
  split
  · next heq => cases heq
  · next heq => cases heq; exact absurd rfl hc
  · simp only []
    rw [goAlnumRun_eq, hd]
    simp only []
    simp only [hname, h1, h2, hk1, encodeEntity_eq, Bool.false_eq_true, if_false]
    by_cases hb : b = 0
    · subst hb
      have ha : (a != 0) = true := by simpa using he
      simp only [if_true, ha]
    · have h0 : ((0 : Nat) != 0) = false := rfl
      simp only [if_neg hb, h0, Bool.false_eq_true, if_false]

/-! ### Go's `unescapeEntity` on a `;`-terminated numeric reference with an ASCII value -/

def M32 : Nat := 4294967296

theorem digitVal_eq (hex : Bool) (c : Nat) :
    GoHtml.digitVal hex c = if hex then Spec.CharRef.hexVal c else decVal c := by
  cases hex <;> simp [GoHtml.digitVal, Spec.CharRef.hexVal, decVal]

theorem numLoop_digits (hex : Bool) (w : Bytes) : ∀ (ds : Bytes) (x0 n0 x n : Nat),
    digits (fun c => if hex then Spec.CharRef.hexVal c else decVal c) (if hex then 16 else 10) ds x0 n0 = (x, n) →
    ds.drop (n - n0) = 59 :: w →
    GoHtml.numLoop hex ds (x0 % 4294967296) n0 = (x % 4294967296, n + 1)
  | [], x0, n0, x, n, hd, hs => by
    simp only [digits, Prod.mk.injEq] at hd
    simp at hs
  | c :: t, x0, n0, x, n, hd, hs => by
    simp only [digits] at hd
    simp only [GoHtml.numLoop, digitVal_eq]
    cases hv : (if hex then Spec.CharRef.hexVal c else decVal c) with
    | none =>
      rw [hv] at hd
      simp only [Prod.mk.injEq] at hd
      obtain ⟨rfl, rfl⟩ := hd
      simp only [Nat.sub_self, List.drop_zero, List.cons.injEq] at hs
      simp [hs.1]
    | some d =>
      rw [hv] at hd
      simp only [] at hd ⊢
      have hge := (digits_bounds (fun c => if hex then Spec.CharRef.hexVal c else decVal c) (if hex then 16 else 10) t
        ((if hex then 16 else 10) * x0 + d) (n0 + 1)).1
      rw [hd] at hge
      simp only [] at hge
      have hsub : n - n0 = (n - (n0 + 1)) + 1 := by omega
      rw [hsub, List.drop_succ_cons] at hs
      have ih := numLoop_digits hex w t _ _ x n hd hs
      rw [← ih]
      congr 1
      cases hex <;> simp only [if_true, if_false, Bool.false_eq_true] <;> omega

theorem digitsOf_eq (isHex : Bool) (ds : Bytes) :
    digitsOf isHex ds =
      digits (fun c => if isHex then Spec.CharRef.hexVal c else decVal c) (if isHex then 16 else 10) ds 0 0 := by
  cases isHex <;> rfl

theorem numericCodePoint_ascii (x : Nat) (h : numericCodePoint x < 128) : x < 128 ∧ x ≠ 0 ∧ numericCodePoint x = x := by
  unfold numericCodePoint at h ⊢
  split at h
  · omega
  · split at h
    · omega
    · split at h
      · omega
      · next h0 h1 h2 =>
        have h0' : x ≠ 0 := by simpa using h0
        simp only [h0, h1, h2, if_false, Bool.false_eq_true]
        split at h
        · next e he =>
          have := (by decide : ∀ e ∈ c1Table, 128 ≤ e.2) e (List.mem_of_find?_eq_some he)
          omega
        · exact ⟨h, h0', rfl⟩

theorem numRune_ascii (x : Nat) (h : x < 128) (h0 : x ≠ 0) : GoHtml.numRune x = x := by
  unfold GoHtml.numRune
  have h1 : (0x80 ≤ x && x ≤ 0x9F) = false := by simp; omega
  have h2 : (x == 0 || (0xD800 ≤ x && x ≤ 0xDFFF) || x > 0x10FFFF) = false := by simp [h0]; omega
  simp only [h1, h2, Bool.false_eq_true, if_false]

theorem go_hash {hex : Bool} {pre ds : Bytes} (h : NumPre hex pre ds) :
    GoHtml.unescapeEntity (35 :: (pre ++ ds)) =
      if (35 :: (pre ++ ds)).length ≤ 2 then ([38], 0) else
      let (x, n) := GoHtml.numLoop hex ds 0 0
      if (if hex then 2 else 1) + 1 + n ≤ 3 then ([38], 0)
      else (Utf8.encodeRune (GoHtml.numRune x), (if hex then 2 else 1) + n) := by
  rcases h with ⟨rfl, rfl | rfl⟩ | ⟨rfl, rfl, c, u, rfl, h1, h2⟩
  · rfl
  · rfl
  · have hh : (c == 120 || c == 88) = false := by simp [h1, h2]
    show GoHtml.unescapeEntity (35 :: c :: u) = _
    unfold GoHtml.unescapeEntity
    simp only [hh]
    rfl

theorem go_numeric (hex : Bool) (pre ds w : Bytes) (x n : Nat) (hpre : NumPre hex pre ds)
    (hd : digitsOf hex ds = (x, n)) (hn : n ≠ 0) (hs : ds.drop n = 59 :: w) (hx : numericCodePoint x < 128) :
    GoHtml.unescapeEntity (35 :: (pre ++ ds)) =
      (Utf8.encodeRune (numericCodePoint x), 1 + (if hex then 1 else 0) + n + 1) := by
  obtain ⟨hx1, hx0, hxe⟩ := numericCodePoint_ascii x hx
  rw [digitsOf_eq] at hd
  have hl := numLoop_digits hex w ds 0 0 x n hd (by simpa using hs)
  rw [Nat.zero_mod, Nat.mod_eq_of_lt (show x < 4294967296 by omega)] at hl
  have hlen : n + 1 ≤ ds.length := by
    have := congrArg List.length hs
    simp only [List.length_drop, List.length_cons] at this
    omega
  rw [go_hash hpre, if_neg (by simp only [List.length_cons, List.length_append]; omega), hl]
  simp only []
  rw [if_neg (by split <;> omega), numRune_ascii x hx1 hx0, hxe]
  congr 1
  cases hex <;> simp <;> omega

/-! ### unterminated numeric references, byte level -/

def untermBody (isHex : Bool) (ds : Bytes) : Bool :=
  (digitsOf isHex ds).2 != 0 && semiOf (ds.drop (digitsOf isHex ds).2) == 0

def untermAt : Bytes → Bool
  | 35 :: t =>
    (match t with
     | 120 :: u => untermBody true u
     | 88 :: u => untermBody true u
     | _ => untermBody false t)
  | _ => false

/-- byte-level reading of `unterminatedNumericCharRefPattern` -/
def hasUnterm : Bytes → Bool
  | [] => false
  | c :: t => (c == 38 && untermAt t) || hasUnterm t

theorem hasUnterm_cons (c : Nat) (t : Bytes) :
    hasUnterm (c :: t) = ((c == 38 && untermAt t) || hasUnterm t) := rfl

theorem hasUnterm_drop : ∀ (n : Nat) (p : Bytes), hasUnterm p = false → hasUnterm (p.drop n) = false
  | 0, p, h => by simpa using h
  | _+1, [], h => by simpa using h
  | n+1, c :: p, h => by
    rw [hasUnterm_cons, Bool.or_eq_false_iff] at h
    simp only [List.drop_succ_cons]
    exact hasUnterm_drop n p h.2

theorem untermAt_hash {isHex : Bool} {pre ds : Bytes} (h : NumPre isHex pre ds) :
    untermAt (35 :: (pre ++ ds)) = untermBody isHex ds := by
  rcases h with ⟨rfl, rfl | rfl⟩ | ⟨rfl, rfl, c, u, rfl, h1, h2⟩
  · rfl
  · rfl
  · unfold untermAt
    simp only [List.nil_append]
    split
    · next heq => cases heq; exact absurd rfl h1
    · next heq => cases heq; exact absurd rfl h2
    · rfl

theorem semiOf_ne_zero (d : Bytes) (h : semiOf d ≠ 0) : ∃ w, d = 59 :: w ∧ semiOf d = 1 := by
  cases d with
  | nil => exact absurd rfl h
  | cons c r =>
    by_cases hc : c = 59
    · subst hc; exact ⟨r, rfl, rfl⟩
    · exfalso; apply h; simp [semiOf, hc]

/-! ### one reference: what the browser substitutes is `benign`, or Go substitutes the same -/

theorem isStop_of_ge128 (b : Nat) (h : 128 ≤ b) : isStop b = true := by
  simp only [isStop, isSchemeChar, isAlnum, isAlpha, isLowerAlpha, isUpperAlpha, isDigit, Bool.and_eq_true,
    Bool.not_eq_true', Bool.or_eq_false_iff, Bool.and_eq_false_iff, decide_eq_false_iff_not, decide_eq_true_eq,
    beq_eq_false_iff_ne, bne_iff_ne]
  omega

theorem benign_amp : benign [38] = true := by decide

theorem benign_nonascii (o : Bytes) (hne : o ≠ []) (h : ∀ b ∈ o, 128 ≤ b) : benign o = true := by
  cases o with
  | nil => exact absurd rfl hne
  | cons b t =>
    have hq : hasQH (b :: t) = false := by
      cases hh : hasQH (b :: t) with
      | false => rfl
      | true =>
        simp only [hasQH, Bool.or_eq_true, List.contains_iff_mem] at hh
        rcases hh with hh | hh <;> have := h _ hh <;> omega
    have hw : C14Ws.hasWs (b :: t) = false := by
      cases hh : C14Ws.hasWs (b :: t) with
      | false => rfl
      | true =>
        obtain ⟨x, hx, hxw⟩ := List.any_eq_true.1 hh
        have := h x hx
        simp only [isWsOrCtl, Bool.or_eq_true, decide_eq_true_eq, beq_iff_eq] at hxw
        omega
    simp [benign, stopHead, isStop_of_ge128 b (h b (by simp)), hq, hw]

theorem benign_stop (o : Bytes) (h : benign o = true) : ∃ s X, o = s :: X ∧ isStop s = true := by
  cases o with
  | nil => cases h
  | cons s X =>
    simp only [benign, stopHead, Bool.and_eq_true] at h
    exact ⟨s, X, rfl, h.1.1⟩

theorem num_dich {isHex : Bool} {pre ds : Bytes} (hpre : NumPre isHex pre ds) (hu : untermBody isHex ds = false) :
    benign (numBody isHex ds).1 = true ∨ GoHtml.unescapeEntity (35 :: (pre ++ ds)) = numBody isHex ds := by
  rw [numBody]
  cases hd : digitsOf isHex ds with
  | mk x n =>
    unfold untermBody at hu
    rw [hd] at hu
    simp only [] at hu ⊢
    by_cases hn : n = 0
    · subst hn; left; exact benign_amp
    · have hn' : (n == 0) = false := by simp [hn]
      have hn'' : (n != 0) = true := by simp [hn]
      rw [hn'', Bool.true_and] at hu
      have hs : semiOf (ds.drop n) ≠ 0 := by simpa using hu
      obtain ⟨w, hw, hs1⟩ := semiOf_ne_zero _ hs
      simp only [hn', Bool.false_eq_true, if_false, hs1]
      by_cases hx : numericCodePoint x < 128
      · right; exact go_numeric isHex pre ds w x n hpre hd hn hw hx
      · left
        exact benign_nonascii _ (Utf8.encodeRune_ne_nil _) (Utf8.encodeRune_nonascii _ (by omega))

theorem semiLookup_some (run d : Bytes) (e : Nat × Nat) (h : semiLookup run d = some e) :
    ∃ w, d = 59 :: w ∧ EntityTable.lookup (run ++ [59]) = some e := by
  unfold semiLookup at h
  split at h
  · exact ⟨_, rfl, h⟩
  · cases h

theorem legacy_benign (rest : Bytes) (j : Nat) (e : Nat × Nat) (h1 : 1 ≤ j) (hj : j ≤ CharRef.alnumRun rest)
    (hl : EntityTable.lookup ((rest.take (CharRef.alnumRun rest)).take j) = some e) :
    benign (encodeEntity e) = true := by
  have hk := alnumRun_le rest
  rw [List.take_take, Nat.min_eq_left hj] at hl
  rcases List.eq_nil_or_concat (rest.take j) with h0 | ⟨i, x, hix⟩
  all_goals try rw [List.concat_eq_append] at hix
  · have := congrArg List.length h0
    simp only [List.length_take, List.length_nil] at this
    omega
  · have hx : isAlnum x = true := alnumRun_take_all rest j hj x (by rw [hix]; simp)
    rw [hix] at hl
    exact lookup_legacy i x e (alnum_lt x hx) (by rintro rfl; revert hx; decide) hl

theorem named_dich (c : Nat) (u : Bytes) (hc : c ≠ 35) :
    benign (namedBody true (c :: u)).1 = true ∨ GoHtml.unescapeEntity (c :: u) = namedBody true (c :: u) := by
  by_cases hk : CharRef.alnumRun (c :: u) = 0
  · left; unfold namedBody; rw [hk]; exact benign_amp
  · cases hsl : semiLookup ((c :: u).take (CharRef.alnumRun (c :: u))) ((c :: u).drop (CharRef.alnumRun (c :: u))) with
    | some e =>
      right
      obtain ⟨w, hd, hl⟩ := semiLookup_some _ _ _ hsl
      rw [go_named_semi c u w e hc hk hd hl (lookup_facts _ e hl).2.1]
      unfold namedBody
      rw [hsl, if_neg (by simpa using hk)]
    | none =>
      left
      unfold namedBody
      rw [hsl, if_neg (by simpa using hk)]
      simp only []
      cases hlp : longestPrefix ((c :: u).take (CharRef.alnumRun (c :: u))) (CharRef.alnumRun (c :: u)) with
      | none => exact benign_amp
      | some ej =>
        obtain ⟨e, j⟩ := ej
        simp only []
        split
        · exact benign_amp
        · obtain ⟨h1, hj, hl⟩ := longestPrefix_spec _ _ _ _ hlp
          exact legacy_benign (c :: u) j e h1 hj hl

/-- For the bytes after an `&`: they are a numeric reference without `;`, or what the browser
    substitutes is benign (`&` itself when nothing is decoded, a non-ASCII character, one of `& < > "`: starts with a
    byte that ends the scheme state, no `?` `#`, no white space or control), or Go's decoder substitutes exactly the
    same and consumes the same bytes. -/
theorem ref_dich (rest : Bytes) :
    untermAt rest = true ∨ benign (consume true rest).1 = true ∨ GoHtml.unescapeEntity rest = consume true rest := by
  cases rest with
  | nil => right; left; rw [consume_nil]; exact benign_amp
  | cons c u =>
    by_cases hc : c = 35
    · subst hc
      rcases numPre_cases u with rfl | ⟨isHex, pre, ds, rfl, hp⟩
      · right; left; rw [consume_hash_nil]; exact benign_amp
      · rw [consume_hash true hp, untermAt_hash hp]
        cases hu : untermBody isHex ds with
        | true => exact Or.inl rfl
        | false => exact Or.inr (num_dich hp hu)
    · rw [consume_named_eq true c u hc]; exact Or.inr (named_dich c u hc)

/-! ### the two decoders in lockstep -/

theorem lockstep : ∀ p : Bytes, hasUnterm p = false →
    walk (consume true) p = walk GoHtml.unescapeEntity p ∨
    ∃ c s X Y, walk (consume true) p = c ++ s :: X ∧ walk GoHtml.unescapeEntity p = c ++ Y ∧ isStop s = true := by
  refine amp_induct (fun t => (consume true t).2) (fun _ => Or.inl (by rw [walk_nil, walk_nil]))
    (fun t ih hu => ?_) (fun c t hc ih hu => ?_)
  · rw [hasUnterm_cons, Bool.or_eq_false_iff] at hu
    rw [walk_amp, walk_amp]
    rcases ref_dich t with h | h | he
    · simp [h] at hu
    · obtain ⟨s, X, ho, hs⟩ := benign_stop _ h
      exact Or.inr ⟨[], s, X ++ walk (consume true) (t.drop (consume true t).2),
        (GoHtml.unescapeEntity t).1 ++ walk GoHtml.unescapeEntity (t.drop (GoHtml.unescapeEntity t).2),
        by rw [ho]; simp, by simp, hs⟩
    · rw [he]
      rcases ih (hasUnterm_drop _ _ hu.2) with h | ⟨c', s, X, Y, h1, h2, h3⟩
      · left; rw [h]
      · right
        exact ⟨(consume true t).1 ++ c', s, X, Y, by rw [h1, List.append_assoc], by rw [h2, List.append_assoc], h3⟩
  · rw [hasUnterm_cons, Bool.or_eq_false_iff] at hu
    rw [walk_other _ c t hc, walk_other _ c t hc]
    rcases ih hu.2 with h | ⟨c', s, X, Y, h1, h2, h3⟩
    · left; rw [h]
    · right; exact ⟨c :: c', s, X, Y, by rw [h1]; rfl, by rw [h2]; rfl, h3⟩

theorem decoders_dichotomy (p : Bytes) (hu : hasUnterm p = false) :
    CharRef.decodeAttr p = GoHtml.unescapeString p ∨
    ∃ c s X Y, CharRef.decodeAttr p = c ++ s :: X ∧ GoHtml.unescapeString p = c ++ Y ∧ isStop s = true := by
  simpa only [decodeAttr_eq_walk, unescapeString_eq_walk] using lockstep p hu

/-! ### scheme of a string with a stopper inside a part without C0/space -/

/-- the divergent case: the browser's reading `c ++ s :: X`, Go's reading `c ++ Y` -/
theorem divergent_scheme (c X Y v : Bytes) (s : Nat) (hs : isStop s = true)
    (hd : ∀ b ∈ c ++ Y, 32 < b) (hjs : whatwgScheme (c ++ Y) ≠ some javascript) :
    whatwgScheme ((c ++ s :: X) ++ v) = whatwgScheme (c ++ s :: X) ∧
    whatwgScheme (c ++ s :: X) ≠ some javascript := by
  simp only [isStop, Bool.and_eq_true, Bool.not_eq_true', decide_eq_true_eq, bne_iff_ne] at hs
  obtain ⟨⟨hs1, hs2⟩, hs3⟩ := hs
  have hc : ∀ b ∈ c, 32 < b := fun b hb => hd b (List.mem_append.2 (Or.inl hb))
  have ha : ∀ b ∈ c ++ [s], 32 < b := by
    intro b hb
    rcases List.mem_append.1 hb with hb | hb
    · exact hc b hb
    · simp at hb; omega
  have hstop : ∃ x ∈ c ++ [s], isSchemeChar x = false := ⟨s, by simp, hs1⟩
  have e1 : c ++ s :: X = (c ++ [s]) ++ X := by simp
  have e2 : (c ++ s :: X) ++ v = (c ++ [s]) ++ (X ++ v) := by simp
  constructor
  · rw [e2, e1, whatwgScheme_stop _ _ ha hstop, whatwgScheme_stop _ _ ha hstop]
  · rw [e1, whatwgScheme_stop _ _ ha hstop]
    by_cases hcs : ∃ x ∈ c, isSchemeChar x = false
    · rw [whatwgScheme_stop c [s] hc hcs, ← whatwgScheme_stop c Y hc hcs]
      exact hjs
    · -- a scheme found in `c ++ [s]` has its `:` inside `c`, and `:` is no scheme character
      intro hj
      obtain ⟨x, run, rest, hshape, _⟩ := whatwgScheme_some _ _ ha hj
      have h58 : 58 ∈ c ++ [s] := by rw [hshape]; simp
      rcases List.mem_append.1 h58 with h | h
      · exact hcs ⟨58, h, by decide⟩
      · simp at h; omega

/-! ### Rx obligation: `unterminatedNumericCharRefPattern` = `hasUnterm` -/

section RxUnterm
open SafeHtml.Utf8

def neL (l : List Nat) : Bool := !l.isEmpty

theorem neL_append (a b : List Nat) : neL (a ++ b) = (neL a || neL b) := by
  cases a <;> simp [neL]

theorem neL_lens_cat_ascii (a b : Re) (hs : simple a = true) (ha : asciiRe a = true) (x : Bytes) :
    neL (lens (.cat a b) (decodeSyms x)) = (lensB a x).any fun n => neL (lens b (decodeSyms (x.drop n))) := by
  simp only [lens]
  rw [lens_decodeSyms_ascii a hs ha]
  have : ∀ n ∈ lensB a x, (lens b ((decodeSyms x).drop n)).map (n + ·) = (lens b (decodeSyms (x.drop n))).map (n + ·) := by
    intro n hn
    obtain ⟨h1, h2⟩ := lensB_take_ascii a hs ha x n hn
    rw [decodeSyms_drop_ascii x n h1 h2]
  rw [flatMap_congr this]
  induction lensB a x with
  | nil => rfl
  | cons n l ih =>
    rw [List.flatMap_cons, neL_append, List.any_cons, ih]
    cases lens b (decodeSyms (x.drop n)) <;> rfl

def tailOk (bad : Nat → Bool) (x : Bytes) : Bool :=
  match x with
  | [] => true
  | b :: _ => !bad b

theorem neL_tail (rs : List (Nat × Nat)) (bad : Nat → Bool)
    (h1 : ∀ c, c < 128 → inCls rs c = !bad c) (h2 : ∀ r, 128 ≤ r → r ≤ 1114111 → inCls rs r = true)
    (h3 : ∀ c, bad c = true → c < 128) (x : Bytes) :
    neL (lens (.alt (.cls rs) .eot) (decodeSyms x)) = tailOk bad x := by
  cases x with
  | nil => rw [decodeSyms_nil]; simp [lens, neL, tailOk]
  | cons b t =>
    by_cases hb : b < 128
    · rw [decodeSyms_cons_ascii b t hb]
      simp only [lens, h1 b hb, tailOk]
      cases bad b <;> simp [neL]
    · rw [decodeSyms_cons]
      have hr1 := decode1_nonascii b t (by omega)
      have hr2 := (decode1_wide b t (by omega)).2.2.2.1
      have hbad : bad b = false := by
        cases hh : bad b with
        | false => rfl
        | true => have := h3 b hh; omega
      simp [lens, h2 _ hr1 hr2, tailOk, hbad, neL]

theorem spanB_drop_lt (rs) : ∀ (u : Bytes) (m : Nat), m < spanB rs u →
    ∃ h tl, u.drop m = h :: tl ∧ inCls rs h = true
  | [], m, h => by simp [spanB] at h
  | c :: u, m, h => by
    simp only [spanB] at h
    split at h
    · next hc =>
      cases m with
      | zero => exact ⟨c, u, rfl, hc⟩
      | succ m => exact spanB_drop_lt rs u m (by omega)
    · omega

theorem spanB_drop_head (rs) : ∀ (u : Bytes) (h : Nat) (tl : Bytes), u.drop (spanB rs u) = h :: tl → inCls rs h = false
  | [], h, tl, he => by simp [spanB] at he
  | c :: u, h, tl, he => by
    simp only [spanB] at he
    split at he
    · exact spanB_drop_head rs u h tl (by simpa using he)
    · next hc => simp at he; rw [← he.1]; simpa using hc

/-- `[rs]+` followed by a tail test: only the maximal run can be followed by a non-`bad` byte -/
theorem plus_tail (rs) (bad : Nat → Bool) (hbad : ∀ c, inCls rs c = true → bad c = true) (u : Bytes) :
    ((lensB (Re.plus (.cls rs) true) u).any fun n => tailOk bad (u.drop n)) =
      (spanB rs u != 0 && tailOk bad (u.drop (spanB rs u))) := by
  unfold Re.plus
  cases u with
  | nil => simp [lensB_cat_cls_nil, spanB]
  | cons c u' =>
    rw [lensB_cat_cls_cons]
    simp only [spanB]
    split
    · next hc =>
      have hne : (spanB rs u' + 1 != 0) = true := by simp
      rw [hne, Bool.true_and]
      simp only [lensB, List.any_map, List.any_reverse]
      rw [Bool.eq_iff_iff]
      simp only [List.any_eq_true, List.mem_range, Function.comp]
      constructor
      · rintro ⟨m, hm, hok⟩
        have e : (c :: u').drop (1 + m) = u'.drop m := by rw [Nat.add_comm]; rfl
        rw [e] at hok
        by_cases hlt : m < spanB rs u'
        · obtain ⟨h, tl, hd, hin⟩ := spanB_drop_lt rs u' m hlt
          rw [hd] at hok
          simp [tailOk, hbad h hin] at hok
        · have : m = spanB rs u' := by omega
          subst this
          exact hok
      · intro hok
        refine ⟨spanB rs u', by omega, ?_⟩
        have e : (c :: u').drop (1 + spanB rs u') = u'.drop (spanB rs u') := by rw [Nat.add_comm]; rfl
        rw [e]; exact hok
    · simp

theorem digits_count (val : Nat → Option Nat) (base : Nat) (rs) (h : ∀ c, (val c).isSome = inCls rs c) :
    ∀ (ds : Bytes) (x n : Nat), (digits val base ds x n).2 = n + spanB rs ds
  | [], _, _ => by simp [digits, spanB]
  | c :: ds, x, n => by
    simp only [digits, spanB]
    have hc := h c
    cases hv : val c with
    | none => rw [hv] at hc; simp only [Option.isSome_none] at hc; simp [← hc]
    | some d =>
      rw [hv] at hc; simp only [Option.isSome_some] at hc
      simp only [← hc, if_true]
      rw [digits_count val base rs h ds _ _]; omega

/-- `[rs]+(?:[ts]|$)` on the bytes `u` after `&#` / `&#x`, where `rs` are the digits and `ts` is everything but
    `rs` and `;`: there is a digit, and the maximal run of digits is not followed by `;` (only the maximal run can
    be followed by a byte outside `rs`) -/
theorem neL_body (isHex : Bool) (rs ts : List (Nat × Nat))
    (hs : simple (Re.plus (.cls rs) true) = true) (ha : asciiRe (Re.plus (.cls rs) true) = true)
    (hv : ∀ c, validOf isHex c = inCls rs c)
    (h1 : ∀ c, c < 128 → inCls ts c = !(inCls rs c || c == 59))
    (h2 : ∀ r, 128 ≤ r → r ≤ 1114111 → inCls ts r = true) (h3 : ∀ c, inCls rs c = true → c < 128) (u : Bytes) :
    neL (lens (.cat (Re.plus (.cls rs) true) (.alt (.cls ts) .eot)) (decodeSyms u)) = untermBody isHex u := by
  have hcount : (digitsOf isHex u).2 = spanB rs u := by
    have := fun val base h => digits_count val base rs h u 0 0
    cases isHex
    · simpa [digitsOf] using this decVal 10 hv
    · simpa [digitsOf] using this Spec.CharRef.hexVal 16 hv
  have h3' : ∀ c, (inCls rs c || c == 59) = true → c < 128 := fun c hc => by
    rcases Bool.or_eq_true_iff.1 hc with hc | hc
    · exact h3 c hc
    · rw [eq_of_beq hc]; decide
  rw [neL_lens_cat_ascii _ _ hs ha]
  simp only [neL_tail ts (fun c => inCls rs c || c == 59) h1 h2 h3']
  rw [plus_tail rs _ (fun c hc => by simp [hc]), untermBody, hcount]
  congr 1
  cases hd : u.drop (spanB rs u) with
  | nil => rfl
  | cons b r =>
    simp only [tailOk, spanB_drop_head rs u b r hd, Bool.false_or]
    by_cases h59 : b = 59
    · subst h59; rfl
    · simp [semiOf, h59]

def reB1 : Re := .cat (Re.plus (.cls [(48, 57)]) true) (.alt (.cls [(0, 47), (58, 58), (60, 1114111)]) .eot)
def reB2 : Re := .cat (.cls [(88, 88), (120, 120)]) (.cat (Re.plus (.cls [(48, 57), (65, 70), (97, 102)]) true)
  (.alt (.cls [(0, 47), (58, 58), (60, 64), (71, 96), (103, 1114111)]) .eot))
def reP0 : Re := .cat (.cls [(38, 38)]) (.cls [(35, 35)])

theorem unterm_pattern_eq : template_unterminatedNumericCharRefPattern = .cat reP0 (.alt reB1 reB2) := rfl

theorem neL_B1 (u : Bytes) : neL (lens reB1 (decodeSyms u)) = untermBody false u :=
  neL_body false [(48, 57)] _ (by decide) (by decide) (fun c => by rw [validOf_false, cls_digit])
    (fun c _ => by simp only [inCls, List.any, Bool.or_false]; cls_arith)
    (fun r _ _ => by simp only [inCls, List.any, Bool.or_false]; simp; omega)
    (fun c hc => by simp only [inCls, List.any, Bool.or_false, Bool.and_eq_true, decide_eq_true_eq] at hc; omega) u

theorem neL_B2 (u : Bytes) :
    neL (lens reB2 (decodeSyms u)) =
      (match u with
       | [] => false
       | c :: u' => (c == 120 || c == 88) && untermBody true u') := by
  unfold reB2
  rw [neL_lens_cat_ascii _ _ (by decide) (by decide)]
  cases u with
  | nil => simp [lensB]
  | cons c u' =>
    simp only [lensB, cls_x]
    cases hc : (c == 120 || c == 88) with
    | false => simp
    | true =>
      simp only [if_true, List.any_cons, List.any_nil, Bool.or_false, List.drop_succ_cons, List.drop_zero,
        Bool.true_and]
      exact neL_body true [(48, 57), (65, 70), (97, 102)] _ (by decide) (by decide)
        (fun c => by rw [validOf_true, cls_hex])
        (fun c _ => by simp only [inCls, List.any, Bool.or_false]; cls_arith)
        (fun r _ _ => by simp only [inCls, List.any, Bool.or_false]; simp; omega)
        (fun c hc => by
          simp only [inCls, List.any, Bool.or_false, Bool.or_eq_true, Bool.and_eq_true, decide_eq_true_eq] at hc
          omega) u'

theorem neL_alt_B (u : Bytes) : neL (lens (.alt reB1 reB2) (decodeSyms u)) = untermAt (35 :: u) := by
  simp only [lens, neL_append, neL_B1, neL_B2]
  rcases numPre_cases u with rfl | ⟨isHex, pre, ds, rfl, hp⟩
  · simp [untermAt]
  · rw [untermAt_hash hp]
    rcases hp with ⟨rfl, rfl | rfl⟩ | ⟨rfl, rfl, c, u', rfl, h1, h2⟩
    · simp [show untermBody false (120 :: ds) = false from rfl]
    · simp [show untermBody false (88 :: ds) = false from rfl]
    · simp [h1, h2]

theorem neL_pattern_ascii (b : Nat) (t : Bytes) :
    neL (lens template_unterminatedNumericCharRefPattern (decodeSyms (b :: t))) = (b == 38 && untermAt t) := by
  rw [unterm_pattern_eq, neL_lens_cat_ascii _ _ (by decide) (by decide)]
  unfold reP0
  rw [lensB_cat_cls_cons, cls_lit]
  by_cases hb : b = 38
  · subst hb
    simp only [beq_self_eq_true, if_true, Bool.true_and, List.any_map]
    cases t with
    | nil => simp [lensB, untermAt]
    | cons c u =>
      simp only [lensB, cls_lit]
      by_cases hc : c = 35
      · subst hc
        simp only [beq_self_eq_true, if_true, List.any_cons, List.any_nil, Bool.or_false, Function.comp]
        exact neL_alt_B u
      · have : (c == 35) = false := by simp [hc]
        have hu : untermAt (c :: u) = false := by
          unfold untermAt; split
          · next heq => cases heq; exact absurd rfl hc
          · rfl
        simp [this, hu]
  · have : (b == 38) = false := by simp [hb]
    simp [this]

theorem hasUnterm_skip : ∀ (pre rest : Bytes), (∀ y ∈ pre, 128 ≤ y) → hasUnterm (pre ++ rest) = hasUnterm rest
  | [], _, _ => rfl
  | y :: pre, rest, h => by
    have hy : (y == 38) = false := by
      have := h y (by simp); simp; omega
    simp only [List.cons_append, hasUnterm_cons, hy, Bool.false_and, Bool.false_or]
    exact hasUnterm_skip pre rest (fun z hz => h z (by simp [hz]))

theorem firstMatch_unterm (x : Bytes) :
    (firstMatch template_unterminatedNumericCharRefPattern (decodeSyms x)).isSome = hasUnterm x := by
  induction x using decode_chunks with
  | nil =>
    rw [decodeSyms_nil, unterm_pattern_eq]
    simp [firstMatch, lens, reP0, hasUnterm]
  | ascii b t hb ih =>
    have hl := neL_pattern_ascii b t
    rw [decodeSyms_cons_ascii b t hb] at hl ⊢
    simp only [firstMatch, hasUnterm_cons]
    rw [← hl, ← ih]
    cases lens template_unterminatedNumericCharRefPattern (⟨b, [b]⟩ :: decodeSyms t) <;> simp [neL]
  | wide r p u hw hd ih =>
    -- the pattern starts with `&`, which a non-ASCII symbol is not
    have : inCls [(38, 38)] r = false := by rw [cls_lit]; simp; have := hw.2.2.1; omega
    rw [hd, hasUnterm_skip p u hw.2.1, ← ih, unterm_pattern_eq]
    simp [firstMatch, lens, reP0, this]

/-- The pattern added by commit 213930e, `&#(?:[0-9]+(?:[^0-9;]|$)|[xX][[:xdigit:]]+(?:[^[:xdigit:];]|$))` (unanchored,
    on runes) = "some `&#` / `&#x` is followed by at least one digit and the maximal digit run is not followed by
    `;`" (on bytes). -/
theorem rx_unterminatedNumericCharRef (p : Bytes) :
    Rx.matchString template_unterminatedNumericCharRefPattern p = hasUnterm p := by
  rw [matchString_simple _ (by decide), firstMatch_unterm]

end RxUnterm

/-! ### soundness of an accepted prefix in the browser's reading -/

theorem accepted_no_unterm (sc : SC) (p : Bytes) (ch : Chain) (hsc : sc ≠ .other)
    (hc : chooseChain sc p = some ch) : hasUnterm p = false := by
  obtain ⟨d, hd⟩ := prefixValid_decodes sc p hsc (prefixValid_of_choose sc p ch hc)
  rw [← rx_unterminatedNumericCharRef]
  exact (decodeURLPrefix_some p d hd).2.2.2.2

/-- Conjuncts 1–3 of `C14_prefix_sound_statement` for every accepted prefix (after library commit 213930e):
    the browser sees the decoded prefix followed by exactly the chain output, the data cannot change the scheme the
    prefix fixed, and that scheme is not `javascript` — in the BROWSER's reading of the prefix, although the engine
    validates Go's reading. -/
theorem C14_prefix_sound_scheme_of (sc : SC) (p w v : Bytes) (ch : Chain) (hsc : sc ≠ .other)
    (hc : chooseChain sc p = some ch) (hr : runChain ch w = some v) :
    let bp := CharRef.decodeAttr p
    let bd := CharRef.decodeAttr (p ++ htmlEscapeString v)
    bd = bp ++ v ∧ whatwgScheme bd = whatwgScheme bp ∧ whatwgScheme bd ≠ some javascript := by
  intro bp bd
  have hdec : bd = bp ++ v := C14_prefix_sound_decode sc p w v ch hsc hc hr
  rw [hdec]
  refine ⟨rfl, ?_⟩
  rcases decoders_dichotomy p (accepted_no_unterm sc p ch hsc hc) with heq | ⟨c, s, X, Y, h1, h2, hs⟩
  · have hg := C14_prefix_sound_go sc p w v ch hsc hc hr
    rw [← heq] at hg
    exact ⟨hg.1, hg.2.1⟩
  · obtain ⟨hgt, _, hjs⟩ := prefix_facts sc p hsc (prefixValid_of_choose sc p ch hc)
    rw [h2] at hgt hjs
    have := divergent_scheme c X Y v s hs hgt hjs
    show whatwgScheme (CharRef.decodeAttr p ++ v) = whatwgScheme (CharRef.decodeAttr p) ∧
      whatwgScheme (CharRef.decodeAttr p ++ v) ≠ some javascript
    rw [h1]
    exact ⟨this.1, by rw [this.1]; exact this.2⟩

/-! ### Go's prefix loop with `entity1` abstracted (same device as `longestPrefix` in Proofs/CharRefAppend) -/

def prefixLoopG (e1 : Bytes → Nat) (name : Bytes) : Nat → Option (Nat × Nat)
  | 0 => none
  | j+1 =>
    if j + 1 > 1 then
      (if e1 (name.take (j + 1)) != 0 then some (e1 (name.take (j + 1)), j + 1) else prefixLoopG e1 name j)
    else none

open Lean Elab Command Meta in
run_cmd liftTermElabM do
  let ci ← getConstInfo ``SafeHtml.Model.GoHtml.prefixLoop._f
  let v := ci.value!
  let e1 := mkConst ``SafeHtml.Model.GoHtml.entity1
  let e1Ty ← inferType e1
  let vAbs := v.replace fun e =>
    if e.isConstOf ``SafeHtml.Model.GoHtml.entity1 then some (mkFVar ⟨`_e1_tmp⟩) else none
  let body := vAbs.abstract #[mkFVar ⟨`_e1_tmp⟩]
  let val := mkLambda `e1 .default e1Ty body
  let ty := mkForall `e1 .default e1Ty ci.type
  addDecl (.defnDecl { name := `SafeHtml.Proofs.C14Sound.plFraw, levelParams := [], type := ty, value := val,
                       hints := .abbrev, safety := .safe })

theorem brecOn_plFraw (e1 : Bytes → Nat) (name : Bytes) (k : Nat) :
    Nat.brecOn k (plFraw e1 name) = prefixLoopG e1 name k :=
  brecOn_eq (prefixLoopG e1 name)
    (fun j r => if j + 1 > 1 then
      (if e1 (name.take (j + 1)) != 0 then some (e1 (name.take (j + 1)), j + 1) else r) else none)
    (fun _ => rfl) _ (fun _ => rfl) (fun _ _ => rfl) k

theorem prefixLoop_eq_G (name : Bytes) (k : Nat) :
    GoHtml.prefixLoop name k = prefixLoopG GoHtml.entity1 name k := by
  have h1 : GoHtml.prefixLoop name k = Nat.brecOn k (GoHtml.prefixLoop._f name) := by
    delta GoHtml.prefixLoop; rfl
  have h2 : @GoHtml.prefixLoop._f = plFraw GoHtml.entity1 := by
    delta GoHtml.prefixLoop._f plFraw
    exact Eq.refl _
  rw [h1, h2]
  exact brecOn_plFraw _ name k

theorem prefixLoopG_le (e1 : Bytes → Nat) (name : Bytes) : ∀ (m x j : Nat),
    prefixLoopG e1 name m = some (x, j) → j ≤ m
  | 0, _, _, h => by simp [prefixLoopG] at h
  | m+1, x, j, h => by
    rw [prefixLoopG] at h
    split at h
    · split at h
      · cases h; omega
      · have := prefixLoopG_le e1 name m x j h; omega
    · cases h

theorem prefixLoop_le (name : Bytes) (m x j : Nat) (h : GoHtml.prefixLoop name m = some (x, j)) : j ≤ m := by
  rw [prefixLoop_eq_G] at h
  exact prefixLoopG_le _ name m x j h
/-! ### the bytes Go's `unescapeEntity` consumes contain no `&` -/

theorem numLoop_region (hex : Bool) : ∀ (ds : Bytes) (x n0 : Nat),
    n0 ≤ (GoHtml.numLoop hex ds x n0).2 ∧ (GoHtml.numLoop hex ds x n0).2 - n0 ≤ ds.length ∧
    ∀ b ∈ ds.take ((GoHtml.numLoop hex ds x n0).2 - n0), b ≠ 38
  | [], x, n0 => by simp [GoHtml.numLoop]
  | c :: t, x, n0 => by
    simp only [GoHtml.numLoop]
    cases hv : GoHtml.digitVal hex c with
    | some d =>
      simp only []
      obtain ⟨h1, h2, h3⟩ := numLoop_region hex t (((if hex then 16 else 10) * x + d) % 4294967296) (n0 + 1)
      generalize (GoHtml.numLoop hex t (((if hex then 16 else 10) * x + d) % 4294967296) (n0 + 1)).2 = r at h1 h2 h3 ⊢
      refine ⟨by omega, by simp only [List.length_cons]; omega, ?_⟩
      have e : r - n0 = (r - (n0 + 1)) + 1 := by omega
      rw [e, List.take_succ_cons]
      intro b hb
      simp only [List.mem_cons] at hb
      rcases hb with rfl | hb
      · rintro rfl; cases hex <;> simp [GoHtml.digitVal, isDigit] at hv
      · exact h3 b hb
    | none =>
      simp only []
      split
      · next h59 =>
        refine ⟨by simp, by simp, ?_⟩
        have : n0 + 1 - n0 = 1 := by omega
        simp only [this, List.take_succ_cons, List.take_zero, List.mem_cons, List.not_mem_nil, or_false]
        rintro b rfl; rw [eq_of_beq h59]; decide
      · simp

/-- end of the name Go looks up: the alphanumeric run plus a directly following `;` -/
def goI (rest : Bytes) : Nat :=
  match rest.drop (CharRef.alnumRun rest) with
  | 59 :: _ => CharRef.alnumRun rest + 1
  | _ => CharRef.alnumRun rest

theorem goI_region (rest : Bytes) : goI rest ≤ rest.length ∧ ∀ b ∈ rest.take (goI rest), b ≠ 38 := by
  have hk := alnumRun_le rest
  have hall : ∀ b ∈ rest.take (CharRef.alnumRun rest), b ≠ 38 := by
    intro b hb
    have := alnumRun_take_all rest _ (Nat.le_refl _) b hb
    rintro rfl; revert this; decide
  unfold goI
  split
  · next w hd =>
    have hlen : CharRef.alnumRun rest + 1 ≤ rest.length := by
      have := congrArg List.length hd
      simp only [List.length_drop, List.length_cons] at this; omega
    refine ⟨hlen, ?_⟩
    rw [take_succ_of_drop _ _ _ _ hd]
    intro b hb
    rcases List.mem_append.1 hb with hb | hb
    · exact hall b hb
    · simp at hb; omega
  · exact ⟨hk, hall⟩

/-! ### `java&#9script:`, accepted before library commit 213930e, is rejected -/

/-- `java&#9script:` -/
def pJs : Bytes := [106, 97, 118, 97, 38, 35, 57, 115, 99, 114, 105, 112, 116, 58]

/-- the browser decodes `&#9` to TAB, which the URL parser removes: scheme `javascript` … -/
theorem pJs_browser_scheme : whatwgScheme (CharRef.decodeAttr pJs) = some javascript := by decide

/-- … Go's decoder leaves `&#9s` alone … -/
theorem pJs_disagree : GoHtml.unescapeString pJs ≠ CharRef.decodeAttr pJs := by decide

/-- … and since commit 213930e (`unterminatedNumericCharRefPattern`) the prefix is refused in every URL context -/
theorem pJs_rejected : chooseChain .url pJs = none ∧ chooseChain .truOrUrl pJs = none ∧ chooseChain .tru pJs = none := by
  decide

end SafeHtml.Proofs.C14Sound

#print axioms SafeHtml.Proofs.C14Sound.rx_endsWithCharRefPrefix
#print axioms SafeHtml.Proofs.C14Sound.C14_prefix_sound_decode
#print axioms SafeHtml.Proofs.C14Sound.C14_prefix_sound_go
#print axioms SafeHtml.Proofs.C14Sound.rx_unterminatedNumericCharRef
#print axioms SafeHtml.Proofs.C14Sound.decoders_dichotomy
#print axioms SafeHtml.Proofs.C14Sound.C14_prefix_sound_scheme_of
#print axioms SafeHtml.Proofs.C14Sound.prefixLoop_le
#print axioms SafeHtml.Proofs.C14Sound.pJs_rejected
