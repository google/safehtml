/-
C13 helper lemmas: the regenerated prefix regex means the four documented forms (ASCII reading),
and what a safe prefix implies.
-/
import SafeHtml.Model.Tru
import SafeHtml.Spec.TruUrl
import SafeHtml.Proofs.RxSeq
namespace SafeHtml.Proofs.C13
open SafeHtml SafeHtml.Rx SafeHtml.Model SafeHtml.Spec.Rfc3986 SafeHtml.Spec.TruUrl
open SafeHtml.Generated.Regexes

theorem originSlash_cons47 (c : Nat) (u : Bytes) : originSlash (c :: 47 :: u) = isOriginByte c := by
  simp [originSlash]

theorem originSlash_cons_ne (c d : Nat) (u : Bytes) (h : d ≠ 47) :
    originSlash (c :: d :: u) = (isOriginByte c && originSlash (d :: u)) := by
  rw [originSlash]
  intro tail heq; simp at heq; omega

theorem originSlash_single (c : Nat) : originSlash [c] = false := by
  simp [originSlash]

theorem originSlashLen_cons47 (c : Nat) (u : Bytes) :
    originSlashLen (c :: 47 :: u) = if isOriginByte c then some 2 else none := by
  simp [originSlashLen]

theorem originSlashLen_cons_ne (c d : Nat) (u : Bytes) (h : d ≠ 47) :
    originSlashLen (c :: d :: u) = if isOriginByte c then (originSlashLen (d :: u)).map (· + 1) else none := by
  rw [originSlashLen]
  intro tail heq; simp at heq; omega

theorem originSlashLen_single (c : Nat) : originSlashLen [c] = none := by
  simp [originSlashLen]

theorem originSlashLen_isSome (t : Bytes) : (originSlashLen t).isSome = originSlash t := by
  induction t with
  | nil => rfl
  | cons c t ih =>
    cases t with
    | nil => simp [originSlashLen_single, originSlash_single]
    | cons d u =>
      by_cases h : d = 47
      · subst h; rw [originSlashLen_cons47, originSlash_cons47]; cases isOriginByte c <;> rfl
      · rw [originSlashLen_cons_ne _ _ _ h, originSlash_cons_ne _ _ _ h, ← ih]
        cases isOriginByte c <;> simp

theorem originSlashLen_some (t : Bytes) (n : Nat) (h : originSlashLen t = some n) :
    ∃ k u, t = k ++ 47 :: u ∧ k ≠ [] ∧ (∀ b ∈ k, isOriginByte b = true) ∧ n = k.length + 1 := by
  induction t generalizing n with
  | nil => simp [originSlashLen] at h
  | cons c t ih =>
    cases t with
    | nil => simp [originSlashLen_single] at h
    | cons d u =>
      by_cases hd : d = 47
      · subst hd
        rw [originSlashLen_cons47] at h
        split at h <;> simp at h
        exact ⟨[c], u, rfl, by simp, by simpa, h.symm⟩
      · rw [originSlashLen_cons_ne _ _ _ hd] at h
        split at h <;> simp only [Option.map_eq_some_iff, reduceCtorEq] at h
        obtain ⟨m, hm, rfl⟩ := h
        obtain ⟨k, u', e, _, hall, rfl⟩ := ih m hm
        exact ⟨c :: k, u', by rw [e]; rfl, by simp, by simpa [*] using hall, by simp⟩

theorem originSlashLen_intro (k u : Bytes) (hk : k ≠ []) (hall : ∀ b ∈ k, isOriginByte b = true) :
    originSlashLen (k ++ 47 :: u) = some (k.length + 1) := by
  induction k with
  | nil => exact absurd rfl hk
  | cons c k ih =>
    have hc := hall c (by simp)
    cases k with
    | nil => simp [originSlashLen_cons47, hc]
    | cons d k' =>
      have hd : d ≠ 47 := fun e => by have := hall d (by simp); rw [e] at this; exact absurd this (by decide)
      rw [List.cons_append, List.cons_append, originSlashLen_cons_ne _ _ _ hd, if_pos hc, ← List.cons_append,
        ih (by simp) (fun b hb => hall b (by simp [hb]))]
      rfl

theorem originSlashLen_take (t x : Bytes) (n : Nat) (h : originSlashLen t = some n) :
    originSlashLen (t.take n ++ x) = some n := by
  obtain ⟨k, u, rfl, hk, hall, rfl⟩ := originSlashLen_some t n h
  rw [List.take_length_add_append]
  simpa using originSlashLen_intro k x hk hall

theorem netPathLen_isSome (u : Bytes) : (netPathLen u).isSome = netPath u := by
  unfold netPathLen netPath
  split <;> simp [originSlashLen_isSome]

theorem netPathLen_some (u : Bytes) (m : Nat) (h : netPathLen u = some m) :
    ∃ t k, u = 47 :: 47 :: t ∧ originSlashLen t = some k ∧ m = k + 2 := by
  unfold netPathLen at h
  split at h
  · rename_i t
    simp only [Option.map_eq_some_iff] at h
    obtain ⟨k, hk, rfl⟩ := h
    exact ⟨t, k, rfl, hk, rfl⟩
  · simp at h

theorem isOriginByte_ne37 (b : Nat) (h : isOriginByte b = true) : b ≠ 37 := by
  intro hb; subst hb; revert h; decide

theorem netPathLen_spec (u : Bytes) (m : Nat) (h : netPathLen u = some m) :
    4 ≤ m ∧ m ≤ u.length ∧ ∀ b ∈ u.take m, b ≠ 37 := by
  obtain ⟨t, n, rfl, hn, rfl⟩ := netPathLen_some u m h
  obtain ⟨k, u', rfl, hk, hall, rfl⟩ := originSlashLen_some t n hn
  have := List.length_pos_iff.2 hk
  refine ⟨by omega, by simp, ?_⟩
  intro b hb
  simp only [List.take_succ_cons, List.take_length_add_append, List.take_zero, List.mem_cons, List.mem_append,
    List.not_mem_nil, or_false] at hb
  rcases hb with rfl | rfl | hb | rfl
  · omega
  · omega
  · exact isOriginByte_ne37 b (hall b hb)
  · omega

theorem netPathLen_take (u x : Bytes) (m : Nat) (h : netPathLen u = some m) :
    netPathLen (u.take m ++ x) = some m := by
  obtain ⟨t, k, rfl, hk, rfl⟩ := netPathLen_some u m h
  have := originSlashLen_take t x k hk
  simp [netPathLen, this]

theorem ciPrefix_len (lit s : Bytes) (h : ciPrefix lit s = true) : lit.length ≤ s.length := by
  induction lit generalizing s with
  | nil => simp
  | cons l ls ih =>
    cases s with
    | nil => simp [ciPrefix] at h
    | cons c cs =>
      simp only [ciPrefix, Bool.and_eq_true] at h
      have := ih cs h.2
      simp; omega

theorem ciPrefix_cons (l : Nat) (ls s : Bytes) (h : ciPrefix (l :: ls) s = true) :
    ∃ c cs, s = c :: cs ∧ asciiLower c = l := by
  cases s with
  | nil => simp [ciPrefix] at h
  | cons c cs =>
    simp only [ciPrefix, Bool.and_eq_true, beq_iff_eq] at h
    exact ⟨c, cs, rfl, h.1⟩

theorem ciPrefix_mem : ∀ (lit s : Bytes), ciPrefix lit s = true → ∀ l ∈ lit, ∃ x ∈ s, asciiLower x = l
  | [], _, _, _, hl => by cases hl
  | _ :: _, [], h, _, _ => by simp [ciPrefix] at h
  | l0 :: ls, c :: cs, h, l, hl => by
    simp only [ciPrefix, Bool.and_eq_true, beq_iff_eq] at h
    rcases List.mem_cons.1 hl with rfl | hl
    · exact ⟨c, by simp, h.1⟩
    · obtain ⟨x, hx, hxl⟩ := ciPrefix_mem ls cs h.2 l hl
      exact ⟨x, List.mem_cons_of_mem _ hx, hxl⟩

theorem ciPrefix_take (lit s x : Bytes) (n : Nat) (h : ciPrefix lit s = true) (hn : lit.length ≤ n) :
    ciPrefix lit (s.take n ++ x) = true := by
  induction lit generalizing s n with
  | nil => simp [ciPrefix]
  | cons l ls ih =>
    cases s with
    | nil => simp [ciPrefix] at h
    | cons c cs =>
      simp only [ciPrefix, Bool.and_eq_true] at h
      obtain ⟨k, rfl⟩ : ∃ k, n = k + 1 := ⟨n - 1, by simp at hn; omega⟩
      simp only [List.take_succ_cons, List.cons_append, ciPrefix, Bool.and_eq_true]
      exact ⟨h.1, ih cs k h.2 (by simp at hn; omega)⟩

theorem ciPrefix_ne37 (lit s : Bytes) (h : ciPrefix lit s = true) (hl : ∀ l ∈ lit, l ≠ 37) :
    ∀ b ∈ s.take lit.length, b ≠ 37 := by
  induction lit generalizing s with
  | nil => simp
  | cons l ls ih =>
    cases s with
    | nil => simp
    | cons c cs =>
      simp only [ciPrefix, Bool.and_eq_true, beq_iff_eq] at h
      intro b hb
      simp only [List.length_cons, List.take_succ_cons, List.mem_cons] at hb
      rcases hb with rfl | hb
      · intro hb; subst hb
        have : asciiLower 37 = 37 := by decide
        rw [this] at h
        exact hl 37 (by simp [← h.1]) rfl
      · exact ih cs h.2 (fun l hl' => hl l (by simp [hl'])) b hb

theorem safePrefix_forms (s : Bytes) (h : safePrefix s = true) :
    (originPrefixLen s).isSome = true ∨ pathAbsolute s = true ∨ ciPrefix litAboutBlank s = true := by
  unfold safePrefix at h
  simp only [Bool.or_eq_true] at h
  rcases h with ((h | h) | h) | h
  · left; unfold originPrefixLen; rw [if_pos h]
    simp only [Bool.and_eq_true] at h
    simp [netPathLen_isSome, h.2]
  · left; unfold originPrefixLen
    split
    · rename_i h'
      simp only [Bool.and_eq_true] at h'
      simp [netPathLen_isSome, h'.2]
    · simp [netPathLen_isSome, h]
  · right; left; exact h
  · right; right; exact h

/-- no `%` in the scheme-and-authority prefix, so no format marker can start inside it -/
theorem originPrefixLen_spec (s : Bytes) (n : Nat) (h : originPrefixLen s = some n) :
    n ≤ s.length ∧ ∀ b ∈ s.take n, b ≠ 37 := by
  unfold originPrefixLen at h
  split at h
  · rename_i hc
    simp only [Bool.and_eq_true] at hc
    simp only [Option.map_eq_some_iff] at h
    obtain ⟨m, hm, rfl⟩ := h
    obtain ⟨h1, h2, h3⟩ := netPathLen_spec _ m hm
    have hl := ciPrefix_len _ _ hc.1
    have h37 := ciPrefix_ne37 _ _ hc.1 (by decide)
    simp only [List.length_drop] at h2
    have hl6 : litHttps.length = 6 := rfl
    rw [hl6] at hl h37
    refine ⟨by omega, ?_⟩
    intro b hb
    rw [Nat.add_comm, List.take_add, List.mem_append] at hb
    rcases hb with hb | hb
    · exact h37 b hb
    · exact h3 b hb
  · obtain ⟨h1, h2, h3⟩ := netPathLen_spec _ n h
    exact ⟨h2, h3⟩

theorem originPrefixLen_prefix (s x : Bytes) (n : Nat) (h : originPrefixLen s = some n) :
    originPrefixLen (s.take n ++ x) = some n := by
  unfold originPrefixLen at h
  split at h
  · rename_i hc
    simp only [Bool.and_eq_true] at hc
    simp only [Option.map_eq_some_iff] at h
    obtain ⟨m, hm, rfl⟩ := h
    have hl := ciPrefix_len _ _ hc.1
    have hl6 : litHttps.length = 6 := rfl
    rw [hl6] at hl
    have hci := ciPrefix_take litHttps s x (m + 6) hc.1 (by rw [hl6]; omega)
    have hdrop : (s.take (m + 6) ++ x).drop 6 = (s.drop 6).take m ++ x := by
      rw [List.drop_append_of_le_length (by simp; omega), List.drop_take]
      simp
    have hnp := netPathLen_take _ x m hm
    unfold originPrefixLen
    rw [hdrop, hci, ← netPathLen_isSome, hnp]
    simp
  · obtain ⟨t, k, rfl, hk, rfl⟩ := netPathLen_some s n h
    have hnp := netPathLen_take _ x _ h
    unfold originPrefixLen
    have : ciPrefix litHttps (List.take (k + 2) (47 :: 47 :: t) ++ x) = false := by
      simp only [List.take_succ_cons, List.cons_append, litHttps, ciPrefix]
      have : asciiLower 47 = 47 := by decide
      rw [this]; rfl
    rw [this]; simpa using hnp

/-! ### the regex -/

/-- the class of the `<origin>` part of `safeTrustedResourceURLPrefixPattern` -/
abbrev originCls : List (Nat × Nat) := [(45, 46), (48, 58), (65, 91), (93, 93), (97, 122)]

theorem inCls_origin (b : Nat) :
    inCls originCls b = isOriginByte b := by
  rw [Bool.eq_iff_iff]
  simp [inCls, isOriginByte, isAlnum, isAlpha, isLowerAlpha, isUpperAlpha, isDigit]; omega

theorem inCls_pathStart (c : Nat) (h : c ≤ 1114111) :
    inCls [(0, 46), (48, 91), (93, 1114111)] c = (c != 47 && c != 92) := by
  rw [Bool.eq_iff_iff]; simp [inCls]; omega

theorem spanB_origin_slash (u : Bytes) :
    spanB originCls (47 :: u) = 0 := by
  simp [spanB, inCls]

theorem originSlash_span (t : Bytes) :
    (decide (1 ≤ spanB originCls t) &&
      headIn [(47, 47)] (t.drop (spanB originCls t)))
      = originSlash t := by
  induction t with
  | nil => simp [spanB, originSlash, headIn]
  | cons c t ih =>
    cases t with
    | nil =>
      rw [originSlash_single]
      simp only [spanB]
      split <;> simp [headIn]
    | cons d u =>
      by_cases hd : d = 47
      · subst hd
        rw [originSlash_cons47, spanB, spanB_origin_slash, inCls_origin]
        cases isOriginByte c <;> simp [headIn, inCls]
      · rw [originSlash_cons_ne _ _ _ hd, ← ih, spanB, inCls_origin]
        cases hc : isOriginByte c with
        | false => simp
        | true =>
          simp only [if_true, List.drop_succ_cons, Bool.true_and]
          rw [spanB, inCls_origin]
          cases hdo : isOriginByte d with
          | true => simp
          | false => simp [headIn, cls_lit, hd]

theorem netPath_eq (x : Bytes) :
    netPath x = (matchSeq [[(47, 47)], [(47, 47)]] x && originSlash (x.drop 2)) := by
  match x with
  | [] => simp [netPath, matchSeq]
  | [a] => simp [netPath, matchSeq]
  | a :: b :: t =>
    simp only [matchSeq, cls_lit, List.drop_succ_cons, List.drop_zero, Bool.and_true]
    by_cases ha : a = 47
    · by_cases hb : b = 47
      · subst ha hb; simp [netPath]
      · have : netPath (a :: b :: t) = false := by
          unfold netPath; split
          · rename_i heq; simp at heq; omega
          · rfl
        simp [this, hb]
    · have : netPath (a :: b :: t) = false := by
        unfold netPath; split
        · rename_i heq; simp at heq; omega
        · rfl
      simp [this, ha]

theorem lensB_rest (x : Bytes) :
    (lensB (.cat (.cat (.cls [(47, 47)]) (.cls [(47, 47)]))
      (.cat (Rx.Re.plus (.cls originCls) true) (.cls [(47, 47)]))) x).isEmpty
      = !netPath x := by
  have h1 := lensB_clsSeq (.cat (.cls [(47, 47)]) (.cls [(47, 47)])) [[(47, 47)], [(47, 47)]] rfl x
  rw [lensB_cat_single _ _ x _ _ h1]
  rw [lensB_plus_then _ _ (by
    intro b hb
    rw [cls_lit] at hb
    simp at hb; subst hb; decide)]
  rw [originSlash_span, netPath_eq]
  simp only [List.length_cons, List.length_nil]
  cases matchSeq [[(47, 47)], [(47, 47)]] x <;> cases originSlash (List.drop 2 x) <;> simp

theorem lens_alt (a b : Re) (s : List Sym) : lens (.alt a b) s = lens a s ++ lens b s := by
  rw [lens]

theorem lensB_quest_cat (H REST : Re) (cs : List (List (Nat × Nat))) (hH : clsSeq H = some cs) (s : Bytes) :
    (lensB (.cat (Rx.Re.quest H true) REST) s).isEmpty =
      !((matchSeq cs s && !(lensB REST (s.drop cs.length)).isEmpty) || !(lensB REST s).isEmpty) := by
  have h1 := lensB_clsSeq H cs hH s
  simp only [Rx.Re.quest, if_true, lensB, h1]
  cases matchSeq cs s <;> simp [isEmpty_append]

theorem pathAbsolute_ne (b : Nat) (t : Bytes) (h : b ≠ 47) : pathAbsolute (b :: t) = false := by
  unfold pathAbsolute; split
  · rename_i heq; simp at heq; omega
  · rfl

theorem lens_cls_cat_cons (A B : List (Nat × Nat)) (x : Sym) (rest : List Sym) :
    lens (.cat (.cls A) (.cls B)) (x :: rest) =
      if inCls A x.rune then (lens (.cls B) rest).map (1 + ·) else [] := by
  simp only [lens]
  split <;> simp

theorem lens_slashNot (s : Bytes) :
    (lens (.cat (.cls [(47, 47)]) (.cls [(0, 46), (48, 91), (93, 1114111)])) (Utf8.decodeSyms s)).isEmpty
      = !pathAbsolute s := by
  cases s with
  | nil => simp [Utf8.decodeSyms_nil, lens, pathAbsolute]
  | cons b t =>
    by_cases hb : b < 128
    · rw [Utf8.decodeSyms_cons_ascii b t hb, lens_cls_cat_cons, cls_lit]
      by_cases h47 : b = 47
      · subst h47
        simp only [beq_self_eq_true, if_true, List.isEmpty_map]
        cases t with
        | nil => simp [Utf8.decodeSyms_nil, lens, pathAbsolute]
        | cons c u =>
          have hpa : pathAbsolute (47 :: c :: u) = (c != 47 && c != 92) := rfl
          rw [hpa]
          by_cases hc : c < 128
          · rw [Utf8.decodeSyms_cons_ascii c u hc]
            simp only [lens]
            rw [inCls_pathStart c (by omega)]
            cases (c != 47 && c != 92) <;> simp
          · obtain ⟨r, p, w, _, ⟨_, _, hr1, hr2, _⟩, hdec⟩ := Utf8.decodeSyms_cons_wide c u (by omega)
            rw [hdec]
            simp only [lens]
            rw [inCls_pathStart r hr2]
            have h1 : (r != 47 && r != 92) = true := by simp; omega
            have h2 : (c != 47 && c != 92) = true := by simp; omega
            simp [h1, h2]
      · rw [pathAbsolute_ne b t h47]
        simp [h47]
    · obtain ⟨r, p, w, _, ⟨_, _, hr1, hr2, _⟩, hdec⟩ := Utf8.decodeSyms_cons_wide b t (by omega)
      rw [hdec, lens_cls_cat_cons, cls_lit, pathAbsolute_ne b t (by omega)]
      have : (r == 47) = false := by simp; omega
      simp [this]

/-- the regenerated `safeTrustedResourceURLPrefixPattern` (ASCII letter classes, library commit 5fae79d) accepts
    exactly the four documented prefix forms in their ASCII reading, for every byte string -/
theorem rx_prefix (s : Bytes) : isSafeTrustedResourceURLPrefix s = safePrefix s := by
  unfold isSafeTrustedResourceURLPrefix safehtmlutil_safeTrustedResourceURLPrefixPattern
  rw [matchString_bot_simple _ (by decide)]
  rw [lens_alt, lens_alt, isEmpty_append, isEmpty_append, lens_slashNot]
  rw [lens_decodeSyms_ascii _ (by decide) (by decide), lens_decodeSyms_ascii _ (by decide) (by decide)]
  rw [lensB_quest_cat _ _ (litHttps.map ciCls) (by decide), lensB_rest, lensB_rest]
  rw [lensB_clsSeq _ (litAboutBlank.map ciCls) (by decide)]
  rw [matchSeq_ciCls _ (by decide), matchSeq_ciCls _ (by decide)]
  have h6 : (List.map ciCls litHttps).length = 6 := rfl
  rw [h6]
  unfold safePrefix
  cases ciPrefix litHttps s <;> cases netPath (List.drop 6 s) <;> cases netPath s <;>
    cases pathAbsolute s <;> cases ciPrefix litAboutBlank s <;> rfl

end SafeHtml.Proofs.C13
