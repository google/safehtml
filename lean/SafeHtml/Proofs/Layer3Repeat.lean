/-
Later executions through the API state machine. `ApiLemmas.execFixed`: the world after a first `Execute` of an unset
object is a fixed point of `Execute` that does not depend on the data (`ExecFixed`, here `FixedFrom`). Hence the result
of `Execute(d)` after any list of earlier executions (`execs`) is that of a first `Execute(d)` (`first_of_later`), and
C01 for first executions gives C01 for later ones. For the single straight-line template of `Layer3Calls` the world
after the first call is also computed (`worldF`).
-/
import SafeHtml.Proofs.Layer3Calls
import SafeHtml.Proofs.ApiLemmas
import SafeHtml.Props.C06
set_option linter.unusedSimpArgs false

namespace SafeHtml.Proofs.Layer3Repeat
open SafeHtml SafeHtml.Model SafeHtml.Model.Tmpl SafeHtml.Spec SafeHtml.Spec.HtmlTok SafeHtml.Generated.Policy
open SafeHtml.Proofs.HtmlTokSim
open SafeHtml.Proofs.Layer3 SafeHtml.Proofs.Layer3E2E SafeHtml.Proofs.Layer3Branch SafeHtml.Proofs.Layer3Calls

/-- run a list of Execute calls on handle 0, returning the world after them -/
def execs (w : World) : List Value → World
  | [] => w
  | d :: ds => execs (Api.step w (.exec 0 d)).1 ds

theorem step_exec (w : World) (d : Value) :
    Api.step w (.exec 0 d) = ((apiExecute w 0 d).1, .exec (apiExecute w 0 d).2) := rfl

/-! ### the world after the first `Execute` is a data-independent fixed point -/

/-- after the first `Execute` on handle 0 the world is a data-independent fixed point of `Execute`, whose result is
    the same function of the data as the first call's -/
def FixedFrom (W : World) : Prop := ExecFixed W 0

theorem execs_of_fixed {W : World} (h : ∀ d, (apiExecute W 0 d).1 = W) : ∀ pre : List Value, execs W pre = W
  | [] => rfl
  | d :: ds => by
    rw [execs, step_exec, h]
    exact execs_of_fixed h ds

theorem execs_cons {W : World} (h : FixedFrom W) (d0 : Value) (pre : List Value) :
    execs W (d0 :: pre) = (apiExecute W 0 d0).1 := by
  obtain ⟨W', h1, h2⟩ := h
  rw [execs, step_exec, h1]
  exact execs_of_fixed (fun d => by rw [h2]) pre

theorem step_execs_of_fixedFrom (W : World) (h : FixedFrom W) (pre : List Value) (d : Value) :
    (Api.step (execs W pre) (.exec 0 d)).2 = (Api.step W (.exec 0 d)).2 := by
  cases pre with
  | nil => rfl
  | cons d0 ds =>
    rw [execs_cons h]
    obtain ⟨W', h1, h2⟩ := h
    rw [h1, step_exec, h2, step_exec]

theorem history_independent {W : World} (h : FixedFrom W) (pre1 pre2 : List Value) (d : Value) :
    (Api.step (execs W pre1) (.exec 0 d)).2 = (Api.step (execs W pre2) (.exec 0 d)).2 :=
  (step_execs_of_fixedFrom W h pre1 d).trans (step_execs_of_fixedFrom W h pre2 d).symm

theorem step_execs_world (W : World) (h : FixedFrom W) (d0 : Value) (pre : List Value) (d : Value) :
    (Api.step (execs W (d0 :: pre)) (.exec 0 d)).1 = execs W (d0 :: pre) := by
  rw [execs_cons h]
  obtain ⟨W', h1, h2⟩ := h
  rw [h1, step_exec, h2]

theorem first_of_later (W : World) (hF : FixedFrom W) (pre : List Value) (d : Value) (w : World) (r : Ret)
    (h : Api.step (execs W pre) (.exec 0 d) = (w, r)) :
    Api.step W (.exec 0 d) = ((Api.step W (.exec 0 d)).1, r) := by
  have := step_execs_of_fixedFrom W hF pre d
  rw [h] at this
  exact Prod.ext rfl this.symm

/-- any world in which handle 0 denotes the object its name space registers under its name. Nothing is assumed of the
    trees: the analysis may succeed, fail, panic or run out of fuel. -/
theorem fixedFrom_unset (W : World) (oid : Nat) (o : TObj) (hobj : W.obj 0 = some (oid, o))
    (hid : alookup (W.ns o.ns).set o.name = some oid) : FixedFrom W :=
  execFixed W 0 (fun _ _ ho _ _ => by rw [hobj] at ho; cases ho; exact hid)

theorem apiExecute_of_fixedFrom {W W' : World} (hF : FixedFrom W) {d0 : Value} (hw : (apiExecute W 0 d0).1 = W')
    (d : Value) : apiExecute W 0 d = (W', (apiExecute W' 0 d).2) := by
  obtain ⟨W'', h1, h2⟩ := hF
  obtain rfl : W'' = W' := (h1 d0).symm.trans hw
  rw [h2]
  exact Prod.ext (h1 d) rfl

/-! ### the single straight-line template -/

/-- the world after the first `Execute`: committed tree `T`, escaper `E`, object marked `ok` -/
def worldF (v : Validators) (fuel : Nat) (name : String) (T : Tree) (E : Esc) : World :=
  { objs := [(1, { ns := 0, name := name, registered := true, treeNil := false, status := .ok })],
    nss := [(0, { set := [(name, 1)], text := [(name, some T)], escaped := true, esc := E })],
    handles := [(0, 1)], next := 2, fuel := fuel, v := v }

/-- the result of every execution, as a function of the data -/
def resultOf (fuel : Nat) (name : String) (tr : Tree) (es : List EPiece) (as : List Arg) (d : Value) : Res :=
  resOf (walkList false [(name, some (treeOut tr es as))] 0 fuel d d [] (treeOut tr es as).root)

/-- for an ARBITRARY tree: no grammar / analysis hypothesis -/
theorem fixedFrom_setupW (v : Validators) (fuel : Nat) (name : String) (tr : Tree) :
    FixedFrom (setupW v fuel name tr) :=
  fixedFrom_unset _ 1 _ (setupW_obj v fuel name tr) (by simp [setupW, World.ns, nlookup, alookup])

/-- C06 for the world after `New`, `Parse` of one template, whatever its tree: the result of `Execute(d)` (successful
    or not) does not depend on the earlier executions -/
theorem history_independent_setupW (v : Validators) (fuel : Nat) (name : String) (tr : Tree)
    (pre1 pre2 : List Value) (d : Value) :
    (Api.step (execs (setupW v fuel name tr) pre1) (.exec 0 d)).2 =
      (Api.step (execs (setupW v fuel name tr) pre2) (.exec 0 d)).2 :=
  history_independent (fixedFrom_setupW v fuel name tr) pre1 pre2 d

theorem fixedFrom_setup (v : Validators) (fuel : Nat) (name : String) (tr : Tree) (hn : tr.name = name) :
    FixedFrom (setup v fuel name tr) := by
  rw [setup_eq v fuel name tr hn]; exact fixedFrom_setupW v fuel name tr

theorem apiExecute_single_again (v : Validators) (fuel : Nat) (name : String) (T : Tree) (E : Esc) (d : Value) :
    apiExecute (worldF v fuel name T E) 0 d =
      (worldF v fuel name T E, resOf (walkList false [(name, some T)] 0 fuel d d [] T.root)) := by
  have hobj : (worldF v fuel name T E).obj 0 =
      some (1, { ns := 0, name := name, registered := true, treeNil := false, status := .ok }) := by
    simp [worldF, World.obj, nlookup, bind, Option.bind]
  rw [Props.C06.C06_repeat_ok _ 0 1 _ d hobj rfl]
  simp [worldF, World.setNs, nset, nlookup, textExecute, World.ns, TextSet.lookup, resOf]
  rfl

theorem apiExecute_single_first (v : Validators) (fuel : Nat) (name : String) (tr : Tree) (ps : List Piece)
    (as : List Arg) (has : ∀ a ∈ as, ActArg a) (cf : Ctx) (es : List EPiece)
    (hroot : tr.root = NodeList.ofList (toNodesA 0 ps as)) (ha : analyse v {} ps = some (cf, es))
    (hfin : finalError cf = none) (hf : ps.length + 4 ≤ fuel) :
    ∃ E, ∀ d : Value, apiExecute (setupW v fuel name tr) 0 d =
      (worldF v fuel name (treeOut tr es as) E, resultOf fuel name tr es as d) := by
  obtain ⟨E, E', het, hc⟩ := single_first v name tr ps as has cf es hroot ha
    (by rw [Frozen.finalError_text cf hfin]; decide) fuel hf
  refine ⟨E', fun d => ?_⟩
  have hw : (apiExecute (setupW v fuel name tr) 0 d).1 = worldF v fuel name (treeOut tr es as) E' := by
    have hns := setupW_ns v fuel name tr
    rw [apiExecute_first (setupW_obj v fuel name tr) rfl rfl (by rw [hns]; simp [alookup])
      (by rw [analysisEnv, hns]; exact het) hfin (by rw [hns]; exact hc) d]
    simp [markOk, setupW, worldF, treeOut, World.setNs, World.setObj, World.ns, nset, nlookup, alookup, TextSet.lookup]
  rw [apiExecute_of_fixedFrom (fixedFrom_setupW v fuel name tr) hw d, apiExecute_single_again]
  rfl

/-- the worlds reachable by executions from the world after `New`, `Parse`: the world itself or `worldF`
    (also when some of the earlier executions failed: the analysis does not depend on the data) -/
theorem execs_setupW (v : Validators) (fuel : Nat) (name : String) (tr : Tree) (ps : List Piece)
    (as : List Arg) (has : ∀ a ∈ as, ActArg a) (cf : Ctx) (es : List EPiece)
    (hroot : tr.root = NodeList.ofList (toNodesA 0 ps as)) (ha : analyse v {} ps = some (cf, es))
    (hfin : finalError cf = none) (hf : ps.length + 4 ≤ fuel) :
    ∃ E, ∀ pre : List Value, execs (setupW v fuel name tr) pre = setupW v fuel name tr ∨
      execs (setupW v fuel name tr) pre = worldF v fuel name (treeOut tr es as) E := by
  obtain ⟨E, hE⟩ := apiExecute_single_first v fuel name tr ps as has cf es hroot ha hfin hf
  refine ⟨E, fun pre => ?_⟩
  cases pre with
  | nil => exact .inl rfl
  | cons d ds => exact .inr ((execs_cons (fixedFrom_setupW v fuel name tr) d ds).trans (by rw [hE]))

theorem step_execs (v : Validators) (fuel : Nat) (name : String) (tr : Tree) (ps : List Piece)
    (as : List Arg) (has : ∀ a ∈ as, ActArg a) (cf : Ctx) (es : List EPiece)
    (hroot : tr.root = NodeList.ofList (toNodesA 0 ps as)) (ha : analyse v {} ps = some (cf, es))
    (hfin : finalError cf = none) (hf : ps.length + 4 ≤ fuel) (pre : List Value) (d : Value) :
    (Api.step (execs (setupW v fuel name tr) pre) (.exec 0 d)).2 = .exec (resultOf fuel name tr es as d) := by
  obtain ⟨E, hE⟩ := apiExecute_single_first v fuel name tr ps as has cf es hroot ha hfin hf
  rw [step_execs_of_fixedFrom _ (fixedFrom_setupW v fuel name tr), step_exec, hE]

set_option linter.unusedVariables false in
/-- `step_execs_world` for `setupW`; the hypotheses on the template are not needed (`fixedFrom_setupW` has none) -/
theorem execs_fixed (v : Validators) (fuel : Nat) (name : String) (tr : Tree) (ps : List Piece)
    (as : List Arg) (has : ∀ a ∈ as, ActArg a) (cf : Ctx) (es : List EPiece)
    (hroot : tr.root = NodeList.ofList (toNodesA 0 ps as)) (ha : analyse v {} ps = some (cf, es))
    (hfin : finalError cf = none) (hf : ps.length + 4 ≤ fuel) (d0 : Value) (pre : List Value) (d : Value) :
    (Api.step (execs (setupW v fuel name tr) (d0 :: pre)) (.exec 0 d)).1 = execs (setupW v fuel name tr) (d0 :: pre) :=
  step_execs_world _ (fixedFrom_setupW v fuel name tr) d0 pre d

/-- C01 for a single template through the API state machine, later executions. As
    `Layer3Calls.C01_api_single_template`, but each of the two executions compared comes after an arbitrary list of
    earlier `Execute` calls on the same template object (`pre1`, `pre2`: any data, no hypothesis — they may print
    trusted values, fail with an execution error, or be absent; the two lists need not have the same length). -/
theorem C01_api_single_template_repeat (v : Validators) (fuel : Nat) (name : String) (tr : Tree) (ps : List Piece)
    (as : List Arg) (has : ∀ a ∈ as, ActArg a) (cf : Ctx) (es : List EPiece) (hn : tr.name = name)
    (hroot : tr.root = NodeList.ofList (toNodesA 0 ps as)) (hs : SimpleAll v {} ps)
    (ha : analyse v {} ps = some (cf, es)) (hfin : finalError cf = none) (hf : ps.length + 4 ≤ fuel)
    (pre1 pre2 : List Value)
    (d1 d2 : Value) (hu1 : LeavesUntrusted d1 as) (hu2 : LeavesUntrusted d2 as) (o1 o2 : Bytes) (w1 w2 : World)
    (h1 : Api.step (execs (setup v fuel name tr) pre1) (.exec 0 d1) = (w1, .exec (.ok o1)))
    (h2 : Api.step (execs (setup v fuel name tr) pre2) (.exec 0 d2) = (w2, .exec (.ok o2))) :
    skeleton (HtmlTok.tokenize o1).tokens = skeleton (HtmlTok.tokenize o2).tokens ∧
    (HtmlTok.tokenize o1).final = .data ∧ (HtmlTok.tokenize o2).final = .data :=
  C01_api_single_template v fuel name tr ps as has cf es hn hroot hs ha hfin hf d1 d2 hu1 hu2 o1 o2 _ _
    (first_of_later _ (fixedFrom_setup v fuel name tr hn) pre1 d1 w1 _ h1)
    (first_of_later _ (fixedFrom_setup v fuel name tr hn) pre2 d2 w2 _ h2)

/-! ### non-vacuity: `<p title="{{.T}}">{{.T}}</p>`, third execution after a successful one and a FAILED one
(`Value.str` has no field `T`) -/

example : retOk (Api.step (execs (setup v0 100 "t" exTree) [exData [34, 62, 60], .str [1]])
    (.exec 0 (exData [60, 38]))).2 = true := by
  decide +kernel

/-- the second of the earlier executions really fails -/
example : retOk (Api.step (execs (setup v0 100 "t" exTree) [exData [34, 62, 60]]) (.exec 0 (.str [1]))).2 = false := by
  decide +kernel

theorem ex_api_repeat (pre1 pre2 : List Value) (b1 b2 o1 o2 : Bytes) (w1 w2 : World)
    (h1 : Api.step (execs (setup v0 100 "t" exTree) pre1) (.exec 0 (exData b1)) = (w1, .exec (.ok o1)))
    (h2 : Api.step (execs (setup v0 100 "t" exTree) pre2) (.exec 0 (exData b2)) = (w2, .exec (.ok o2))) :
    skeleton (HtmlTok.tokenize o1).tokens = skeleton (HtmlTok.tokenize o2).tokens ∧
    (HtmlTok.tokenize o1).final = .data ∧ (HtmlTok.tokenize o2).final = .data :=
  C01_api_single_template_repeat v0 100 "t" exTree exTemplate exArgs
    (by intro a ha; simp [exArgs] at ha; subst ha; exact Or.inr ⟨_, rfl⟩) {} exOut rfl rfl ex_simpleAll ex_analyse
    (by decide) (by decide) pre1 pre2 _ _ (exData_untrusted b1) (exData_untrusted b2) o1 o2 w1 w2 h1 h2

#print axioms C01_api_single_template_repeat
#print axioms step_execs
#print axioms ex_api_repeat

end SafeHtml.Proofs.Layer3Repeat
