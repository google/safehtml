/-
Frozen trees (C09 / C06): a later analysis in the same template set never changes what a template that was analysed
earlier executes. `C09_frozen_reachable` shows it from any set whose escaper satisfies `GoodNs` (e.g. a set never
executed), `apiExecute_frozen` / `apiExecuteTemplate_frozen` + `settled_after_own_analysis` for the complete critical
sections. It needs library commit d3401ea (section 9); the statement of Props/C09.lean read literally, for ALL worlds,
is false (`C09_frozen_statement_false`).
-/
import SafeHtml.Props.C09
import SafeHtml.Proofs.Analysis
namespace SafeHtml.Proofs.Frozen
open SafeHtml SafeHtml.Model.Tmpl SafeHtml.Proofs.Analysis

theorem self_mem_aset {β} (l : List (String × β)) (k : String) (v : β) : (k, v) ∈ aset l k v :=
  mem_of_alookup _ _ _ (by rw [alookup_aset, if_pos rfl])

/-! ### 1. the analysis never produces an edit (or a new derived tree) for a frozen name

`F` is any set of names that are all memoized in `e.output` ("frozen" names). -/

structure Pre (F : String → Prop) (e : Esc) : Prop where
  out : ∀ n, F n → (alookup e.output n).isSome = true
  ae : ∀ p ∈ e.actionEdits, ¬ F p.1.1
  te : ∀ p ∈ e.tmplEdits, ¬ F p.1.1
  xe : ∀ p ∈ e.textEdits, ¬ F p.1.1

def Step (F : String → Prop) (e e' : Esc) : Prop :=
  Pre F e' ∧ ∀ p ∈ e'.derived, F p.1 → p ∈ e.derived

theorem Step.refl {F} {e : Esc} (h : Pre F e) : Step F e e := ⟨h, fun _ hp _ => hp⟩

theorem Step.trans {F} {e e1 e2 : Esc} (h1 : Step F e e1) (h2 : Step F e1 e2) : Step F e e2 :=
  ⟨h2.1, fun p hp hF => h1.2 p (h2.2 p hp hF) hF⟩

theorem Pre.setOut {F} {e : Esc} (hp : Pre F e) (k : String) (v : Ctx) : Pre F (setOut e k v) :=
  ⟨fun n hn => isSome_aset _ _ _ _ (hp.out n hn), hp.ae, hp.te, hp.xe⟩

theorem Pre.scratch {F} {e : Esc} (hp : Pre F e) : Pre F (scratch e) :=
  ⟨hp.out, fun _ h => (nomatch h), fun _ h => (nomatch h), fun _ h => (nomatch h)⟩

theorem analysis_inv (F : String → Prop) (env : Env) : ∀ f,
    (∀ tn e c n r, Pre F e → ¬ F tn → escapeNode env f tn e c n = .ok r → Step F e r.1) ∧
    (∀ tn e c l r, Pre F e → ¬ F tn → escapeList env f tn e c l = .ok r → Step F e r.1) ∧
    (∀ tn e c t el b r, Pre F e → ¬ F tn → escapeBranch env f tn e c t el b = .ok r → Step F e r.1) ∧
    (∀ e c name r, Pre F e → escapeTree env f e c name = .ok r → Step F e r.1) ∧
    (∀ e c tname t r, Pre F e → ¬ F tname → computeOutCtx env f e c tname t = .ok r → Step F e r.1) ∧
    (∀ e c tname t r, Pre F e → ¬ F tname → escapeTemplateBody env f e c tname t = .ok r → Step F e r.1) := by
  refine fuel_induction ⟨?_, ?_, ?_, ?_, ?_, ?_⟩ ?_ ?_ ?_ ?_ ?_ ?_
  · intro _ _ _ _ _ _ _ h; rw [escapeNode_zero] at h; cases h
  · intro _ _ _ _ _ _ _ h; rw [escapeList_zero] at h; cases h
  · intro _ _ _ _ _ _ _ _ _ h; rw [escapeBranch_zero] at h; cases h
  · intro _ _ _ _ _ h; rw [escapeTree_zero] at h; cases h
  · intro _ _ _ _ _ _ _ h; rw [computeOutCtx_zero] at h; cases h
  · intro _ _ _ _ _ _ _ h; rw [escapeTemplateBody_zero] at h; cases h
  · intro f hb ht tn e c n r hp htn h
    cases n with
    | action id p =>
      rw [escapeNode_action] at h
      rcases escapeAction_ok h with h1 | ⟨s, h1⟩ <;> rw [h1]
      · exact Step.refl hp
      · exact ⟨⟨hp.out, forall_mem_snoc hp.ae htn, hp.te, hp.xe⟩, fun _ hq _ => hq⟩
    | text id b =>
      rw [escapeNode_text] at h
      rcases escapeTextNode_ok h with h1 | ⟨s, h1⟩ <;> rw [h1]
      · exact Step.refl hp
      · exact ⟨⟨hp.out, hp.ae, hp.te, forall_mem_snoc hp.xe htn⟩, fun _ hq _ => hq⟩
    | ifN id p t el => rw [escapeNode_if] at h; exact hb _ _ _ _ _ _ _ hp htn h
    | withN id p t el => rw [escapeNode_with] at h; exact hb _ _ _ _ _ _ _ hp htn h
    | rangeN id p t el => rw [escapeNode_range] at h; exact hb _ _ _ _ _ _ _ hp htn h
    | tmpl id name p =>
      obtain ⟨e1, d, h1, h2⟩ := escapeNode_tmpl_ok h
      have s1 := ht _ _ _ _ hp h1
      rcases h2 with ⟨_, h2⟩ | ⟨_, h2⟩
      · rw [h2]; exact s1
      · rw [(editTmpl_ok h2).1]
        exact s1.trans ⟨⟨s1.1.out, s1.1.ae, forall_mem_snoc s1.1.te htn, s1.1.xe⟩, fun _ hq _ => hq⟩
    | brk id => rw [escapeNode_brk] at h; cases h; exact Step.refl hp
    | cont id => rw [escapeNode_cont] at h; cases h; exact Step.refl hp
    | comment id => rw [escapeNode_comment] at h; cases h; exact Step.refl hp
  · intro f hn hl tn e c l r hp htn h
    cases l with
    | nil => rw [escapeList_nil] at h; cases h; exact Step.refl hp
    | cons n ns =>
      obtain ⟨e1, c1, h1, h2⟩ := escapeList_cons_ok h
      have s1 := hn _ _ _ _ _ hp htn h1
      exact s1.trans (hl _ _ _ _ _ s1.1 htn h2)
  · -- the scratch run of a range is dropped: only the then-run and the else-run count
    intro f hl tn e c t el b r hp htn h
    obtain ⟨e1, c0, h1, h2⟩ := escapeBranch_ok h
    have s1 := hl _ _ _ _ _ hp htn h1
    rcases h2 with ⟨_, _, _, _, ⟨_, rfl⟩ | ⟨_, e2, c2, h3, rfl⟩⟩ | ⟨_, e2, c2, h3, rfl⟩
    · exact s1
    · exact s1.trans (hl _ _ _ _ (e2, c2) s1.1 htn h3)
    · exact s1.trans (hl _ _ _ _ (e2, c2) s1.1 htn h3)
  · -- a memo miss means the mangled name is not frozen, so its new derived tree is allowed
    intro f ho e c name r hp h
    rcases escapeTree_ok h with ⟨_, rfl⟩ | ⟨_, out, _, rfl⟩ | ⟨_, _, _, rfl⟩ | ⟨_, hnone, tr, e1, c1, _, h1, rfl⟩
    · exact Step.refl hp
    · exact Step.refl (e := hit e c _) ⟨hp.out, hp.ae, hp.te, hp.xe⟩
    · exact Step.refl (e := miss e c _) ⟨hp.out, hp.ae, hp.te, hp.xe⟩
    · have hnF : ¬ F (mangle c name) := fun hF => by have := hp.out _ hF; rw [hnone] at this; cases this
      have hpe : Pre F (enter env e c name tr).1 := by
        refine ⟨?_, ?_, ?_, ?_⟩
        · rw [enter_output]; exact hp.out
        · rw [enter_actionEdits]; exact hp.ae
        · rw [enter_tmplEdits]; exact hp.te
        · rw [enter_textEdits]; exact hp.xe
      have s := ho _ _ _ _ (e1, c1) hpe hnF h1
      refine ⟨s.1, fun p hq hF => ?_⟩
      have hd := s.2 p hq hF
      rcases enter_cases env e c name tr with ⟨_, h2⟩ | ⟨_, _, _, h2⟩ | ⟨_, _, dt, _, h2⟩ <;> rw [h2] at hd
      · exact hd
      · exact hd
      · rcases mem_aset _ _ _ p hd with h3 | h3
        · exact h3
        · rw [h3] at hF; exact absurd hF hnF
  · intro f hy e c tname t r hp htn h
    obtain ⟨e1, c1, ok1, h1, h2⟩ := computeOutCtx_ok h
    have s1 := hy _ _ _ _ _ hp htn h1
    have out : ∀ {e2 : Esc} (c' : Ctx), Step F e e2 → Step F e (setOut e2 tname c') :=
      fun c' s => s.trans ⟨s.1.setOut _ _, fun _ hq _ => hq⟩
    rcases h2 with ⟨_, rfl⟩ | ⟨_, e2, c2, ok2, h3, h4⟩
    · exact out _ s1
    · have s2 := s1.trans (hy _ _ _ _ _ s1.1 htn h3)
      rcases h4 with ⟨_, rfl⟩ | ⟨_, _, rfl⟩ | ⟨_, _, rfl⟩ <;> exact out _ s2
  · intro f hl e c tname t r hp htn h
    obtain ⟨tr, e1, c1, _, h1, h2⟩ := escapeTemplateBody_ok h
    have hp0 := hp.setOut tname c
    have s1 := hl _ _ _ _ _ hp0.scratch htn h1
    rcases h2 with ⟨_, _, _, _, rfl⟩ | ⟨_, rfl⟩
    · refine ⟨⟨fun n hn => isSome_foldl_aset _ _ _ (hp0.out n hn), forall_mem_append hp.ae s1.1.ae,
        forall_mem_append hp.te s1.1.te, forall_mem_append hp.xe s1.1.xe⟩, fun p hpm hF => ?_⟩
      rcases mem_foldl_aset _ _ p hpm with h6 | h6
      · exact h6
      · exact absurd (s1.2 p h6 hF) (by simp [scratch])
    · exact ⟨⟨hp0.out, hp.ae, hp.te, hp.xe⟩, fun _ hq _ => hq⟩

theorem escapeTree_step {F : String → Prop} (env : Env) (f : Nat) (e : Esc) (c : Ctx) (name : String)
    (r : Esc × Ctx × String) (hp : Pre F e) (h : escapeTree env f e c name = .ok r) : Step F e r.1 :=
  (analysis_inv F env f).2.2.2.1 e c name r hp h



/-! ### 2. commit -/

/-- installing one derived tree (AddParseTree rule) -/
def installStep (ts : TextSet) (p : String × Tree) : TextSet :=
  match ts.lookup p.1 with
  | some (some _) => if p.2.root.isEmpty then ts else ts.set p.1 (some p.2)
  | _ => ts.set p.1 (some p.2)

/-- applying the pending edits to the tree called `n` -/
def editStep (e : Esc) (ts : TextSet) (n : String) : Out TextSet :=
  match ts.lookup n with
  | some (some tr) =>
    match NodeList.applyEdits n e tr.root with
    | some r => Out.ok (ts.set n (some { tr with root := r }))
    | none => Out.panic "index out of range: command without arguments"
  | _ => Out.ok ts

def editNames (e : Esc) : List String :=
  (e.actionEdits.map (·.1.1) ++ e.tmplEdits.map (·.1.1) ++ e.textEdits.map (·.1.1)).eraseDups

def relink (text2 : TextSet) (p : String × Tree) : String × Tree :=
  match text2.lookup p.1 with
  | some (some t) => (p.1, t)
  | _ => p

theorem commit_spec (text : TextSet) (e : Esc) (text2 : TextSet) (e' : Esc)
    (h : commit text e = .ok (text2, e')) :
    ∃ pr : List (String × Tree),
      (editNames e).foldlM (editStep { e with pristine := pr }) (e.derived.foldl installStep text) = .ok text2 ∧
      e' = { e with pristine := pr, derived := e.derived.map (relink text2), called := [], actionEdits := [],
                    tmplEdits := [], textEdits := [] } := by
  unfold commit at h
  simp only [] at h
  split at h
  · cases h
  · obtain ⟨t2, h1, h2⟩ := bind_ok h
    cases h2
    exact ⟨_, h1, rfl⟩


theorem foldl_ind {α β} {f : β → α → β} {P : β → Prop} (l : List α) (b : β) (hb : P b)
    (h : ∀ a ∈ l, ∀ x, P x → P (f x a)) : P (l.foldl f b) :=
  (foldl_inv_rel (R := fun _ _ => True) (fun _ => trivial) (fun _ _ => trivial)
    (fun x a ha hx => ⟨h a ha x hx, trivial⟩) hb).1

theorem lookup_set_cases (ts : TextSet) (n : String) (t : Option Tree) (m : String) :
    (ts.set n t).lookup m = ts.lookup m ∨ (m = n ∧ (ts.set n t).lookup m = some t) := by
  rw [lookup_set]
  by_cases h : m = n
  · exact .inr ⟨h, if_pos h⟩
  · exact .inl (if_neg h)

theorem installStep_lookup (ts : TextSet) (p : String × Tree) (n : String) :
    (installStep ts p).lookup n = ts.lookup n ∨ (n = p.1 ∧ (installStep ts p).lookup n = some (some p.2)) := by
  unfold installStep
  split
  · split
    · exact .inl rfl
    · exact lookup_set_cases ..
  · exact lookup_set_cases ..

theorem install_keeps (ds : List (String × Tree)) : ∀ (ts : TextSet) (n : String),
    (∀ p ∈ ds, p.1 = n → ts.lookup n = some (some p.2)) →
    (ds.foldl installStep ts).lookup n = ts.lookup n := by
  intro ts n h
  refine foldl_ind (P := fun x => x.lookup n = ts.lookup n) ds ts rfl fun q hq x hx => ?_
  rcases installStep_lookup x q n with h1 | ⟨h1, h2⟩
  · exact h1.trans hx
  · rw [h2, h q hq h1.symm]

theorem install_lookup (ds : List (String × Tree)) : ∀ (ts : TextSet) (n : String),
    (ds.foldl installStep ts).lookup n = ts.lookup n ∨
    ∃ d, (n, d) ∈ ds ∧ (ds.foldl installStep ts).lookup n = some (some d) := by
  intro ts n
  refine foldl_ind (P := fun x => x.lookup n = ts.lookup n ∨ ∃ d, (n, d) ∈ ds ∧ x.lookup n = some (some d)) ds ts
    (.inl rfl) fun q hq x hx => ?_
  rcases installStep_lookup x q n with h1 | ⟨h1, h2⟩
  · rw [h1]; exact hx
  · subst h1; exact .inr ⟨q.2, hq, h2⟩

def IsTree (x : Option (Option Tree)) : Prop := ∃ t, x = some (some t)

theorem installStep_isTree_self (ts : TextSet) (p : String × Tree) : IsTree ((installStep ts p).lookup p.1) := by
  unfold installStep
  split
  · rename_i t ht
    split
    · exact ⟨t, ht⟩
    · rw [lookup_set, if_pos rfl]; exact ⟨_, rfl⟩
  · rw [lookup_set, if_pos rfl]; exact ⟨_, rfl⟩

theorem installStep_isTree_keep (ts : TextSet) (p : String × Tree) (n : String) (h : IsTree (ts.lookup n)) :
    IsTree ((installStep ts p).lookup n) := by
  rcases installStep_lookup ts p n with h1 | ⟨_, h1⟩ <;> rw [h1]
  · exact h
  · exact ⟨_, rfl⟩

theorem install_isTree (ds : List (String × Tree)) : ∀ (ts : TextSet), ∀ q ∈ ds,
    IsTree ((ds.foldl installStep ts).lookup q.1) := by
  induction ds with
  | nil => intro ts q hq; cases hq
  | cons d t ih =>
    intro ts q hq
    rcases List.mem_cons.mp hq with rfl | hq
    · exact foldl_ind (P := fun x => IsTree (x.lookup q.1)) t _ (installStep_isTree_self ts q)
        fun a _ x => installStep_isTree_keep x a q.1
    · exact ih _ q hq

theorem editStep_ok {e : Esc} {ts ts' : TextSet} {n : String} (h : editStep e ts n = .ok ts') :
    (ts' = ts ∧ ∀ tr, ts.lookup n ≠ some (some tr)) ∨
    ∃ tr r, ts.lookup n = some (some tr) ∧ NodeList.applyEdits n e tr.root = some r ∧
      ts' = ts.set n (some { tr with root := r }) := by
  unfold editStep at h
  split at h
  · rename_i tr htr
    split at h
    · rename_i r hr; cases h; exact .inr ⟨tr, r, htr, hr, rfl⟩
    · cases h
  · rename_i hnt; cases h; exact .inl ⟨rfl, hnt⟩

theorem editStep_lookup_other (e : Esc) (ts ts' : TextSet) (n m : String) (h : editStep e ts n = .ok ts')
    (hm : ¬ m = n) : ts'.lookup m = ts.lookup m := by
  rcases editStep_ok h with ⟨rfl, _⟩ | ⟨_, _, _, _, rfl⟩
  · rfl
  · rw [lookup_set, if_neg hm]

theorem editStep_isTree_keep (e : Esc) (ts ts' : TextSet) (n m : String) (h : editStep e ts n = .ok ts')
    (ht : IsTree (ts.lookup m)) : IsTree (ts'.lookup m) := by
  rcases editStep_ok h with ⟨rfl, _⟩ | ⟨_, _, _, _, rfl⟩
  · exact ht
  · rcases lookup_set_cases ts n _ m with h1 | ⟨_, h1⟩ <;> rw [h1]
    · exact ht
    · exact ⟨_, rfl⟩

theorem edits_lookup_other (e : Esc) (names : List String) (ts ts' : TextSet) (m : String)
    (h : names.foldlM (editStep e) ts = .ok ts') (hm : m ∉ names) : ts'.lookup m = ts.lookup m :=
  foldlM_ok_ind (P := fun x => x.lookup m = ts.lookup m) names ts ts' h rfl fun n hn x y hxy hx =>
    (editStep_lookup_other e x y n m hxy (fun hc => hm (hc ▸ hn))).trans hx

theorem edits_isTree_keep (e : Esc) (names : List String) (ts ts' : TextSet) (m : String)
    (h : names.foldlM (editStep e) ts = .ok ts') (ht : IsTree (ts.lookup m)) : IsTree (ts'.lookup m) :=
  foldlM_ok_ind (P := fun x => IsTree (x.lookup m)) names ts ts' h ht fun n _ x y hxy =>
    editStep_isTree_keep e x y n m hxy

theorem mem_editNames (e : Esc) (n : String) (h : n ∈ editNames e) :
    (∃ p ∈ e.actionEdits, p.1.1 = n) ∨ (∃ p ∈ e.tmplEdits, p.1.1 = n) ∨ (∃ p ∈ e.textEdits, p.1.1 = n) := by
  unfold editNames at h
  rw [List.mem_eraseDups, List.mem_append, List.mem_append] at h
  rcases h with (h | h) | h
  · exact .inl (by simpa using h)
  · exact .inr (.inl (by simpa using h))
  · exact .inr (.inr (by simpa using h))

theorem commit_keeps (text : TextSet) (e : Esc) (text2 : TextSet) (e' : Esc) (n : String)
    (h : commit text e = .ok (text2, e'))
    (hn : n ∉ editNames e)
    (hd : ∀ p ∈ e.derived, p.1 = n → text.lookup n = some (some p.2)) :
    text2.lookup n = text.lookup n := by
  obtain ⟨pr, h1, _⟩ := commit_spec text e text2 e' h
  rw [edits_lookup_other _ _ _ _ n h1 hn]
  exact install_keeps e.derived text n hd

theorem commit_post (text : TextSet) (e : Esc) (text2 : TextSet) (e' : Esc)
    (h : commit text e = .ok (text2, e')) :
    e'.output = e.output ∧ e'.actionEdits = [] ∧ e'.tmplEdits = [] ∧ e'.textEdits = [] ∧ e'.called = [] ∧
    ∀ p ∈ e'.derived, text2.lookup p.1 = some (some p.2) := by
  obtain ⟨pr, h1, rfl⟩ := commit_spec text e text2 e' h
  refine ⟨rfl, rfl, rfl, rfl, rfl, ?_⟩
  intro p hp
  simp only [List.mem_map] at hp
  obtain ⟨q, hq, rfl⟩ := hp
  obtain ⟨t, ht⟩ := edits_isTree_keep _ _ _ _ q.1 h1 (install_isTree e.derived text q hq)
  unfold relink
  rw [ht]
  exact ht

/-! ### 3. the invariant between critical sections -/

/-- `F` = a set of frozen names: all memoized, no pending edit names one of them, and every derived entry with a
    frozen name is the installed tree -/
structure Inv (F : String → Prop) (text : TextSet) (e : Esc) : Prop where
  pre : Pre F e
  der : ∀ p ∈ e.derived, F p.1 → text.lookup p.1 = some (some p.2)

theorem Inv.empty (text : TextSet) (e : Esc) : Inv (fun _ => False) text e :=
  ⟨⟨fun _ h => h.elim, fun _ _ h => h, fun _ _ h => h, fun _ _ h => h⟩, fun _ _ h => h.elim⟩

theorem Inv.mono {F G : String → Prop} {text e} (hi : Inv F text e) (hGF : ∀ n, G n → F n) : Inv G text e :=
  ⟨⟨fun n hn => hi.pre.out n (hGF n hn), fun p hp hG => hi.pre.ae p hp (hGF _ hG),
    fun p hp hG => hi.pre.te p hp (hGF _ hG), fun p hp hG => hi.pre.xe p hp (hGF _ hG)⟩,
   fun p hp hG => hi.der p hp (hGF _ hG)⟩

def Memo (e : Esc) (n : String) : Prop := (alookup e.output n).isSome = true

theorem Inv.analysis {F text e} (hi : Inv F text e) (env : Env) (f : Nat) (c : Ctx) (name : String)
    (r : Esc × Ctx × String) (h : escapeTree env f e c name = .ok r) : Inv F text r.1 := by
  have s := escapeTree_step env f e c name r hi.pre h
  exact ⟨s.1, fun p hp hF => hi.der p (s.2 p hp hF) hF⟩

theorem Inv.commit {F text e} (hi : Inv F text e) (text2 : TextSet) (e' : Esc)
    (h : commit text e = .ok (text2, e')) :
    (∀ n, F n → text2.lookup n = text.lookup n) ∧ Inv F text2 e' ∧ Inv (Memo e') text2 e' := by
  obtain ⟨ho, ha, ht, hx, _, hd⟩ := commit_post text e text2 e' h
  have nil : ∀ {α} {Q : α → Prop} {l : List α}, l = [] → ∀ p ∈ l, Q p := fun hl _ hp => by rw [hl] at hp; cases hp
  refine ⟨?_, ⟨⟨?_, nil ha, nil ht, nil hx⟩, fun p hp _ => hd p hp⟩,
    ⟨⟨fun _ hn => hn, nil ha, nil ht, nil hx⟩, fun p hp _ => hd p hp⟩⟩
  · intro n hF
    apply commit_keeps text e text2 e' n h
    · intro hmem
      rcases mem_editNames e n hmem with ⟨p, hp, rfl⟩ | ⟨p, hp, rfl⟩ | ⟨p, hp, rfl⟩
      · exact hi.pre.ae p hp hF
      · exact hi.pre.te p hp hF
      · exact hi.pre.xe p hp hF
    · intro p hp hpn
      subst hpn
      exact hi.der p hp hF
  · intro n hF; rw [ho]; exact hi.pre.out n hF


/-! ### 4. the API: one analysis under the mutex -/

theorem escapeTemplateTop_spec_env (w : World) (ns : Nat) (name : String) (w' : World) (r : Option ErrCode)
    (h : escapeTemplateTop w ns name = .inr (w', r)) :
    ∃ (env : Env) (e1 : Esc) (c : Ctx) (d : String), env.text = (w.ns ns).text ∧
      escapeTree env w.fuel (w.ns ns).esc {} name = .ok (e1, c, d) ∧
      ((∃ code, r = some code ∧ w'.ns ns = { w.ns ns with esc := e1 }) ∨
       (∃ text2 e2, r = none ∧ finalError c = none ∧ commit (w.ns ns).text e1 = .ok (text2, e2) ∧
          w'.ns ns = { w.ns ns with esc := e2, text := text2 })) := by
  obtain ⟨e1, c, d, hesc, hr⟩ := top_inr h
  refine ⟨analysisEnv w ns, e1, c, d, rfl, hesc, ?_⟩
  rcases hr with ⟨code, _, rfl, rfl⟩ | ⟨t, e', hf, hc, rfl, rfl⟩
  · exact .inl ⟨code, rfl, by rw [ns_markFailed, if_pos rfl]⟩
  · exact .inr ⟨t, e', rfl, hf, hc, by rw [ns_markOk, if_pos rfl]⟩

def NsInv (F : String → Prop) (n : NS) : Prop := Inv F n.text n.esc

theorem failed_keeps_text (w w' : World) (ns : Nat) (other : String) (code : ErrCode)
    (h : escapeTemplateTop w ns other = .inr (w', some code)) :
    (w'.ns ns).text = (w.ns ns).text ∧ w'.fuel = w.fuel := by
  obtain ⟨_, _, _, _, _, _, hr⟩ := escapeTemplateTop_spec_env w ns other w' _ h
  rcases hr with ⟨_, _, hns⟩ | ⟨_, _, hr, _, _⟩
  · rw [hns]; exact ⟨rfl, (fields_top h).1⟩
  · cases hr

theorem failed_frozen (w w' : World) (ns : Nat) (other : String) (code : ErrCode) (o : TObj) (d : Value)
    (h : escapeTemplateTop w ns other = .inr (w', some code)) :
    textExecute w' o d = textExecute w o d := by
  refine textExecute_congr ?_ (fields_top h).1 rfl rfl d
  by_cases hk : o.ns = ns
  · rw [hk]; exact (failed_keeps_text w w' ns other code h).1
  · rw [ns_top h _ hk]

theorem top_preserves (F : String → Prop) (w w' : World) (ns : Nat) (other : String) (r : Option ErrCode)
    (hi : NsInv F (w.ns ns)) (h : escapeTemplateTop w ns other = .inr (w', r)) :
    NsInv F (w'.ns ns) ∧ (∀ n, F n → (w'.ns ns).text.lookup n = (w.ns ns).text.lookup n) ∧
    (r = none → NsInv (Memo (w'.ns ns).esc) (w'.ns ns)) := by
  obtain ⟨env, e1, c, d, _, hesc, hr⟩ := escapeTemplateTop_spec_env w ns other w' r h
  have hi1 : Inv F (w.ns ns).text e1 := Inv.analysis hi env _ _ _ _ hesc
  rcases hr with ⟨code, rfl, hns⟩ | ⟨text2, e2, rfl, _, hc, hns⟩
  · rw [hns]
    exact ⟨hi1, fun _ _ => rfl, fun hc => by cases hc⟩
  · obtain ⟨h1, h2, h3⟩ := Inv.commit hi1 text2 e2 hc
    rw [hns]
    exact ⟨h2, h1, fun _ => h3⟩


/-! ### 5. execution reads the text set only through `lookup`, and only for the names it can reach -/

mutual
def nodeCallsIn (F : String → Prop) : Node → Prop
  | .tmpl _ name _ => F name
  | .ifN _ _ t e => listCallsIn F t ∧ listCallsIn F e
  | .rangeN _ _ t e => listCallsIn F t ∧ listCallsIn F e
  | .withN _ _ t e => listCallsIn F t ∧ listCallsIn F e
  | .text _ _ => True
  | .action _ _ => True
  | .brk _ => True
  | .cont _ => True
  | .comment _ => True
def listCallsIn (F : String → Prop) : NodeList → Prop
  | .nil => True
  | .cons n ns => nodeCallsIn F n ∧ listCallsIn F ns
end

mutual
def nodeAll (Q : Nat → String → Prop) : Node → Prop
  | .tmpl id name _ => Q id name
  | .ifN _ _ t e => listAll Q t ∧ listAll Q e
  | .rangeN _ _ t e => listAll Q t ∧ listAll Q e
  | .withN _ _ t e => listAll Q t ∧ listAll Q e
  | .text _ _ => True
  | .action _ _ => True
  | .brk _ => True
  | .cont _ => True
  | .comment _ => True
def listAll (Q : Nat → String → Prop) : NodeList → Prop
  | .nil => True
  | .cons n ns => nodeAll Q n ∧ listAll Q ns
end

mutual
theorem nodeAll_mono {Q R : Nat → String → Prop} (h : ∀ i n, Q i n → R i n) : ∀ n, nodeAll Q n → nodeAll R n
  | .tmpl _ _ _, hq => by simp only [nodeAll] at hq ⊢; exact h _ _ hq
  | .ifN _ _ t e, hq | .rangeN _ _ t e, hq | .withN _ _ t e, hq => by
    simp only [nodeAll] at hq ⊢; exact ⟨listAll_mono h t hq.1, listAll_mono h e hq.2⟩
  | .text _ _, _ | .action _ _, _ | .brk _, _ | .cont _, _ | .comment _, _ => by simp only [nodeAll]
theorem listAll_mono {Q R : Nat → String → Prop} (h : ∀ i n, Q i n → R i n) : ∀ l, listAll Q l → listAll R l
  | .nil, _ => by simp only [listAll]
  | .cons n ns, hq => by simp only [listAll] at hq ⊢; exact ⟨nodeAll_mono h n hq.1, listAll_mono h ns hq.2⟩
end

mutual
theorem nodeCallsIn_iff (F : String → Prop) : ∀ n, nodeCallsIn F n ↔ nodeAll (fun _ m => F m) n
  | .tmpl _ _ _ => by simp only [nodeCallsIn, nodeAll]
  | .ifN _ _ t e | .rangeN _ _ t e | .withN _ _ t e => by
    simp only [nodeCallsIn, nodeAll, listCallsIn_iff F t, listCallsIn_iff F e]
  | .text _ _ | .action _ _ | .brk _ | .cont _ | .comment _ => by simp only [nodeCallsIn, nodeAll]
theorem listCallsIn_iff (F : String → Prop) : ∀ l, listCallsIn F l ↔ listAll (fun _ m => F m) l
  | .nil => by simp only [listCallsIn, listAll]
  | .cons n ns => by simp only [listCallsIn, listAll, nodeCallsIn_iff F n, listCallsIn_iff F ns]
end

theorem nodeAll_callsIn {F : String → Prop} : ∀ n, nodeAll (fun _ m => F m) n → nodeCallsIn F n :=
  fun n => (nodeCallsIn_iff F n).mpr
theorem listAll_callsIn {F : String → Prop} : ∀ l, listAll (fun _ m => F m) l → listCallsIn F l :=
  fun l => (listCallsIn_iff F l).mpr

theorem nodeCallsIn_mono {F G : String → Prop} (hFG : ∀ n, F n → G n) : ∀ n, nodeCallsIn F n → nodeCallsIn G n :=
  fun n h => nodeAll_callsIn n (nodeAll_mono (fun _ m => hFG m) n ((nodeCallsIn_iff F n).mp h))
theorem listCallsIn_mono {F G : String → Prop} (hFG : ∀ n, F n → G n) : ∀ l, listCallsIn F l → listCallsIn G l :=
  fun l h => listAll_callsIn l (listAll_mono (fun _ m => hFG m) l ((listCallsIn_iff F l).mp h))

/-- `F` is closed under calls in `text`: the installed tree of every name in `F` calls only names in `F` -/
def Closed (F : String → Prop) (text : TextSet) : Prop :=
  ∀ n, F n → ∀ tr, text.lookup n = some (some tr) → listCallsIn F tr.root

def NodeCongr (F : String → Prop) (plain : Bool) (t1 t2 : TextSet) (f : Nat) : Prop :=
  ∀ depth dot root out n, nodeCallsIn F n →
    walkNode plain t1 depth f dot root out n = walkNode plain t2 depth f dot root out n
def ListCongr (F : String → Prop) (plain : Bool) (t1 t2 : TextSet) (f : Nat) : Prop :=
  ∀ depth dot root out l, listCallsIn F l →
    walkList plain t1 depth f dot root out l = walkList plain t2 depth f dot root out l
def RangeCongr (F : String → Prop) (plain : Bool) (t1 t2 : TextSet) (f : Nat) : Prop :=
  ∀ depth vs root out l, listCallsIn F l →
    walkRange plain t1 depth f vs root out l = walkRange plain t2 depth f vs root out l

theorem walkNode_succ {F plain t1 t2 f} (hag : ∀ n, F n → t1.lookup n = t2.lookup n) (hcl : Closed F t1)
    (hl : ListCongr F plain t1 t2 f) (hr : RangeCongr F plain t1 t2 f) : NodeCongr F plain t1 t2 (f + 1) := by
  intro depth dot root out n hc
  cases n with
  | text id b | action id p | brk id | cont id | comment id => simp only [walkNode]
  | ifN id p t e | withN id p t e =>
    simp only [nodeCallsIn] at hc
    simp only [walkNode, hl _ _ _ _ t hc.1, hl _ _ _ _ e hc.2]
  | rangeN id p t e =>
    simp only [nodeCallsIn] at hc
    simp only [walkNode, hr _ _ _ _ t hc.1, hl _ _ _ _ e hc.2]
  | tmpl id name p =>
    simp only [nodeCallsIn] at hc
    simp only [walkNode]
    rw [← hag name hc]
    split
    · rename_i tr htr
      simp only [hl _ _ _ _ tr.root (hcl name hc tr htr)]
    · rfl
    · rfl

theorem walkList_succ {F plain t1 t2 f} (hn : NodeCongr F plain t1 t2 f) (hl : ListCongr F plain t1 t2 f) :
    ListCongr F plain t1 t2 (f + 1) := by
  intro depth dot root out l hc
  cases l with
  | nil => simp only [walkList]
  | cons n ns =>
    simp only [listCallsIn] at hc
    simp only [walkList, hn _ _ _ _ n hc.1, hl _ _ _ _ ns hc.2]

theorem walkRange_succ {F plain t1 t2 f} (hl : ListCongr F plain t1 t2 f) (hr : RangeCongr F plain t1 t2 f) :
    RangeCongr F plain t1 t2 (f + 1) := by
  intro depth vs root out l hc
  cases vs with
  | nil => simp only [walkRange]
  | cons v rest => simp only [walkRange, hl _ _ _ _ l hc, hr _ _ _ _ l hc]

theorem walk_congr (F : String → Prop) (plain : Bool) (t1 t2 : TextSet)
    (hag : ∀ n, F n → t1.lookup n = t2.lookup n) (hcl : Closed F t1) : ∀ f,
    NodeCongr F plain t1 t2 f ∧ ListCongr F plain t1 t2 f ∧ RangeCongr F plain t1 t2 f := by
  intro f
  induction f with
  | zero =>
    refine ⟨?_, ?_, ?_⟩
    · intro depth dot root out n _; simp only [walkNode]
    · intro depth dot root out l _; simp only [walkList]
    · intro depth vs root out l _; simp only [walkRange]
  | succ f ih =>
    obtain ⟨hn, hl, hr⟩ := ih
    exact ⟨walkNode_succ hag hcl hl hr, walkList_succ hn hl, walkRange_succ hl hr⟩

theorem textExecute_congr_on (F : String → Prop) (w1 w2 : World) (o : TObj) (d : Value)
    (hF : F o.name) (hcl : Closed F (w1.ns o.ns).text)
    (hag : ∀ n, F n → (w1.ns o.ns).text.lookup n = (w2.ns o.ns).text.lookup n) (hf : w1.fuel = w2.fuel) :
    textExecute w1 o d = textExecute w2 o d := by
  unfold textExecute
  simp only [← hag o.name hF, ← hf]
  split
  · rfl
  · rename_i tr htr
    have hc : listCallsIn F tr.root := by
      split at htr
      · rename_i hreg
        split at htr
        · rename_i t hl
          subst htr
          exact hcl o.name hF tr hl
        · cases htr
      · cases htr
    rw [(walk_congr F false _ _ hag hcl w1.fuel).2.1 _ _ _ _ _ hc]


/-! ### 6. the frozen property -/

theorem closed_of_agree {F : String → Prop} {t1 t2 : TextSet} (hcl : Closed F t1)
    (hag : ∀ n, F n → t2.lookup n = t1.lookup n) : Closed F t2 := by
  intro n hF tr htr
  rw [hag n hF] at htr
  exact hcl n hF tr htr

theorem frozen_other_ns (w w' : World) (ns : Nat) (other : String) (r : Option ErrCode) (o : TObj) (d : Value)
    (hons : o.ns ≠ ns) (h : escapeTemplateTop w ns other = .inr (w', r)) :
    textExecute w' o d = textExecute w o d := by
  exact textExecute_congr (by rw [ns_top h _ hons]) (fields_top h).1 rfl rfl d

theorem frozen_step (F : String → Prop) (w w' : World) (ns : Nat) (other : String) (r : Option ErrCode)
    (o : TObj) (d : Value)
    (hi : NsInv F (w.ns ns)) (hcl : Closed F (w.ns ns).text) (hons : o.ns = ns) (hF : F o.name)
    (h : escapeTemplateTop w ns other = .inr (w', r)) :
    textExecute w' o d = textExecute w o d ∧ NsInv F (w'.ns ns) ∧ Closed F (w'.ns ns).text := by
  obtain ⟨h1, h2, _⟩ := top_preserves F w w' ns other r hi h
  refine ⟨?_, h1, closed_of_agree hcl h2⟩
  subst hons
  exact (textExecute_congr_on F w w' o d hF hcl (fun n hn => (h2 n hn).symm) (fields_top h).1.symm).symm

/-- the critical sections of a sequence of Execute calls on the set `ns` (a panic / out-of-fuel outcome leaves the
    world as it was, as in `apiExecute`) -/
def analyses (ns : Nat) : World → List String → World
  | w, [] => w
  | w, n :: t =>
    match escapeTemplateTop w ns n with
    | .inr (w', _) => analyses ns w' t
    | .inl _ => analyses ns w t

theorem analyses_ind {ns : Nat} {P : World → Prop}
    (hstep : ∀ w w' n r, P w → escapeTemplateTop w ns n = .inr (w', r) → P w') :
    ∀ (names : List String) (w : World), P w → P (analyses ns w names) := by
  intro names
  induction names with
  | nil => exact fun _ h => h
  | cons n t ih =>
    intro w h
    unfold analyses
    split
    · rename_i w' r heq
      exact ih w' (hstep w w' n r h heq)
    · exact ih w h

theorem frozen_many (F : String → Prop) (ns : Nat) (o : TObj) (d : Value) (hons : o.ns = ns) (hF : F o.name) :
    ∀ (others : List String) (w : World), NsInv F (w.ns ns) → Closed F (w.ns ns).text →
      textExecute (analyses ns w others) o d = textExecute w o d := by
  intro others w hi hcl
  refine (analyses_ind (P := fun x => (NsInv F (x.ns ns) ∧ Closed F (x.ns ns).text) ∧
    textExecute x o d = textExecute w o d) (fun x x' n r hx heq => ?_) others w ⟨⟨hi, hcl⟩, rfl⟩).2
  obtain ⟨h1, h2, h3⟩ := frozen_step F x x' ns n r o d hx.1.1 hx.1.2 hons hF heq
  exact ⟨⟨h2, h3⟩, h1.trans hx.2⟩

/-- the three facts that the later critical sections must preserve for an analysed object `o` -/
def Settled (F : String → Prop) (w : World) (o : TObj) : Prop :=
  NsInv F (w.ns o.ns) ∧ Closed F (w.ns o.ns).text ∧ F o.name

theorem frozen_step_any (F : String → Prop) (w w' : World) (ns : Nat) (other : String) (r : Option ErrCode)
    (o : TObj) (hs : Settled F w o) (h : escapeTemplateTop w ns other = .inr (w', r)) :
    Settled F w' o ∧ ∀ d, textExecute w' o d = textExecute w o d := by
  by_cases hk : o.ns = ns
  · refine ⟨?_, fun d => (frozen_step F w w' ns other r o d (hk ▸ hs.1) (hk ▸ hs.2.1) hk hs.2.2 h).1⟩
    obtain ⟨_, h2, h3⟩ := frozen_step F w w' ns other r o .nil (hk ▸ hs.1) (hk ▸ hs.2.1) hk hs.2.2 h
    subst hk
    exact ⟨h2, h3, hs.2.2⟩
  · refine ⟨?_, fun d => frozen_other_ns w w' ns other r o d hk h⟩
    unfold Settled
    rw [ns_top h _ hk]
    exact hs

theorem settled_setEscaped (F : String → Prop) (w : World) (k : Nat) (o : TObj) (hs : Settled F w o) :
    Settled F (w.setNs k { w.ns k with escaped := true }) o ∧
    ∀ d, textExecute (w.setNs k { w.ns k with escaped := true }) o d = textExecute w o d := by
  have key : ((w.setNs k { w.ns k with escaped := true }).ns o.ns).text = (w.ns o.ns).text ∧
      ((w.setNs k { w.ns k with escaped := true }).ns o.ns).esc = (w.ns o.ns).esc := by
    by_cases hk : o.ns = k
    · rw [hk, ns_setNs_same]; exact ⟨rfl, rfl⟩
    · rw [ns_setNs_other _ _ _ _ hk]; exact ⟨rfl, rfl⟩
  refine ⟨?_, fun d => textExecute_congr key.1 rfl rfl rfl d⟩
  unfold Settled NsInv
  rw [key.1, key.2]
  exact hs

theorem settled_top (F : String → Prop) (w : World) (o : TObj) (hs : Settled F w o) (k : Nat) (name : String)
    (w' : World) (r : Option ErrCode)
    (he : escapeTemplateTop (w.setNs k { w.ns k with escaped := true }) k name = .inr (w', r)) :
    Settled F w' o ∧ ∀ d, textExecute w' o d = textExecute w o d := by
  have h1 := settled_setEscaped F w k o hs
  obtain ⟨h2, h3⟩ := frozen_step_any F _ w' k name r o h1.1 he
  exact ⟨h2, fun d => (h3 d).trans (h1.2 d)⟩

/-- The whole critical section of `t.Execute` on ANY handle of ANY set (set the
    `escaped` flag; analyse if needed; commit or mark failed) keeps an analysed object settled and leaves its execution
    result unchanged — this is `Stable.post_stable` of `Model/Conc` for the API model, under `Settled`. -/
theorem apiExecute_frozen (F : String → Prop) (w : World) (h : Nat) (data : Value) (o : TObj)
    (hs : Settled F w o) :
    Settled F (apiExecute w h data).1 o ∧ ∀ d, textExecute (apiExecute w h data).1 o d = textExecute w o d := by
  rw [show (apiExecute w h data).1 = (ConcApi.critExecute w h).1 by rw [ConcApi.apiExecute_crit]]
  exact ConcApi.critExecute_ind (fun w' => Settled F w' o ∧ ∀ d, textExecute w' o d = textExecute w o d) w h
    ⟨hs, fun _ => rfl⟩ (fun k => settled_setEscaped F w k o hs) (settled_top F w o hs)

theorem apiExecuteTemplate_frozen (F : String → Prop) (w : World) (h : Nat) (name : String) (data : Value) (o : TObj)
    (hs : Settled F w o) :
    Settled F (apiExecuteTemplate w h name data).1 o ∧
    ∀ d, textExecute (apiExecuteTemplate w h name data).1 o d = textExecute w o d := by
  rw [show (apiExecuteTemplate w h name data).1 = (ConcApi.critExecuteTemplate w h name).1 by
    rw [ConcApi.apiExecuteTemplate_crit]]
  exact ConcApi.critExecuteTemplate_ind (fun w' => Settled F w' o ∧ ∀ d, textExecute w' o d = textExecute w o d)
    w h name ⟨hs, fun _ => rfl⟩ (fun k => settled_setEscaped F w k o hs) (settled_top F w o hs)

/-! ### 7. where the frozen set comes from: the template's own successful analysis

After ANY successful analysis — from an arbitrary state, no reachability assumption — the invariant holds with
`F` = all memoized names (`top_preserves` with `Inv.empty`), and the analysed name is memoized. -/

theorem computeOutCtx_memo (env : Env) (f : Nat) (e : Esc) (c : Ctx) (tname : String) (t : Option Tree)
    (r : Esc × Ctx) (h : computeOutCtx env f e c tname t = .ok r) : Memo r.1 tname := by
  cases f with
  | zero => rw [computeOutCtx_zero] at h; cases h
  | succ f =>
    have key : ∀ (e : Esc) (v : Ctx), Memo (setOut e tname v) tname := fun e v => by
      show (alookup (aset _ _ _) _).isSome = true; rw [alookup_aset, if_pos rfl]; rfl
    obtain ⟨e1, c1, ok1, _, h2⟩ := computeOutCtx_ok h
    rcases h2 with ⟨_, rfl⟩ | ⟨_, e2, c2, ok2, _, ⟨_, rfl⟩ | ⟨_, _, rfl⟩ | ⟨_, _, rfl⟩⟩ <;> exact key _ _

theorem escapeTree_memo (env : Env) (f : Nat) (e : Esc) (name : String) (r : Esc × Ctx × String)
    (h : escapeTree env f e {} name = .ok r) (hne : r.2.1.err = none) : Memo r.1 name := by
  cases f with
  | zero => rw [escapeTree_zero] at h; cases h
  | succ f =>
    rcases escapeTree_ok h with ⟨he, _⟩ | ⟨_, out, ho, rfl⟩ | ⟨_, _, _, rfl⟩ | ⟨_, _, tr, e1, c1, _, h1, rfl⟩
    · cases he
    · rw [mangle_default] at ho
      show (alookup e.output name).isSome = true
      rw [ho]; rfl
    · cases hne
    · exact mangle_default name ▸ computeOutCtx_memo _ _ _ _ _ _ _ h1

theorem own_analysis_establishes (w w' : World) (ns : Nat) (name : String)
    (h : escapeTemplateTop w ns name = .inr (w', none)) :
    NsInv (Memo (w'.ns ns).esc) (w'.ns ns) ∧ Memo (w'.ns ns).esc name := by
  refine ⟨(top_preserves _ w w' ns name none (Inv.empty _ _) h).2.2 rfl, ?_⟩
  obtain ⟨env, e1, c, d, _, hesc, hr⟩ := escapeTemplateTop_spec_env w ns name w' none h
  rcases hr with ⟨code, hc, _⟩ | ⟨text2, e2, _, hfin, hc, hns⟩
  · cases hc
  · have hm := escapeTree_memo env _ _ name _ hesc (finalError_none c hfin)
    rw [hns]
    unfold Memo at hm ⊢
    simp only [] at hm ⊢
    rw [(commit_post _ _ _ _ hc).1]
    exact hm

/-- C09 frozen, given a call-closed set of memoized names (`C09_frozen_reachable` removes that hypothesis for
    reachable states). Let `o` be analysed successfully (from any state whatsoever), and let `G` be a
    set of names memoized at that moment that contains `o`'s name and is closed under `{{template}}` calls in the
    committed text set (e.g. the names reachable from `o`). Then no sequence of later analyses in the same set —
    successful, failed, with whatever a failed analysis leaves pending — changes what `o` executes. -/
theorem C09_frozen_after_own_analysis (G : String → Prop) (w0 w1 : World) (ns : Nat) (o : TObj) (d : Value)
    (hons : o.ns = ns) (h : escapeTemplateTop w0 ns o.name = .inr (w1, none))
    (hG : ∀ n, G n → Memo (w1.ns ns).esc n) (hGo : G o.name)
    (hcl : Closed G (w1.ns ns).text) (others : List String) :
    textExecute (analyses ns w1 others) o d = textExecute w1 o d := by
  obtain ⟨hi, _⟩ := own_analysis_establishes w0 w1 ns o.name h
  exact frozen_many G ns o d hons hGo others w1 (Inv.mono hi hG) hcl

/-- the statement of `Props/C09.lean` holds for every world satisfying the invariant for some call-closed frozen set
    containing the object's name (the hypotheses `status = ok`, `registered` are not needed) -/
theorem C09_frozen_under_inv (F : String → Prop) (w w' : World) (ns : Nat) (other : String) (o : TObj) (d : Value)
    (hi : NsInv F (w.ns ns)) (hcl : Closed F (w.ns ns).text) (hF : F o.name)
    (hons : o.ns = ns) (h : escapeTemplateTop w ns other = .inr (w', none)) :
    textExecute w' o d = textExecute w o d :=
  (frozen_step F w w' ns other none o d hi hcl hons hF h).1

/-! ### 8. a checker for the closedness hypothesis -/

mutual
def nodeCallsB (names : List String) : Node → Bool
  | .tmpl _ name _ => names.contains name
  | .ifN _ _ t e => listCallsB names t && listCallsB names e
  | .rangeN _ _ t e => listCallsB names t && listCallsB names e
  | .withN _ _ t e => listCallsB names t && listCallsB names e
  | .text _ _ => true
  | .action _ _ => true
  | .brk _ => true
  | .cont _ => true
  | .comment _ => true
def listCallsB (names : List String) : NodeList → Bool
  | .nil => true
  | .cons n ns => nodeCallsB names n && listCallsB names ns
end

mutual
theorem nodeCallsB_sound (names : List String) : ∀ n, nodeCallsB names n = true → nodeCallsIn (· ∈ names) n
  | .tmpl _ name _, h => by simp only [nodeCallsB, List.contains_iff_mem] at h; simpa only [nodeCallsIn] using h
  | .ifN _ _ t e, h | .rangeN _ _ t e, h | .withN _ _ t e, h => by
    simp only [nodeCallsB, Bool.and_eq_true] at h
    simp only [nodeCallsIn]; exact ⟨listCallsB_sound names t h.1, listCallsB_sound names e h.2⟩
  | .text _ _, _ | .action _ _, _ | .brk _, _ | .cont _, _ | .comment _, _ => by simp only [nodeCallsIn]
theorem listCallsB_sound (names : List String) : ∀ l, listCallsB names l = true → listCallsIn (· ∈ names) l
  | .nil, _ => by simp only [listCallsIn]
  | .cons n ns, h => by
    simp only [listCallsB, Bool.and_eq_true] at h
    simp only [listCallsIn]; exact ⟨nodeCallsB_sound names n h.1, listCallsB_sound names ns h.2⟩
end

/-- executable check of the hypotheses of `C09_frozen_after_own_analysis` for a finite set of names: all are
    memoized, and their installed trees call only names of the set -/
def closedOnB (names : List String) (n : NS) : Bool :=
  names.all fun m => (alookup n.esc.output m).isSome && match n.text.lookup m with
    | some (some tr) => listCallsB names tr.root
    | _ => true

theorem closedOnB_sound (names : List String) (n : NS) (h : closedOnB names n = true) :
    (∀ m, m ∈ names → Memo n.esc m) ∧ Closed (· ∈ names) n.text := by
  unfold closedOnB at h
  simp only [List.all_eq_true, Bool.and_eq_true] at h
  refine ⟨fun m hm => (h m hm).1, ?_⟩
  intro m hm tr htr
  have := (h m hm).2
  rw [htr] at this
  exact listCallsB_sound _ _ this

mutual
def nodeCalls : Node → List String
  | .tmpl _ name _ => [name]
  | .ifN _ _ t e => listCalls t ++ listCalls e
  | .rangeN _ _ t e => listCalls t ++ listCalls e
  | .withN _ _ t e => listCalls t ++ listCalls e
  | _ => []
def listCalls : NodeList → List String
  | .nil => []
  | .cons n ns => nodeCalls n ++ listCalls ns
end

/-- the names reachable from `names` through `{{template}}` calls (fuel = number of rounds) -/
def reach (text : TextSet) : Nat → List String → List String
  | 0, names => names
  | f+1, names =>
    let more := names.flatMap fun m => match text.lookup m with
      | some (some tr) => listCalls tr.root
      | _ => []
    let names' := (names ++ more).eraseDups
    if names'.length == names.length then names else reach text f names'

/-- executable form of the hypotheses for object name `name`: the names reachable from it are memoized and closed.
    `64` bounds the rounds of the closure and matters for completeness only: when it is exhausted `reach` returns a
    list that is not closed, and `closedOnB` rejects it. -/
def frozenHypB (n : NS) (name : String) : Bool := closedOnB (reach n.text 64 [name]) n

/-- `C09_frozen_after_own_analysis` with the hypotheses in executable form: `names` is any list containing `o`'s name
    for which `closedOnB` succeeds in the state right after `o`'s own analysis (e.g. `reach text 64 [o.name]`) -/
theorem C09_frozen_checked (names : List String) (w0 w1 : World) (ns : Nat) (o : TObj) (d : Value)
    (hons : o.ns = ns) (h : escapeTemplateTop w0 ns o.name = .inr (w1, none))
    (hmem : o.name ∈ names) (hchk : closedOnB names (w1.ns ns) = true) (others : List String) :
    textExecute (analyses ns w1 others) o d = textExecute w1 o d := by
  obtain ⟨h1, h2⟩ := closedOnB_sound names (w1.ns ns) hchk
  exact C09_frozen_after_own_analysis (· ∈ names) w0 w1 ns o d hons h h1 hmem h2 others

/-! #### non-vacuity: the hypotheses hold in an ordinary history

`h` is used in element content by `A` and in an attribute by `B`; `bad` ends inside an attribute (its failed analysis
leaves pending edits in the escaper). After `A`'s own analysis the reachable names `A`, `h$htmltemplate_…P` are
memoized and closed, so nothing that happens later — `bad`, `B`, `h` on its own, in any order, any number of times —
changes what `A` executes. -/
namespace Demo

def xPipe : Pipe := { cmds := [{ args := [.field ["X"]] }] }
def dotPipe : Pipe := { cmds := [{ args := [.dot] }] }

def defs : List Tree :=
  [ { name := "root", root := .cons (.text 0 (B "root")) .nil },
    { name := "h", root := .cons (.text 0 (B "<i>")) (.cons (.action 1 xPipe) (.cons (.text 2 (B "</i>")) .nil)) },
    { name := "A", root := .cons (.text 0 (B "<p>")) (.cons (.tmpl 1 "h" (some dotPipe))
        (.cons (.text 2 (B "</p>")) .nil)) },
    { name := "B", root := .cons (.text 0 (B "<a title=\"")) (.cons (.tmpl 1 "h" (some dotPipe))
        (.cons (.text 2 (B "\">x</a>")) .nil)) },
    { name := "bad", root := .cons (.tmpl 0 "h" (some dotPipe)) (.cons (.text 1 (B "<a title=\"")) .nil) } ]

/-- `fuel := 60` instead of the default 100000 keeps the kernel evaluation below cheap; it bounds the recursion depth
    of analysis and execution, and these templates need far less -/
def w0 : World := Api.run { v := liteValidators, fuel := 60 } [ .new 0 "root", .parse 0 defs ]

def names : List String := ["A", "h$htmltemplate_StateText_elementP"]

def check : Bool :=
  match escapeTemplateTop w0 0 "A" with
  | .inr (w1, none) => closedOnB names (w1.ns 0) && reach (w1.ns 0).text 64 ["A"] == names
  | _ => false

theorem check_true : check = true := by decide +kernel

theorem A_frozen : ∃ w1, escapeTemplateTop w0 0 "A" = .inr (w1, none) ∧
    ∀ (o : TObj) (d : Value) (others : List String), o.ns = 0 → o.name = "A" →
      textExecute (analyses 0 w1 others) o d = textExecute w1 o d := by
  have hc := check_true
  unfold check at hc
  split at hc
  · rename_i w1 heq
    simp only [Bool.and_eq_true] at hc
    refine ⟨w1, heq, ?_⟩
    intro o d others hns hname
    apply C09_frozen_checked names w0 w1 0 o d hns (by rw [hname]; exact heq) (by rw [hname]; decide) hc.1
  · cases hc

end Demo

/-! ### 9. the literal statement, and the reachable witness that library commit d3401ea excludes

`C09_frozen_statement` quantifies over ALL worlds, also over states no history can reach. It is false for such a
state (an escaper that holds a derived tree `N` that was never installed, next to an analysed template that calls
`N`): `C09_frozen_statement_false`. The property that holds is the one with a reachability hypothesis, see section 10.

`Old`: a history that is a REACHABLE witness against the property in the library without commit d3401ea (a user-defined
template called `x$htmltemplate_StateError` swallows the error of a call to an undefined template). With the commit
`escapeTree` returns an error context unchanged, before the memo lookup, and the calling template is refused
(`Old.rejected`). -/
namespace Old

def dotPipe : Pipe := { cmds := [{ args := [.dot] }] }
def hAttr : String := "h$htmltemplate_StateAttr_DelimDoubleQuote_attrTitle_elementA"
def xErr : String := "x$htmltemplate_StateError"

def defs : List Tree :=
  [ { name := "root", root := .cons (.text 0 (B "root")) .nil },
    { name := xErr, root := .cons (.text 0 (B "hello")) .nil },
    { name := "h", root := .cons (.action 0 dotPipe) .nil },
    { name := "o", root := .cons (.text 0 (B "A")) (.cons (.tmpl 1 hAttr (some dotPipe))
        (.cons (.text 2 (B "B")) (.cons (.tmpl 3 "x" none) (.cons (.text 4 (B "C")) .nil)))) },
    { name := "other", root := .cons (.text 0 (B "<a title=\"")) (.cons (.tmpl 1 "h" (some dotPipe))
        (.cons (.text 2 (B "\">x</a>")) .nil)) } ]

def w : World := Api.run { v := liteValidators, fuel := 60 } [ .new 0 "root", .parse 0 defs, .execT 0 xErr .noValue ]

/-- the template that calls an undefined template is refused, also after the template named like an error state has
    been executed -/
theorem rejected : (Api.step w (.execT 0 "o" (.str [97]))).2.str = "err:analysis:ErrNoSuchTemplate -" := by
  decide +kernel

end Old

namespace Unreachable

/-- a hand-made name space: `o` (marked analysed) calls `N`; `N` exists only as a never-installed derived tree -/
def w : World :=
  { v := liteValidators, fuel := 60, next := 3,
    objs := [(1, { ns := 0, name := "o", status := .ok, treeNil := false, registered := true }),
             (2, { ns := 0, name := "other", treeNil := false, registered := true })],
    nss := [(0, { set := [("o", 1), ("other", 2)], escaped := true,
                  text := [("o", some { name := "o", root := .cons (.text 0 (B "A")) (.cons (.tmpl 1 "N" none) .nil) }),
                           ("other", some { name := "other", root := .cons (.text 0 (B "x")) .nil })],
                  esc := { derived := [("N", { name := "N", root := .cons (.text 0 (B "n")) .nil })] } })] }

def o : TObj := { ns := 0, name := "o", status := .ok, treeNil := false, registered := true }

def check : Bool :=
  match escapeTemplateTop w 0 "other" with
  | .inr (w', none) => (textExecute w' o .noValue).str != (textExecute w o .noValue).str
  | _ => false

theorem check_true : check = true := by decide +kernel

end Unreachable

theorem C09_frozen_statement_false : ¬ SafeHtml.Props.C09.C09_frozen_statement := by
  intro hst
  have hc := Unreachable.check_true
  unfold Unreachable.check at hc
  split at hc
  · rename_i w' heq
    have := hst Unreachable.w w' 0 "other" Unreachable.o .noValue rfl rfl rfl heq
    rw [this] at hc
    simp at hc
  · cases hc

/-! ## 10. closedness after the object's own analysis -/

/-! ### 10a. error contexts -/

def IsErr (c : Ctx) : Prop := ∃ code, c = Ctx.errorCtx code
def ErrWF (c : Ctx) : Prop := c.state = .error → IsErr c

theorem IsErr.state {c : Ctx} (h : IsErr c) : c.state = .error := by
  obtain ⟨code, rfl⟩ := h; rfl
theorem IsErr.wf {c : Ctx} (h : IsErr c) : ErrWF c := fun _ => h
theorem errwf_errorCtx (code : ErrCode) : ErrWF (Ctx.errorCtx code) := fun _ => ⟨code, rfl⟩
theorem errwf_of_ne {c : Ctx} (h : c.state ≠ .error) : ErrWF c := fun h' => absurd h' h

theorem notSpecial_nil : memKey Generated.Policy.specialElements ([] : Bytes) = false := by decide +kernel

/-- every step to a new context names a state that is no error, or keeps the state of a context with a delimiter -/
theorem errwf_textClosed : TextClosed ErrWF where
  err := errwf_errorCtx
  step := by
    intro c c' hs hc
    cases hs with
    | value s hd => intro he; obtain ⟨code, rfl⟩ := hc he; exact absurd rfl hd
    | tagEnd st _ h => rcases h with rfl | ⟨rfl, _⟩ <;> exact errwf_of_ne (by simp)
    | tagEndVoid st _ h => rcases h with rfl | rfl <;> exact errwf_of_ne (by simp)
    | attrStart st r n _ h => rcases h with rfl | rfl <;> exact errwf_of_ne (by simp)
    | _ => exact errwf_of_ne (by simp)

theorem contextAfterText_isErr (c : Ctx) (s : Bytes) (h : IsErr c) : (contextAfterText c s).1 = c := by
  obtain ⟨code, rfl⟩ := h
  unfold contextAfterText
  have hd : ((Ctx.errorCtx code).delim == Delim.none) = true := rfl
  have hs : tSpecialTagEnd (Ctx.errorCtx code) s = (Ctx.errorCtx code, s.length) := by
    unfold tSpecialTagEnd
    have : (Ctx.errorCtx code).elemName = [] := rfl
    rw [this, notSpecial_nil]; rfl
  rw [if_pos hd, hs]
  dsimp only
  split <;> rfl

theorem escapeText_post (csp : Bool) (c : Ctx) (s : Bytes) (c' : Ctx) (nt : Option Bytes)
    (h : escapeText csp c s = .done c' nt) (hwf : ErrWF c) : ErrWF c' ∧ (IsErr c → IsErr c') :=
  escapeText_inv (fun c' => ErrWF c' ∧ (IsErr c → IsErr c'))
    (fun code => ⟨errwf_errorCtx code, fun _ => ⟨code, rfl⟩⟩)
    (fun d s hd => ⟨contextAfterText_closed errwf_textClosed d s hd.1,
      fun hc => by rw [contextAfterText_isErr d s (hd.2 hc)]; exact hd.2 hc⟩)
    h ⟨hwf, id⟩

theorem join_isErr (a b : Ctx) (h : IsErr a) : join a b = a := by
  unfold join joinCore
  have : (a.state == State.error) = true := by rw [h.state]; rfl
  rw [if_pos this]

theorem join_errwf (a b : Ctx) (ha : ErrWF a) (hb : ErrWF b) : ErrWF (join a b) := by
  rcases join_cases a b with h | h | h | ⟨a0, b0, _, ha0, _, h, _⟩ <;> rw [h]
  · exact ha
  · exact hb
  · exact errwf_errorCtx _
  · exact errwf_of_ne ha0

theorem errwf_closed : CtxClosed ErrWF :=
  { errwf_textClosed with attrName := fun _ _ => errwf_of_ne (by simp), join := fun ha hb => join_errwf _ _ ha hb }

/-! ### 10b. association lists whose keys determine the values -/

def Same {β} (l : List (String × β)) : Prop := ∀ p ∈ l, ∀ q ∈ l, p.1 = q.1 → p.2 = q.2

theorem same_nil {β} : Same ([] : List (String × β)) := fun _ h => nomatch h

theorem alookup_of_mem {β} (l : List (String × β)) (hs : Same l) (p : String × β) (h : p ∈ l) :
    alookup l p.1 = some p.2 := by
  have h1 := alookup_isSome_of_mem l p h
  cases h2 : alookup l p.1 with
  | none => rw [h2] at h1; cases h1
  | some v => exact congrArg some (hs _ (mem_of_alookup l p.1 v h2) p h rfl)


theorem same_aset {β} (l : List (String × β)) (k : String) (v : β) (h : Same l) : Same (aset l k v) := by
  intro p hp q hq hpq
  rcases mem_aset_cases hp with ⟨hp1, hp2⟩ | rfl
  · rcases mem_aset_cases hq with ⟨hq1, _⟩ | rfl
    · exact h p hp1 q hq1 hpq
    · exact absurd hpq hp2
  · rcases mem_aset_cases hq with ⟨_, hq2⟩ | rfl
    · exact absurd hpq.symm hq2
    · rfl

theorem same_foldl_aset {β} (l : List (String × β)) : ∀ acc : List (String × β), Same acc →
    Same (l.foldl (fun acc p => aset acc p.1 p.2) acc) :=
  fun acc h => foldl_ind (P := Same) l acc h fun q _ x hx => same_aset x q.1 q.2 hx

theorem alookup_foldl_aset_mem {β} (l : List (String × β)) (n : String) (v : β) (base : List (String × β))
    (hs : Same l) (hm : (n, v) ∈ l) : alookup (l.foldl (fun a p => aset a p.1 p.2) base) n = some v := by
  have hs' : Same l.reverse := fun p hp q hq => hs p (List.mem_reverse.mp hp) q (List.mem_reverse.mp hq)
  rw [alookup_foldl_aset, alookup_of_mem l.reverse hs' (n, v) (List.mem_reverse.mpr hm)]; rfl

/-! ### 10c. coverage: every `{{template}}` node of an analysed tree will call a memoized name after the commit

`M0` (in `Rel`, `Pre2`, `Post2`) = the names memoized when the current body frame started: coverage is owed only for
names memoized since. `S` in `Stp S` = the template whose body is being walked: the only memoized name that may still
receive template edits. `DMx d`: every derived tree but that of `d` belongs to a memoized name — the derived tree for
`d` is inserted before `d` is memoized. -/

/-- memoized with a context that is not the error context -/
def MemoOk (e : Esc) (n : String) : Prop := ∃ c, alookup e.output n = some c ∧ c.state ≠ .error
def HasEdit (e : Esc) (tn : String) (id : Nat) : Prop := ∃ q ∈ e.tmplEdits, q.1 = (tn, id)
/-- after the commit, node `id` of template `tn` (now calling `name`) calls a memoized name -/
def Cov (e : Esc) (tn : String) (id : Nat) (name : String) : Prop := HasEdit e tn id ∨ MemoOk e name
def EditsOk (e : Esc) (tn : String) : Prop := ∀ q ∈ e.tmplEdits, q.1.1 = tn → MemoOk e q.2
/-- the trees a commit may install under the name `n` -/
def TreeOf (text : TextSet) (e : Esc) (n : String) (tr : Tree) : Prop :=
  text.lookup n = some (some tr) ∨ (n, tr) ∈ e.derived
def Covered (text : TextSet) (e : Esc) (n : String) : Prop :=
  EditsOk e n ∧ ∀ tr, TreeOf text e n tr → listAll (Cov e n) tr.root

def Base (text : TextSet) (e : Esc) : Prop :=
  Same e.output ∧ Same e.derived ∧
  (∀ p ∈ e.derived, text.lookup p.1 = none ∨ text.lookup p.1 = some (some p.2)) ∧
  (∀ n c, alookup e.output n = some c → ErrWF c) ∧
  (∀ q ∈ e.tmplEdits, Memo e q.1.1)
def DM (e : Esc) : Prop := ∀ p ∈ e.derived, Memo e p.1
def DMx (tn : String) (e : Esc) : Prop := ∀ p ∈ e.derived, p.1 ≠ tn → Memo e p.1
def Rel (text : TextSet) (M0 : String → Prop) (e : Esc) : Prop :=
  ∀ n, MemoOk e n → ¬ M0 n → Covered text e n

def Ext (e e' : Esc) : Prop :=
  (∀ n v, alookup e.output n = some v → alookup e'.output n = some v) ∧ (∀ q ∈ e.tmplEdits, q ∈ e'.tmplEdits)
def NewD (e e' : Esc) : Prop := ∀ p ∈ e'.derived, Memo e p.1 → p ∈ e.derived
def NewE (S : String → Prop) (e e' : Esc) : Prop :=
  ∀ q ∈ e'.tmplEdits, q ∈ e.tmplEdits ∨ S q.1.1 ∨ ¬ Memo e q.1.1
def Stp (S : String → Prop) (e e' : Esc) : Prop := Ext e e' ∧ NewD e e' ∧ NewE S e e'

theorem MemoOk.memo {e : Esc} {n : String} (h : MemoOk e n) : Memo e n := by
  obtain ⟨c, hc, _⟩ := h; unfold Memo; rw [hc]; rfl

theorem Ext.memo {e e' : Esc} (h : Ext e e') {n : String} (hm : Memo e n) : Memo e' n := by
  unfold Memo at hm ⊢
  cases hv : alookup e.output n with
  | none => rw [hv] at hm; cases hm
  | some v => rw [h.1 n v hv]; rfl

theorem Ext.memoOk {e e' : Esc} (h : Ext e e') {n : String} (hm : MemoOk e n) : MemoOk e' n := by
  obtain ⟨c, hc, hne⟩ := hm; exact ⟨c, h.1 n c hc, hne⟩

theorem Ext.memoOk_back {e e' : Esc} (h : Ext e e') {n : String} (hm : Memo e n) (hok : MemoOk e' n) : MemoOk e n := by
  unfold Memo at hm
  cases hv : alookup e.output n with
  | none => rw [hv] at hm; cases hm
  | some v =>
    obtain ⟨c, hc, hne⟩ := hok
    rw [h.1 n v hv] at hc
    cases hc
    exact ⟨v, hv, hne⟩

theorem Stp.refl (S : String → Prop) (e : Esc) : Stp S e e :=
  ⟨⟨fun _ _ h => h, fun _ h => h⟩, fun _ h _ => h, fun _ h => .inl h⟩

theorem Stp.trans {S : String → Prop} {e e1 e2 : Esc} (h1 : Stp S e e1) (h2 : Stp S e1 e2) : Stp S e e2 := by
  refine ⟨⟨fun n v h => h2.1.1 n v (h1.1.1 n v h), fun q h => h2.1.2 q (h1.1.2 q h)⟩, ?_, ?_⟩
  · intro p hp hm
    exact h1.2.1 p (h2.2.1 p hp (h1.1.memo hm)) hm
  · intro q hq
    rcases h2.2.2 q hq with h | h | h
    · exact h1.2.2 q h
    · exact .inr (.inl h)
    · exact .inr (.inr (fun hm => h (h1.1.memo hm)))

theorem Stp.weaken {S S' : String → Prop} {e e' : Esc} (h : Stp S e e') (hs : ∀ n, S n → S' n) : Stp S' e e' :=
  ⟨h.1, h.2.1, fun q hq => by
    rcases h.2.2 q hq with h | h | h
    · exact .inl h
    · exact .inr (.inl (hs _ h))
    · exact .inr (.inr h)⟩

theorem cov_mono {e e' : Esc} (hx : Ext e e') (tn : String) : ∀ i n, Cov e tn i n → Cov e' tn i n := by
  intro i n h
  rcases h with ⟨q, hq, hk⟩ | h
  · exact .inl ⟨q, hx.2 q hq, hk⟩
  · exact .inr (hx.memoOk h)

theorem Covered.transfer {text : TextSet} {e e' : Esc} {n : String} (hc : Covered text e n)
    (hok : ∀ m, MemoOk e m → MemoOk e' m) (hed : ∀ q ∈ e.tmplEdits, q ∈ e'.tmplEdits)
    (hnew : ∀ q ∈ e'.tmplEdits, q.1.1 = n → q ∈ e.tmplEdits)
    (htr : ∀ tr, TreeOf text e' n tr → TreeOf text e n tr) : Covered text e' n :=
  ⟨fun q hq hk => hok _ (hc.1 q (hnew q hq hk) hk), fun tr ht =>
    listAll_mono (fun _ m h => h.imp (fun ⟨q, hq, hk⟩ => ⟨q, hed q hq, hk⟩) (hok m)) _ (hc.2 tr (htr tr ht))⟩

theorem covered_transfer {text : TextSet} {S : String → Prop} {e e' : Esc} {n : String}
    (hc : Covered text e n) (hs : Stp S e e') (hm : Memo e n) (hnS : ¬ S n) : Covered text e' n := by
  refine hc.transfer (fun _ => hs.1.memoOk) hs.1.2 (fun q hq hk => ?_) (fun tr ht => ht.imp_right (hs.2.1 _ · hm))
  rcases hs.2.2 q hq with h | h | h
  · exact h
  · rw [hk] at h; exact absurd h hnS
  · rw [hk] at h; exact absurd hm h

theorem rel_step {text : TextSet} {M0 S : String → Prop} {e e' : Esc}
    (hr : Rel text M0 e) (hs : Stp S e e') (hS : ∀ n, S n → M0 n)
    (hnew : ∀ n, ¬ Memo e n → MemoOk e' n → ¬ M0 n → Covered text e' n) : Rel text M0 e' := by
  intro n hok hn0
  by_cases hm : Memo e n
  · exact covered_transfer (hr n (hs.1.memoOk_back hm hok) hn0) hs hm (fun h => hn0 (hS n h))
  · exact hnew n hm hok hn0


def Pre2 (text : TextSet) (M0 : String → Prop) (e : Esc) : Prop :=
  Base text e ∧ DM e ∧ Rel text M0 e ∧ ∀ n, M0 n → Memo e n
def Post2 (text : TextSet) (M0 S : String → Prop) (e e' : Esc) : Prop := Pre2 text M0 e' ∧ Stp S e e'

/-- the three fields everything here depends on -/
def CoreEq (e e' : Esc) : Prop := e'.output = e.output ∧ e'.tmplEdits = e.tmplEdits ∧ e'.derived = e.derived

theorem CoreEq.of_eq {e e' : Esc} (h : CoreEq e e') :
    ∃ (a : List String) (b : List (EditKey × List String)) (c : List (EditKey × Bytes)) (d : List (String × Tree))
      (m : List (String × Bytes × Bool)) (p : Bool),
      e' = { e with called := a, actionEdits := b, textEdits := c, pristine := d, memoPrefix := m, prefixReuse := p } := by
  obtain ⟨h1, h2, h3⟩ := h
  refine ⟨e'.called, e'.actionEdits, e'.textEdits, e'.pristine, e'.memoPrefix, e'.prefixReuse, ?_⟩
  cases e'; cases e
  simp only [] at h1 h2 h3
  subst h1 h2 h3
  rfl

theorem pre2_core {text : TextSet} {M0 : String → Prop} {e e' : Esc} (h : CoreEq e e') (hp : Pre2 text M0 e) :
    Pre2 text M0 e' := by
  obtain ⟨a, b, c, d, m, p, rfl⟩ := h.of_eq
  exact hp

theorem stp_core {S : String → Prop} {e e' : Esc} (h : CoreEq e e') : Stp S e e' := by
  obtain ⟨a, b, c, d, m, p, rfl⟩ := h.of_eq
  exact Stp.refl S e

theorem editsOk_core {e e' : Esc} (h : CoreEq e e') (tn : String) (hp : EditsOk e tn) : EditsOk e' tn := by
  obtain ⟨a, b, c, d, m, p, rfl⟩ := h.of_eq
  exact hp

theorem post2_core {text : TextSet} {M0 S : String → Prop} {e e' : Esc} (h : CoreEq e e') (hp : Pre2 text M0 e) :
    Post2 text M0 S e e' := ⟨pre2_core h hp, stp_core h⟩

theorem escapeAction_core (env : Env) (tn : String) (e : Esc) (c : Ctx) (id : Nat) (p : Pipe) (r : Esc × Ctx)
    (h : escapeAction env tn e c id p = .ok r) (hc : ErrWF c) :
    CoreEq e r.1 ∧ ErrWF r.2 ∧ (c.state = .error → r.2.state = .error) := by
  refine ⟨?_, escapeAction_closed errwf_closed h hc, fun he => ?_⟩
  · rcases escapeAction_ok h with h1 | ⟨s, h1⟩ <;> rw [h1] <;> exact ⟨rfl, rfl, rfl⟩
  · rcases escapeAction_error env tn e id p he with h1 | ⟨c', h1, hc'⟩ <;> rw [h1] at h <;> cases h
    exact hc'

theorem escapeTextNode_core (env : Env) (tn : String) (e : Esc) (c : Ctx) (id : Nat) (b : Bytes) (r : Esc × Ctx)
    (h : escapeTextNode env tn e c id b = .ok r) (hc : ErrWF c) :
    CoreEq e r.1 ∧ ErrWF r.2 ∧ (c.state = .error → r.2.state = .error) := by
  have hr : CoreEq e r.1 := by
    rcases escapeTextNode_ok h with h1 | ⟨s, h1⟩ <;> rw [h1] <;> exact ⟨rfl, rfl, rfl⟩
  rcases escapeTextNode_cases env tn e c id b with ⟨_, h1⟩ | ⟨c', ht, h1⟩ | ⟨c', nb, ht, h1⟩ <;> rw [h1] at h
  · cases h
  · cases h
    obtain ⟨h1, h2⟩ := escapeText_post _ _ _ _ _ ht hc
    exact ⟨hr, h1, fun he => (h2 (hc he)).state⟩
  · obtain ⟨e1, _, h4⟩ := bind_ok h
    cases h4
    obtain ⟨h1, h2⟩ := escapeText_post _ _ _ _ _ ht hc
    exact ⟨hr, h1, fun he => (h2 (hc he)).state⟩

def NoS : String → Prop := fun _ => False

def NodeSpec (env : Env) (f : Nat) : Prop :=
  ∀ (M0 : String → Prop) tn e c n r, Pre2 env.text M0 e → M0 tn → ErrWF c → escapeNode env f tn e c n = .ok r →
    Post2 env.text M0 (· = tn) e r.1 ∧ ErrWF r.2 ∧ (c.state = .error → r.2.state = .error) ∧
    (r.2.state ≠ .error → EditsOk e tn → EditsOk r.1 tn ∧ nodeAll (Cov r.1 tn) n)
def ListSpec (env : Env) (f : Nat) : Prop :=
  ∀ (M0 : String → Prop) tn e c l r, Pre2 env.text M0 e → M0 tn → ErrWF c → escapeList env f tn e c l = .ok r →
    Post2 env.text M0 (· = tn) e r.1 ∧ ErrWF r.2 ∧ (c.state = .error → r.2.state = .error) ∧
    (r.2.state ≠ .error → EditsOk e tn → EditsOk r.1 tn ∧ listAll (Cov r.1 tn) l)
def BranchSpec (env : Env) (f : Nat) : Prop :=
  ∀ (M0 : String → Prop) tn e c t el b r, Pre2 env.text M0 e → M0 tn → ErrWF c →
    escapeBranch env f tn e c t el b = .ok r →
    Post2 env.text M0 (· = tn) e r.1 ∧ ErrWF r.2 ∧ (c.state = .error → r.2.state = .error) ∧
    (r.2.state ≠ .error → EditsOk e tn → EditsOk r.1 tn ∧ listAll (Cov r.1 tn) t ∧ listAll (Cov r.1 tn) el)
def TreeSpec (env : Env) (f : Nat) : Prop :=
  ∀ (M0 : String → Prop) e c name r, Pre2 env.text M0 e → ErrWF c → escapeTree env f e c name = .ok r →
    Post2 env.text M0 NoS e r.1 ∧ ErrWF r.2.1 ∧ (c.state = .error → r.2.1.state = .error) ∧
    (r.2.1.state ≠ .error → MemoOk r.1 r.2.2)

theorem Post2.trans {text : TextSet} {M0 S : String → Prop} {e e1 e2 : Esc}
    (h1 : Post2 text M0 S e e1) (h2 : Post2 text M0 S e1 e2) : Post2 text M0 S e e2 :=
  ⟨h2.1, h1.2.trans h2.2⟩

theorem list_spec_succ {env f} (hn : NodeSpec env f) (hl : ListSpec env f) : ListSpec env (f + 1) := by
  intro M0 tn e c l r hp htn hc h
  cases l with
  | nil =>
    rw [escapeList_nil] at h; cases h
    exact ⟨⟨hp, Stp.refl _ _⟩, hc, fun h => h, fun _ he => ⟨he, by simp only [listAll]⟩⟩
  | cons n ns =>
    obtain ⟨e1, c1, h1, h2⟩ := escapeList_cons_ok h
    obtain ⟨p1, w1, s1, k1⟩ := hn M0 tn e c n (e1, c1) hp htn hc h1
    obtain ⟨p2, w2, s2, k2⟩ := hl M0 tn e1 c1 ns r p1.1 htn w1 h2
    refine ⟨p1.trans p2, w2, fun he => s2 (s1 he), ?_⟩
    intro hne he
    have hne1 : c1.state ≠ .error := fun he1 => hne (s2 he1)
    obtain ⟨a1, a2⟩ := k1 hne1 he
    obtain ⟨b1, b2⟩ := k2 hne a1
    simp only [listAll]
    exact ⟨b1, nodeAll_mono (cov_mono p2.2.1 tn) _ a2, b2⟩

theorem join_ne (a b : Ctx) (h : (join a b).state ≠ .error) : a.state ≠ .error ∧ b.state ≠ .error := by
  unfold join at h
  rw [joinCore_eq] at h
  by_cases h1 : (a.state == State.error) = true
  · rw [if_pos h1] at h; exact absurd (by simpa using h1) h
  · rw [if_neg h1] at h
    by_cases h2 : (b.state == State.error) = true
    · rw [if_pos h2] at h; exact absurd (by simpa using h2) h
    · exact ⟨by simpa using h1, by simpa using h2⟩

/-- the scratch escapers start from the memo only: relative to "everything memoized so far" nothing is owed -/
theorem pre2_scratch {text : TextSet} (e : Esc) (hb : Base text e) : Pre2 text (Memo (scratch e)) (scratch e) := by
  obtain ⟨b1, _, _, b4, _⟩ := hb
  refine ⟨⟨b1, same_nil, fun _ h => (nomatch h), b4, fun _ h => (nomatch h)⟩, fun _ h => (nomatch h), ?_, fun _ h => h⟩
  intro n hok hn
  exact absurd hok.memo hn

theorem branch_spec_succ {env f} (hl : ListSpec env f) : BranchSpec env (f + 1) := by
  intro M0 tn e c t el b r hp htn hc h
  obtain ⟨e1, c0, h1, h2⟩ := escapeBranch_ok h
  obtain ⟨p1, w0, s0, k0⟩ := hl M0 tn e c t (e1, c0) hp htn hc h1
  -- the else-list, whose end context is joined onto `j`
  have tail : ∀ j e2 c2, ErrWF j → (j.state ≠ .error → c0.state ≠ .error) →
      escapeList env f tn e1 c el = .ok (e2, c2) →
      Post2 env.text M0 (· = tn) e e2 ∧ ErrWF (join j c2) ∧ ((join j c2).state ≠ .error → EditsOk e tn →
        EditsOk e2 tn ∧ listAll (Cov e2 tn) t ∧ listAll (Cov e2 tn) el) := by
    intro j e2 c2 wj hj h7
    obtain ⟨p2, w1, _, k1⟩ := hl M0 tn e1 c el (e2, c2) p1.1 htn hc h7
    refine ⟨p1.trans p2, join_errwf _ _ wj w1, fun hne he => ?_⟩
    obtain ⟨hj0, hc1⟩ := join_ne _ _ hne
    obtain ⟨a1, a2⟩ := k0 (hj hj0) he
    obtain ⟨b1, b2⟩ := k1 hc1 a1
    exact ⟨b1, listAll_mono (cov_mono p2.2.1 tn) _ a2, b2⟩
  rcases h2 with ⟨hcond, es, c1', h5, h4⟩ | ⟨_, e2, c2, h7, rfl⟩
  · -- the re-entry check ran: `c0`, hence `c`, is no error context
    have hc0 : c0.state ≠ .error := by
      simp only [Bool.and_eq_true, bne_iff_ne, ne_eq] at hcond; exact hcond.2
    have hcne : c.state ≠ .error := fun he => hc0 (s0 he)
    have ws := (hl _ tn _ c0 t (es, c1') (pre2_scratch e1 p1.1.1) (p1.1.2.2.2 tn htn) w0 h5).2.1
    have wj : ErrWF (join c0 c1') := join_errwf _ _ w0 ws
    rcases h4 with ⟨hje, rfl⟩ | ⟨_, e2, c2, h7, rfl⟩
    · exact ⟨p1, wj, fun he => absurd he hcne, fun hne => absurd hje hne⟩
    · obtain ⟨q, w, k⟩ := tail _ e2 c2 wj (fun _ => hc0) h7
      exact ⟨q, w, fun he => absurd he hcne, k⟩
  · obtain ⟨q, w, k⟩ := tail c0 e2 c2 w0 id h7
    refine ⟨q, w, fun he => ?_, k⟩
    show (join c0 c2).state = .error
    rw [join_isErr _ _ (w0 (s0 he))]; exact s0 he

theorem editsOk_after_tree {M0 : String → Prop} {text : TextSet} {e e1 : Esc} {tn : String}
    (hp : Pre2 text M0 e) (htn : M0 tn) (hs : Stp NoS e e1) (he : EditsOk e tn) : EditsOk e1 tn := by
  intro q hq hk
  rcases hs.2.2 q hq with h | h | h
  · exact hs.1.memoOk (he q h hk)
  · exact h.elim
  · rw [hk] at h; exact absurd (hp.2.2.2 tn htn) h

theorem node_spec_succ {env f} (hb : BranchSpec env f) (ht : TreeSpec env f) : NodeSpec env (f + 1) := by
  intro M0 tn e c n r hp htn hc h
  cases n with
  | action id p =>
    rw [escapeNode_action] at h
    obtain ⟨h1, h2, h3⟩ := escapeAction_core env tn e c id p r h hc
    exact ⟨post2_core h1 hp, h2, h3, fun _ he => ⟨editsOk_core h1 tn he, by simp only [nodeAll]⟩⟩
  | text id b =>
    rw [escapeNode_text] at h
    obtain ⟨h1, h2, h3⟩ := escapeTextNode_core env tn e c id b r h hc
    exact ⟨post2_core h1 hp, h2, h3, fun _ he => ⟨editsOk_core h1 tn he, by simp only [nodeAll]⟩⟩
  | ifN id p t el =>
    rw [escapeNode_if] at h
    obtain ⟨h1, h2, h3, h4⟩ := hb M0 tn e c t el false r hp htn hc h
    exact ⟨h1, h2, h3, fun hne he => by simp only [nodeAll]; exact h4 hne he⟩
  | withN id p t el =>
    rw [escapeNode_with] at h
    obtain ⟨h1, h2, h3, h4⟩ := hb M0 tn e c t el false r hp htn hc h
    exact ⟨h1, h2, h3, fun hne he => by simp only [nodeAll]; exact h4 hne he⟩
  | rangeN id p t el =>
    rw [escapeNode_range] at h
    obtain ⟨h1, h2, h3, h4⟩ := hb M0 tn e c t el true r hp htn hc h
    exact ⟨h1, h2, h3, fun hne he => by simp only [nodeAll]; exact h4 hne he⟩
  | brk id =>
    rw [escapeNode_brk] at h; cases h
    exact ⟨⟨hp, Stp.refl _ _⟩, errwf_errorCtx _, fun _ => rfl, fun hne => absurd rfl hne⟩
  | cont id =>
    rw [escapeNode_cont] at h; cases h
    exact ⟨⟨hp, Stp.refl _ _⟩, errwf_errorCtx _, fun _ => rfl, fun hne => absurd rfl hne⟩
  | comment id =>
    rw [escapeNode_comment] at h; cases h
    exact ⟨⟨hp, Stp.refl _ _⟩, errwf_errorCtx _, fun _ => rfl, fun hne => absurd rfl hne⟩
  | tmpl id name p =>
    obtain ⟨e1, dname, h1, h2⟩ := escapeNode_tmpl_ok h
    obtain ⟨p1, w1, s1, k1⟩ := ht M0 e c name (e1, r.2, dname) hp hc h1
    have p1' : Post2 env.text M0 (· = tn) e e1 := ⟨p1.1, p1.2.weaken (fun _ h => h.elim)⟩
    have he1 := editsOk_after_tree hp htn p1.2
    rcases h2 with ⟨hdn, h2⟩ | ⟨_, h2⟩
    · rw [h2]
      exact ⟨p1', w1, s1, fun hne he => ⟨he1 he, by simp only [nodeAll]; exact .inr (hdn ▸ k1 hne)⟩⟩
    · -- one more template edit, keyed by `(tn, id)`
      rw [(editTmpl_ok h2).1]
      have hstp : Stp (· = tn) e1 { e1 with tmplEdits := e1.tmplEdits ++ [((tn, id), dname)] } :=
        ⟨⟨fun _ _ h => h, fun q hq => List.mem_append_left _ hq⟩, fun _ hq _ => hq,
          forall_mem_snoc (fun q hq => .inl hq) (.inr (.inl rfl))⟩
      have hpre : Pre2 env.text M0 { e1 with tmplEdits := e1.tmplEdits ++ [((tn, id), dname)] } := by
        obtain ⟨⟨b1, b2, b3, b4, b5⟩, hdm, hrel, hm0⟩ := p1.1
        exact ⟨⟨b1, b2, b3, b4, forall_mem_snoc b5 (hm0 tn htn)⟩, hdm,
          rel_step hrel hstp (fun n hn => hn ▸ htn) (fun n hn hok _ => absurd hok.memo hn), hm0⟩
      refine ⟨p1'.trans ⟨hpre, hstp⟩, w1, s1, fun hne he => ⟨?_, ?_⟩⟩
      · intro q hq hk
        rcases List.mem_append.mp hq with hq | hq
        · exact hstp.1.memoOk (he1 he q hq hk)
        · rw [List.mem_singleton.mp hq]; exact hstp.1.memoOk (k1 hne)
      · simp only [nodeAll]
        exact .inl ⟨((tn, id), dname), List.mem_append_right _ (List.mem_singleton.mpr rfl), rfl⟩

theorem alookup_foldl_aset_ext {β} {base l : List (String × β)} (hs : Same l)
    (hext : ∀ n v, alookup base n = some v → alookup l n = some v) (n : String) :
    alookup (l.foldl (fun acc p => aset acc p.1 p.2) base) n = alookup l n := by
  cases hl : alookup l n with
  | some v => exact alookup_foldl_aset_mem l n v base hs (mem_of_alookup l n v hl)
  | none =>
    rw [alookup_foldl_aset_other l n base (alookup_eq_none.mp hl)]
    cases hb : alookup base n with
    | none => rfl
    | some v => rw [hext n v hb] at hl; cases hl

theorem memo_congr {e e' : Esc} (h : ∀ n, alookup e'.output n = alookup e.output n) {n : String} :
    Memo e' n ↔ Memo e n := by unfold Memo; rw [h]

theorem memoOk_congr {e e' : Esc} (h : ∀ n, alookup e'.output n = alookup e.output n) {n : String} :
    MemoOk e' n ↔ MemoOk e n := by unfold MemoOk; rw [h]

def TreeIs (text : TextSet) (e : Esc) (tname : String) (t : Option Tree) : Prop :=
  ∀ tr, TreeOf text e tname tr → t = some tr
def ExtX (tname : String) (e e' : Esc) : Prop :=
  (∀ n v, n ≠ tname → alookup e.output n = some v → alookup e'.output n = some v) ∧
  (∀ q ∈ e.tmplEdits, q ∈ e'.tmplEdits)

def BodySpec (env : Env) (f : Nat) : Prop :=
  ∀ (M0 : String → Prop) e c tname t r,
    Base env.text e → DMx tname e → Rel env.text (fun n => M0 n ∨ n = tname) e → (∀ n, M0 n → Memo e n) →
    ¬ M0 tname → (∀ q ∈ e.tmplEdits, q.1.1 ≠ tname) → TreeIs env.text e tname t → ErrWF c →
    escapeTemplateBody env f e c tname t = .ok r →
    Base env.text r.1 ∧ DM r.1 ∧ ErrWF r.2.1 ∧ ExtX tname e r.1 ∧ NewD e r.1 ∧ NewE (· = tname) e r.1 ∧
    (r.2.2 = true → Rel env.text M0 r.1 ∧ c.state ≠ .error ∧ r.2.1.state ≠ .error ∧
        alookup r.1.output tname = some c) ∧
    (r.2.2 = false → r.1.output = aset e.output tname c ∧ r.1.tmplEdits = e.tmplEdits ∧ r.1.derived = e.derived)

theorem base_setOutput {text : TextSet} (e : Esc) (k : String) (v : Ctx) (hb : Base text e) (hv : ErrWF v) :
    Base text { e with output := aset e.output k v } := by
  obtain ⟨b1, b2, b3, b4, b5⟩ := hb
  refine ⟨same_aset _ _ _ b1, b2, b3, ?_, ?_⟩
  · intro n c hc
    rw [alookup_aset] at hc
    split at hc
    · cases hc; exact hv
    · exact b4 n c hc
  · intro q hq
    exact isSome_aset _ _ _ _ (b5 q hq)


theorem body_spec_succ {env f} (hl : ListSpec env f) : BodySpec env (f + 1) := by
  intro M0 e c tname t r hb hdm hrel hm0 hn0 hnoed htree hc h
  obtain ⟨tr, e1, c1, rfl, h1, h2⟩ := escapeTemplateBody_ok h
  have hb0 : Base env.text (setOut e tname c) := base_setOutput e tname c hb hc
  have hlk0 : alookup (aset e.output tname c) tname = some c := by rw [alookup_aset, if_pos rfl]
  have hmt : Memo (scratch (setOut e tname c)) tname := by unfold Memo; exact hlk0 ▸ rfl
  obtain ⟨⟨⟨hb1, hdm1, hrel1, _⟩, ⟨hext1, _⟩, hnd1, hne1⟩, w1, s1, k1⟩ :=
    hl _ tname _ c tr.root (e1, c1) (pre2_scratch _ hb0) hmt hc h1
  have hMs : ∀ n, Memo e n → Memo (scratch (setOut e tname c)) n := fun n hn => isSome_aset _ _ _ _ hn
  have hdm0 : DM (setOut e tname c) := fun p hp => by
    by_cases hpt : p.1 = tname
    · exact hpt ▸ hmt
    · exact hMs _ (hdm p hp hpt)
  have hx0 : ∀ n v, n ≠ tname → alookup e.output n = some v → alookup (aset e.output tname c) n = some v :=
    fun n v hnt hv => by rw [alookup_aset, if_neg hnt]; exact hv
  rcases h2 with ⟨hok, _, _, _, rfl⟩ | ⟨_, rfl⟩
  · have hc1 : c1.state ≠ .error := by
      simp only [bodyOk, Bool.and_eq_true, bne_iff_ne, ne_eq] at hok; exact hok.1
    have hcne : c.state ≠ .error := fun he => hc1 (s1 he)
    obtain ⟨hE1, hcov⟩ := k1 hc1 (fun _ hq => nomatch hq)
    -- the merged escaper `m`: its memo looks up like the one the body left, its template edits are those of
    -- `e` followed by the body's, its derived trees come from `e` or from the body
    generalize hm : merge (setOut e tname c) e1 _ (e.tmplEdits ++ e1.tmplEdits) _ = m
    have hlk : ∀ n, alookup m.output n = alookup e1.output n :=
      fun n => hm ▸ alookup_foldl_aset_ext hb1.1 hext1 n
    have hte : m.tmplEdits = e.tmplEdits ++ e1.tmplEdits := hm ▸ rfl
    have hder : ∀ p ∈ m.derived, p ∈ e.derived ∨ p ∈ e1.derived := fun p hp => mem_foldl_aset _ _ p (by rw [← hm] at hp; exact hp)
    have up1 : ∀ n, Memo e1 n → Memo m n := fun n => (memo_congr hlk).mpr
    have up0 : ∀ n, Memo e n → Memo m n := fun n hn => up1 n (Ext.memo ⟨hext1, fun _ h => nomatch h⟩ (hMs n hn))
    have ok1 : ∀ n, MemoOk e1 n → MemoOk m n := fun n => (memoOk_congr hlk).mpr
    have htn' : alookup m.output tname = some c := by rw [hlk]; exact hext1 _ _ hlk0
    have ok0 : ∀ n, MemoOk e n → MemoOk m n := fun n ⟨v, hv, hne⟩ => by
      by_cases hnt : n = tname
      · exact hnt ▸ ⟨c, htn', hcne⟩
      · exact ok1 n ⟨v, hext1 n v (hx0 n v hnt hv), hne⟩
    -- nothing the body derived or edited concerns a name memoized before
    have nd1 : ∀ p ∈ e1.derived, ¬ Memo (scratch (setOut e tname c)) p.1 := fun p hp hm => nomatch hnd1 p hp hm
    refine ⟨⟨hm ▸ same_foldl_aset _ _ hb0.1, hm ▸ same_foldl_aset _ _ hb.2.1, ?_, ?_, ?_⟩, ?_, w1, ⟨?_, ?_⟩, ?_, ?_,
      fun _ => ⟨?_, hcne, hc1, htn'⟩, fun hf => nomatch hf⟩
    · exact fun p hp => (hder p hp).elim (hb.2.2.1 p) (hb1.2.2.1 p)
    · exact fun n c' hc' => hb1.2.2.2.1 n c' (hlk n ▸ hc')
    · rw [hte]
      exact forall_mem_append (fun q hq => up0 _ (hb.2.2.2.2 q hq)) (fun q hq => up1 _ (hb1.2.2.2.2 q hq))
    · exact fun p hp => (hder p hp).elim (fun hp => (memo_congr hlk).mpr (Ext.memo ⟨hext1, fun _ h => nomatch h⟩
        (hdm0 p hp))) (fun hp => up1 _ (hdm1 p hp))
    · exact fun n v hnt hv => by rw [hlk]; exact hext1 n v (hx0 n v hnt hv)
    · rw [hte]; exact fun q hq => List.mem_append_left _ hq
    · exact fun p hp hm => (hder p hp).elim id (fun hp => absurd (hMs _ hm) (nd1 p hp))
    · show NewE _ e m
      unfold NewE
      rw [hte]
      refine forall_mem_append (fun q hq => .inl hq) (fun q hq => ?_)
      rcases hne1 q hq with h | h | h
      · exact nomatch h
      · exact .inr (.inl h)
      · exact .inr (.inr (fun hm => h (hMs _ hm)))
    · -- `Rel M0 m`: the template itself, a name memoized before, or a name the body memoized
      intro n hokn hn0n
      have hok1 : MemoOk e1 n := (memoOk_congr hlk).mp hokn
      by_cases hnt : n = tname
      · subst hnt
        refine ⟨fun q hq hk => ?_, fun tr' htr' => ?_⟩
        · rcases List.mem_append.mp (hte ▸ hq) with hq | hq
          · exact absurd hk (hnoed q hq)
          · exact ok1 _ (hE1 q hq hk)
        · have : TreeOf env.text e n tr' :=
            htr'.imp_right fun hd => (hder _ hd).elim id (fun hd => absurd hmt (nd1 _ hd))
          cases htree tr' this
          exact listAll_mono (fun _ m h => h.imp (fun ⟨q, hq, hk⟩ => ⟨q, hte ▸ List.mem_append_right _ hq, hk⟩)
            (ok1 m)) _ hcov
      · by_cases hms : Memo (scratch (setOut e tname c)) n
        · -- memoized before this body: `e1` extends the scratch memo, so the entry is the one of `e`
          have hme : Memo e n := by
            have : (alookup (aset e.output tname c) n).isSome = true := hms
            rwa [alookup_aset, if_neg hnt] at this
          have hoke : MemoOk e n := by
            cases hv : alookup e.output n with
            | none => unfold Memo at hme; rw [hv] at hme; cases hme
            | some v =>
              obtain ⟨v', hv', hne'⟩ := hok1
              rw [hext1 n v (hx0 n v hnt hv)] at hv'; cases hv'
              exact ⟨v, hv, hne'⟩
          refine (hrel n hoke (fun h => h.elim hn0n hnt)).transfer ok0 (fun q hq => hte ▸ List.mem_append_left _ hq)
            (fun q hq hk => ?_) (fun tr' => Or.imp_right fun hd => (hder _ hd).elim id (fun hd => absurd hms (nd1 _ hd)))
          rcases List.mem_append.mp (hte ▸ hq) with hq | hq
          · exact hq
          · rcases hne1 q hq with h | h | h
            · exact nomatch h
            · exact absurd (hk ▸ h) hnt
            · exact absurd (hk ▸ hms) h
        · -- memoized by this body
          refine (hrel1 n hok1 hms).transfer ok1 (fun q hq => hte ▸ List.mem_append_right _ hq)
            (fun q hq hk => ?_) (fun tr' => Or.imp_right fun hd => (hder _ hd).elim
              (fun hd => absurd (hMs _ (hdm _ hd hnt)) hms) id)
          rcases List.mem_append.mp (hte ▸ hq) with hq | hq
          · exact absurd (hMs _ (hk ▸ hb.2.2.2.2 q hq)) hms
          · exact hq
  · exact ⟨hb0, hdm0, w1, ⟨hx0, fun _ hq => hq⟩, fun _ hq _ => hq, fun _ hq => .inl hq, fun hf => (nomatch hf),
      fun _ => ⟨rfl, rfl, rfl⟩⟩

def OutSpec (env : Env) (f : Nat) : Prop :=
  ∀ (M0 : String → Prop) e c tname t r,
    Base env.text e → DMx tname e → Rel env.text M0 e → (∀ n, M0 n → Memo e n) → ¬ Memo e tname →
    TreeIs env.text e tname t → ErrWF c → computeOutCtx env f e c tname t = .ok r →
    Post2 env.text M0 NoS e r.1 ∧ ErrWF r.2 ∧ alookup r.1.output tname = some r.2

theorem dm_setOutput (e : Esc) (k : String) (v : Ctx) (h : DM e) : DM { e with output := aset e.output k v } :=
  fun p hp => isSome_aset _ _ _ _ (h p hp)

theorem rel_setOut_ok {text : TextSet} {M0 : String → Prop} {e1 : Esc} {tname : String} {v : Ctx}
    (hrel : Rel text M0 e1) (hmt : MemoOk e1 tname) (hvne : v.state ≠ .error) : Rel text M0 (setOut e1 tname v) := by
  have up : ∀ m, MemoOk e1 m → MemoOk (setOut e1 tname v) m := by
    intro m ⟨c, hc, hne⟩
    by_cases hm : m = tname
    · exact ⟨v, by show alookup (aset _ _ _) _ = _; rw [alookup_aset, if_pos hm], hvne⟩
    · exact ⟨c, by show alookup (aset _ _ _) _ = _; rw [alookup_aset, if_neg hm]; exact hc, hne⟩
  intro n hok hn0
  have hok1 : MemoOk e1 n := by
    by_cases hm : n = tname
    · exact hm ▸ hmt
    · obtain ⟨c, hc, hne⟩ := hok
      have hc : alookup (aset e1.output tname v) n = some c := hc
      rw [alookup_aset, if_neg hm] at hc
      exact ⟨c, hc, hne⟩
  exact (hrel n hok1 hn0).transfer up (fun _ h => h) (fun _ h _ => h) (fun _ h => h)

theorem stp_of_body {e e1 eF : Esc} {tname : String} (hnm : ¬ Memo e tname)
    (hx : ExtX tname e e1) (hnd : NewD e e1) (hne : NewE (· = tname) e e1)
    (ho : ∀ n v, n ≠ tname → alookup e1.output n = some v → alookup eF.output n = some v)
    (ht : eF.tmplEdits = e1.tmplEdits) (hd : eF.derived = e1.derived) : Stp NoS e eF := by
  refine ⟨⟨?_, ?_⟩, ?_, ?_⟩
  · intro n v hv
    have hnt : n ≠ tname := by
      intro h; subst h; apply hnm; unfold Memo; rw [hv]; rfl
    exact ho n v hnt (hx.1 n v hnt hv)
  · intro q hq; rw [ht]; exact hx.2 q hq
  · intro p hp hm; rw [hd] at hp; exact hnd p hp hm
  · intro q hq
    rw [ht] at hq
    rcases hne q hq with h | h | h
    · exact .inl h
    · exact .inr (.inr (fun hm => hnm (h ▸ hm)))
    · exact .inr (.inr h)


theorem out_spec_succ {env f} (hbd : BodySpec env f) : OutSpec env (f + 1) := by
  intro M0 e c tname t r hb hdm hrel hm0 hnm htree hc h
  obtain ⟨e1, c1, ok1, h1, h2⟩ := computeOutCtx_ok h
  have hn0 : ¬ M0 tname := fun h => hnm (hm0 _ h)
  have hnoed : ∀ q ∈ e.tmplEdits, q.1.1 ≠ tname := fun q hq hk => hnm (hk ▸ hb.2.2.2.2 q hq)
  obtain ⟨b1, d1, w1, x1, nd1, ne1, t1, f1⟩ := hbd M0 e c tname t (e1, c1, ok1) hb hdm
    (fun n hok hn => hrel n hok (fun h => hn (.inl h))) hm0 hn0 hnoed htree hc h1
  -- the end: `X` is memoized for `tname` in an escaper `eB` that a body run left
  have close : ∀ {eB : Esc} (X : Ctx), ExtX tname e eB → NewD e eB → NewE (· = tname) e eB → Base env.text eB →
      DM eB → ErrWF X → (Stp NoS e (setOut eB tname X) → Rel env.text M0 (setOut eB tname X)) →
      Post2 env.text M0 NoS e (setOut eB tname X) ∧ ErrWF X ∧ alookup (setOut eB tname X).output tname = some X := by
    intro eB X hx hnd hne hbB hdB hX hR
    have hs : Stp NoS e (setOut eB tname X) := stp_of_body hnm hx hnd hne
      (fun n v hnt hv => by show alookup (aset _ _ _) _ = _; rw [alookup_aset, if_neg hnt]; exact hv) rfl rfl
    exact ⟨⟨⟨base_setOutput eB tname X hbB hX, dm_setOutput eB tname X hdB, hR hs, fun n hn => hs.1.memo (hm0 n hn)⟩,
      hs⟩, hX, by show alookup (aset _ _ _) _ = _; rw [alookup_aset, if_pos rfl]⟩
  rcases h2 with ⟨rfl, rfl⟩ | ⟨rfl, e2, c2, ok2, h3, h4⟩
  · obtain ⟨r1, hcne, hc1, hlk⟩ := t1 rfl
    exact close c1 x1 nd1 ne1 b1 d1 w1 (fun _ => rel_setOut_ok r1 ⟨c, hlk, hcne⟩ hc1)
  · -- the first attempt failed and left `e` with `c` memoized for `tname`: the hypotheses hold again
    obtain ⟨fo, ft, fdv⟩ := f1 rfl
    have hs1 : Stp NoS e e1 := stp_of_body hnm x1 nd1 ne1 (fun _ _ _ hv => hv) rfl rfl
    have hrel1 : Rel env.text (fun n => M0 n ∨ n = tname) e1 := by
      intro n hok hn
      have hnt : n ≠ tname := fun h => hn (.inr h)
      have hoke : MemoOk e n := by
        obtain ⟨v, hv, hne⟩ := hok
        rw [fo, alookup_aset, if_neg hnt] at hv
        exact ⟨v, hv, hne⟩
      exact covered_transfer (hrel n hoke (fun h => hn (.inl h))) hs1 hoke.memo (fun h => h)
    obtain ⟨b2, d2, w2, x2, nd2, ne2, t2, f2⟩ := hbd M0 e1 c1 tname t (e2, c2, ok2) b1 (fun p hp _ => d1 p hp) hrel1
      (fun n hn => hs1.1.memo (hm0 n hn)) hn0 (ft ▸ hnoed) (fun tr htr => htree tr (htr.imp_right (fdv ▸ ·))) w1 h3
    have x12 : ExtX tname e e2 :=
      ⟨fun n v hnt hv => x2.1 n v hnt (x1.1 n v hnt hv), fun q hq => x2.2 q (x1.2 q hq)⟩
    have nd12 : NewD e e2 := fun p hp hm => nd1 p (nd2 p hp (hs1.1.memo hm)) hm
    have ne12 : NewE (· = tname) e e2 := fun q hq => by
      rcases ne2 q hq with h | h | h
      · exact ne1 q h
      · exact .inr (.inl h)
      · exact .inr (.inr (fun hm => h (hs1.1.memo hm)))
    -- both attempts failed: the memo entry is an error context, nothing new is memoized with a good one
    have failed : ∀ X : Ctx, X.state = .error → ok2 = false → Stp NoS e (setOut e2 tname X) →
        Rel env.text M0 (setOut e2 tname X) := by
      intro X hXe hok2 hs
      obtain ⟨fo2, _, _⟩ := f2 hok2
      refine rel_step hrel hs (fun _ h => h.elim) (fun n hnm' ⟨v, hv, hne⟩ _ => ?_)
      have hv : alookup (aset e2.output tname X) n = some v := hv
      by_cases hnt : n = tname
      · rw [alookup_aset, if_pos hnt] at hv
        cases hv
        exact absurd hXe hne
      · rw [alookup_aset, if_neg hnt, fo2, alookup_aset, if_neg hnt, fo, alookup_aset, if_neg hnt] at hv
        exact absurd (by unfold Memo; rw [hv]; rfl) hnm'
    rcases h4 with ⟨rfl, rfl⟩ | ⟨hok2, _, rfl⟩ | ⟨hok2, hc1e, rfl⟩
    · obtain ⟨r2, hcne, hc2, hlk⟩ := t2 rfl
      exact close c2 x12 nd12 ne12 b2 d2 w2 (fun _ => rel_setOut_ok r2 ⟨c1, hlk, hcne⟩ hc2)
    · exact close _ x12 nd12 ne12 b2 d2 (errwf_errorCtx _) (failed _ rfl hok2)
    · exact close c1 x12 nd12 ne12 b2 d2 w1 (failed c1 hc1e hok2)

theorem template_treeOf {env : Env} {e : Esc} (hb : Base env.text e) (n : String) (tr : Tree)
    (h : TreeOf env.text e n tr) : Esc.template env e n = some (some tr) := by
  unfold Esc.template
  rcases h with h | h
  · rw [h]
  · rcases hb.2.2.1 _ h with h1 | h1
    · simp only [] at h1
      rw [h1]
      simp only []
      rw [alookup_of_mem _ hb.2.1 _ h]; rfl
    · simp only [] at h1
      rw [h1]

theorem template_none {env : Env} {e : Esc} (n : String) (h : Esc.template env e n = none) :
    env.text.lookup n = none := by
  unfold Esc.template at h
  split at h
  · cases h
  · assumption

theorem pre2_derive {text : TextSet} {M0 : String → Prop} {e : Esc} (hp : Pre2 text M0 e) {d : String} (dt : Tree)
    (hnm : ¬ Memo e d) (htn : text.lookup d = none) :
    Base text { e with derived := aset e.derived d dt } ∧ DMx d { e with derived := aset e.derived d dt } ∧
    Rel text M0 { e with derived := aset e.derived d dt } ∧ Stp NoS e { e with derived := aset e.derived d dt } ∧
    TreeIs text { e with derived := aset e.derived d dt } d (some dt) := by
  obtain ⟨⟨b1, b2, b3, b4, b5⟩, hdm, hrel, _⟩ := hp
  have old : ∀ p ∈ aset e.derived d dt, p.1 ≠ d → p ∈ e.derived := fun p hp' hpn =>
    (mem_aset _ _ _ p hp').elim id (fun h => absurd (h ▸ rfl) hpn)
  refine ⟨⟨b1, same_aset _ _ _ b2, ?_, b4, b5⟩, fun p hp' hpn => hdm p (old p hp' hpn), ?_,
    ⟨⟨fun _ _ h => h, fun _ h => h⟩, fun p hp' hm => old p hp' (fun h => hnm (h ▸ hm)), fun _ h => .inl h⟩, ?_⟩
  · exact fun p hp' => (mem_aset _ _ _ p hp').elim (b3 p) (fun h => .inl (h ▸ htn))
  · intro n hok hn0
    exact (hrel n hok hn0).transfer (fun _ h => h) (fun _ h => h) (fun _ h _ => h)
      (fun tr' => Or.imp_right fun hd => old _ hd (fun h : n = d => hnm (h ▸ hok.memo)))
  · intro tr' htr'
    rcases htr' with htr' | htr'
    · rw [htn] at htr'; cases htr'
    · rcases mem_aset_cases htr' with ⟨_, hk⟩ | heq
      · exact absurd rfl hk
      · cases heq; rfl

theorem tree_spec_succ {env f} (hout : OutSpec env f) : TreeSpec env (f + 1) := by
  intro M0 e c name r hp hc h
  rcases escapeTree_ok h with ⟨hce, rfl⟩ | ⟨hcne, out, ho, rfl⟩ | ⟨hcne, _, _, rfl⟩ | ⟨hcne, hnone, tr, e1, c1, htmpl, h1, rfl⟩
  · exact ⟨⟨hp, Stp.refl _ _⟩, hc, fun he => he, fun hne => absurd hce hne⟩
  · exact ⟨post2_core ⟨rfl, rfl, rfl⟩ hp, hp.1.2.2.2.1 _ _ ho, fun he => absurd he hcne, fun hne => ⟨out, ho, hne⟩⟩
  · exact ⟨post2_core ⟨rfl, rfl, rfl⟩ hp, errwf_errorCtx _, fun he => absurd he hcne, fun hne => absurd rfl hne⟩
  · have hnm : ¬ Memo e (mangle c name) := by unfold Memo; rw [hnone]; simp
    suffices Post2 env.text M0 NoS e e1 ∧ ErrWF c1 ∧ alookup e1.output (mangle c name) = some c1 from
      ⟨this.1, this.2.1, fun he => absurd he hcne, fun hne => ⟨c1, this.2.2, hne⟩⟩
    -- `computeOutCtx` runs from an escaper `em` reached from `e` by a step
    have key : ∀ (em : Esc) t, Base env.text em → DMx (mangle c name) em → Rel env.text M0 em →
        (∀ n, M0 n → Memo em n) → ¬ Memo em (mangle c name) → Stp NoS e em → TreeIs env.text em (mangle c name) t →
        computeOutCtx env f em c (mangle c name) t = .ok (e1, c1) →
        Post2 env.text M0 NoS e e1 ∧ ErrWF c1 ∧ alookup e1.output (mangle c name) = some c1 := by
      intro em t hb' hdm' hrel' hm0' hnm' hs ht h
      obtain ⟨p1, w1, l1⟩ := hout M0 em c _ t (e1, c1) hb' hdm' hrel' hm0' hnm' ht hc h
      exact ⟨⟨p1.1, hs.trans p1.2⟩, w1, l1⟩
    obtain ⟨hb, hdm, hrel, hm0⟩ := hp
    have hdmx : DMx (mangle c name) e := fun q hq _ => hdm q hq
    have hcore : Stp NoS e (miss e c (mangle c name)) := stp_core ⟨rfl, rfl, rfl⟩
    rcases enter_cases env e c name tr with ⟨hdn, h2⟩ | ⟨_, dt, hdt, h2⟩ | ⟨_, hdt, dt, _, h2⟩ <;> rw [h2] at h1
    · refine key (miss e c (mangle c name)) _ hb hdmx hrel hm0 hnm hcore (fun tr' htr' => ?_) h1
      have htr' : TreeOf env.text e (mangle c name) tr' := htr'
      rw [hdn] at htr'
      rw [template_treeOf hb _ _ htr'] at htmpl
      cases htmpl; rfl
    · refine key (miss e c (mangle c name)) _ hb hdmx hrel hm0 hnm hcore (fun tr' htr' => ?_) h1
      rw [template_treeOf hb _ _ htr'] at hdt
      cases hdt; rfl
    · obtain ⟨b', d', r', s', t'⟩ := pre2_derive ⟨hb, hdm, hrel, hm0⟩ dt hnm (template_none _ hdt)
      exact key { miss e c (mangle c name) with derived := aset e.derived (mangle c name) dt } _ b' d' r'
        (fun n hn => s'.1.memo (hm0 n hn)) hnm (s'.trans (stp_core ⟨rfl, rfl, rfl⟩)) t' h1

theorem analysis_spec (env : Env) : ∀ f,
    NodeSpec env f ∧ ListSpec env f ∧ BranchSpec env f ∧ TreeSpec env f ∧ OutSpec env f ∧ BodySpec env f := by
  refine fuel_induction ⟨?_, ?_, ?_, ?_, ?_, ?_⟩ (fun _ => node_spec_succ) (fun _ => list_spec_succ)
    (fun _ => branch_spec_succ) (fun _ => tree_spec_succ) (fun _ => out_spec_succ) (fun _ => body_spec_succ)
  · intro M0 tn e c n r _ _ _ h; rw [escapeNode_zero] at h; cases h
  · intro M0 tn e c l r _ _ _ h; rw [escapeList_zero] at h; cases h
  · intro M0 tn e c t el b r _ _ _ h; rw [escapeBranch_zero] at h; cases h
  · intro M0 e c name r _ _ h; rw [escapeTree_zero] at h; cases h
  · intro M0 e c tname t r _ _ _ _ _ _ _ h; rw [computeOutCtx_zero] at h; cases h
  · intro M0 e c tname t r _ _ _ _ _ _ _ _ h; rw [escapeTemplateBody_zero] at h; cases h

/-- the invariant between critical sections: every name memoized with a good context is covered -/
def Good (text : TextSet) (e : Esc) : Prop := Pre2 text (fun _ => False) e

theorem good_fresh (text : TextSet) (e : Esc) (ho : e.output = []) (hd : e.derived = []) (ht : e.tmplEdits = []) :
    Good text e := by
  refine ⟨⟨?_, ?_, ?_, ?_, ?_⟩, ?_, ?_, fun _ h => h.elim⟩
  · rw [ho]; exact same_nil
  · rw [hd]; exact same_nil
  · rw [hd]; exact fun _ h => nomatch h
  · rw [ho]; intro n c h; cases h
  · rw [ht]; exact fun _ h => nomatch h
  · intro p hp; rw [hd] at hp; cases hp
  · intro n ⟨c, hc, _⟩; rw [ho] at hc; cases hc

theorem good_analysis {env : Env} {e : Esc} (hg : Good env.text e) (f : Nat) (name : String)
    (r : Esc × Ctx × String) (h : escapeTree env f e {} name = .ok r) :
    Good env.text r.1 ∧ (r.2.1.state ≠ .error → MemoOk r.1 name) := by
  have hc : ErrWF ({} : Ctx) := errwf_of_ne (by decide)
  obtain ⟨p1, _, _, k1⟩ := (analysis_spec env f).2.2.2.1 (fun _ => False) e {} name r hg hc h
  refine ⟨p1.1, fun hne => ?_⟩
  have := k1 hne
  -- the returned name is `mangle {} name = name`
  have hd : r.2.2 = name := by
    cases f with
    | zero => rw [escapeTree_zero] at h; cases h
    | succ f =>
      rcases escapeTree_ok h with ⟨_, rfl⟩ | ⟨_, _, _, rfl⟩ | ⟨_, _, _, rfl⟩ | ⟨_, _, _, _, _, _, _, rfl⟩
      · rfl
      · exact mangle_default name
      · exact mangle_default name
      · exact mangle_default name
  rw [hd] at this; exact this

/-! ### 10d. the commit turns coverage into closedness -/

theorem option_bind2 {α β γ} {a : Option α} {b : Option β} {f : α → β → γ} {r : γ}
    (h : (do let x ← a; let y ← b; pure (f x y)) = some r) : ∃ x y, a = some x ∧ b = some y ∧ f x y = r := by
  cases a with
  | none => cases h
  | some x =>
    cases b with
    | none => cases h
    | some y => exact ⟨x, y, rfl, rfl, Option.some.inj h⟩

mutual
theorem node_apply_cov (G : String → Prop) (tn : String) (e : Esc)
    (hG : ∀ q ∈ e.tmplEdits, q.1.1 = tn → G q.2) : ∀ (n r : Node), Node.applyEdits tn e n = some r →
    nodeAll (fun id name => HasEdit e tn id ∨ G name) n → nodeAll (fun _ name => G name) r
  | .text id b, r, h, _ => by
    simp only [Node.applyEdits] at h; cases h
    split <;> simp only [nodeAll]
  | .action id p, r, h, _ => by
    simp only [Node.applyEdits] at h
    split at h
    · cases hh : ensurePipelineContains p _ with
      | none => rw [hh] at h; cases h
      | some p' => rw [hh] at h; cases h; simp only [nodeAll]
    · cases h; simp only [nodeAll]
  | .tmpl id name p, r, h, hc => by
    simp only [Node.applyEdits] at h; cases h
    simp only [nodeAll] at hc
    split
    · rename_i q hq
      simp only [nodeAll]
      have hk : q.1 = (tn, id) := by simpa using List.find?_some hq
      exact hG q (List.mem_of_find?_eq_some hq) (by rw [hk])
    · rename_i hq
      simp only [nodeAll]
      rcases hc with ⟨q, hm, hk⟩ | hc
      · have := List.find?_eq_none.mp hq q hm
        simp [hk] at this
      · exact hc
  | .ifN id p t el, r, h, hc | .rangeN id p t el, r, h, hc | .withN id p t el, r, h, hc => by
    simp only [Node.applyEdits] at h
    obtain ⟨t', el', ht, hel, rfl⟩ := option_bind2 h
    simp only [nodeAll] at hc ⊢
    exact ⟨list_apply_cov G tn e hG t t' ht hc.1, list_apply_cov G tn e hG el el' hel hc.2⟩
  | .brk id, r, h, _ | .cont id, r, h, _ | .comment id, r, h, _ => by
    simp only [Node.applyEdits] at h; cases h; simp only [nodeAll]
theorem list_apply_cov (G : String → Prop) (tn : String) (e : Esc)
    (hG : ∀ q ∈ e.tmplEdits, q.1.1 = tn → G q.2) : ∀ (l r : NodeList), NodeList.applyEdits tn e l = some r →
    listAll (fun id name => HasEdit e tn id ∨ G name) l → listAll (fun _ name => G name) r
  | .nil, r, h, _ => by simp only [NodeList.applyEdits] at h; cases h; simp only [listAll]
  | .cons n ns, r, h, hc => by
    simp only [NodeList.applyEdits] at h
    obtain ⟨n', ns', hn, hns, rfl⟩ := option_bind2 h
    simp only [listAll] at hc ⊢
    exact ⟨node_apply_cov G tn e hG n n' hn hc.1, list_apply_cov G tn e hG ns ns' hns hc.2⟩
end


def Iw (G : String → Prop) (e : Esc) (n : String) (ts : TextSet) : Prop :=
  ∀ tr, ts.lookup n = some (some tr) → listAll (fun id name => HasEdit e n id ∨ G name) tr.root
def Js (G : String → Prop) (n : String) (ts : TextSet) : Prop :=
  ∀ tr, ts.lookup n = some (some tr) → listAll (fun _ name => G name) tr.root

theorem Js.iw {G : String → Prop} {e : Esc} {n : String} {ts : TextSet} (h : Js G n ts) : Iw G e n ts :=
  fun tr htr => listAll_mono (fun _ _ hg => .inr hg) _ (h tr htr)

theorem editStep_IJ (G : String → Prop) (e : Esc) (n : String)
    (hG : ∀ q ∈ e.tmplEdits, q.1.1 = n → G q.2) (ts ts' : TextSet) (m : String)
    (h : editStep e ts m = .ok ts') (hi : Iw G e n ts) :
    Iw G e n ts' ∧ (Js G n ts → Js G n ts') ∧ (m = n → Js G n ts') := by
  by_cases hm : m = n
  · subst hm
    have key : Js G m ts' := by
      intro tr' htr'
      rcases editStep_ok h with ⟨rfl, hnt⟩ | ⟨tr, r, htr, hr, rfl⟩
      · exact absurd htr' (hnt tr')
      · rw [lookup_set, if_pos rfl] at htr'
        cases htr'
        exact list_apply_cov G m e hG _ _ hr (hi tr htr)
    exact ⟨key.iw, fun _ => key, fun _ => key⟩
  · have hl := editStep_lookup_other e ts ts' m n h (fun h => hm h.symm)
    exact ⟨fun tr htr => hi tr (hl ▸ htr), fun hj tr htr => hj tr (hl ▸ htr), fun h' => absurd h' hm⟩

theorem edits_fold_J (G : String → Prop) (e : Esc) (n : String)
    (hG : ∀ q ∈ e.tmplEdits, q.1.1 = n → G q.2) (names : List String) : ∀ (ts ts' : TextSet),
    names.foldlM (editStep e) ts = .ok ts' → Iw G e n ts → (Js G n ts ∨ n ∈ names) → Js G n ts' := by
  induction names with
  | nil => intro ts ts' h _ hj; cases h; exact hj.elim id (fun h => nomatch h)
  | cons m t ih =>
    intro ts ts' h hi hj
    rw [List.foldlM_cons] at h
    obtain ⟨ts1, h1, h2⟩ := bind_ok h
    obtain ⟨k1, k2, k3⟩ := editStep_IJ G e n hG ts ts1 m h1 hi
    refine ih ts1 ts' h2 k1 (hj.elim (fun hj => .inl (k2 hj)) fun hj => ?_)
    exact (List.mem_cons.mp hj).elim (fun hj => .inl (k3 hj.symm)) .inr

theorem mem_editNames_of_tmpl (e : Esc) (q : EditKey × String) (h : q ∈ e.tmplEdits) : q.1.1 ∈ editNames e := by
  unfold editNames
  rw [List.mem_eraseDups, List.mem_append, List.mem_append]
  exact .inl (.inr (List.mem_map.mpr ⟨q, h, rfl⟩))

theorem relink_fst (t : TextSet) (p : String × Tree) : (relink t p).1 = p.1 := by
  unfold relink; split <;> rfl

theorem good_commit {text : TextSet} {e1 : Esc} {text2 : TextSet} {e2 : Esc} (hg : Good text e1)
    (h : commit text e1 = .ok (text2, e2)) :
    Good text2 e2 ∧ ∀ n, MemoOk e2 n → Js (MemoOk e2) n text2 := by
  have hpost := commit_post text e1 text2 e2 h
  obtain ⟨pr, h1, rfl⟩ := commit_spec text e1 text2 e2 h
  obtain ⟨⟨b1, b2, b3, b4, b5⟩, hdm, hrel, _⟩ := hg
  have key : ∀ n, MemoOk e1 n → Js (MemoOk e1) n text2 := by
    intro n hok
    obtain ⟨hE, hT⟩ := hrel n hok (fun h => h)
    have hI : Iw (MemoOk e1) { e1 with pristine := pr } n (e1.derived.foldl installStep text) := by
      intro tr htr
      apply hT tr
      rcases install_lookup e1.derived text n with hl | ⟨d, hd, hl⟩
      · exact .inl (hl ▸ htr)
      · rw [hl] at htr; cases htr; exact .inr hd
    refine edits_fold_J (MemoOk e1) { e1 with pristine := pr } n hE (editNames e1) _ _ h1 hI ?_
    by_cases hmem : n ∈ editNames e1
    · exact .inr hmem
    · refine .inl (fun tr htr => listAll_mono ?_ _ (hI tr htr))
      intro i m hc
      rcases hc with ⟨q, hq, hk⟩ | hc
      · have := mem_editNames_of_tmpl e1 q hq
        rw [hk] at this
        exact absurd this hmem
      · exact hc
  refine ⟨⟨⟨b1, ?_, ?_, b4, fun _ hq => (nomatch hq)⟩, ?_, ?_, fun _ hf => hf.elim⟩, key⟩
  · intro p hp q hq hpq
    have h2 := hpost.2.2.2.2.2 p hp
    have h3 := hpost.2.2.2.2.2 q hq
    rw [hpq, h3] at h2
    simp only [Option.some.injEq] at h2
    exact h2.symm
  · intro p hp
    exact .inr (hpost.2.2.2.2.2 p hp)
  · intro p hp
    simp only [List.mem_map] at hp
    obtain ⟨q, hq, rfl⟩ := hp
    unfold Memo
    rw [relink_fst]
    exact hdm q hq
  · intro n hok _
    refine ⟨fun _ hq => (nomatch hq), fun tr htr => ?_⟩
    have hl : text2.lookup n = some (some tr) := by
      rcases htr with htr | htr
      · exact htr
      · exact hpost.2.2.2.2.2 _ htr
    exact listAll_mono (fun _ _ hg => .inr hg) _ (key n hok tr hl)


/-! ### 10e. the API: closedness holds in every reachable state -/

def GoodNs (n : NS) : Prop := Good n.text n.esc

theorem goodNs_fresh (n : NS) (ho : n.esc.output = []) (hd : n.esc.derived = []) (ht : n.esc.tmplEdits = []) :
    GoodNs n := good_fresh n.text n.esc ho hd ht

theorem good_top (w w' : World) (ns : Nat) (name : String) (r : Option ErrCode) (hg : GoodNs (w.ns ns))
    (h : escapeTemplateTop w ns name = .inr (w', r)) :
    GoodNs (w'.ns ns) ∧
    (r = none → MemoOk (w'.ns ns).esc name ∧ Closed (MemoOk (w'.ns ns).esc) (w'.ns ns).text) := by
  obtain ⟨env, e1, c, d, henv, hesc, hr⟩ := escapeTemplateTop_spec_env w ns name w' r h
  have hg' : Good env.text (w.ns ns).esc := by rw [henv]; exact hg
  obtain ⟨g1, m1⟩ := good_analysis hg' _ name _ hesc
  rw [henv] at g1
  simp only [] at g1 m1
  rcases hr with ⟨code, rfl, hns⟩ | ⟨text2, e2, rfl, hfin, hc, hns⟩
  · rw [hns]
    exact ⟨g1, fun hf => nomatch hf⟩
  · obtain ⟨g2, j2⟩ := good_commit g1 hc
    have hout : e2.output = e1.output := (commit_post _ _ _ _ hc).1
    rw [hns]
    refine ⟨g2, fun _ => ⟨?_, ?_⟩⟩
    · have hcs : c.state ≠ .error := by rw [finalError_text c hfin]; decide
      obtain ⟨v, hv, hne⟩ := m1 hcs
      exact ⟨v, by simp only []; rw [hout]; exact hv, hne⟩
    · intro n hn tr htr
      exact listAll_callsIn _ (j2 n hn tr htr)

theorem analyses_other_ns (ns : Nat) : ∀ (names : List String) (w : World) (k : Nat), k ≠ ns →
    (analyses ns w names).ns k = w.ns k := by
  intro names w k hk
  exact analyses_ind (P := fun x => x.ns k = w.ns k) (fun _ _ _ _ hx heq => (ns_top heq k hk).trans hx) names w rfl

theorem good_analyses (ns : Nat) : ∀ (names : List String) (w : World), GoodNs (w.ns ns) →
    GoodNs ((analyses ns w names).ns ns) :=
  analyses_ind (P := fun x => GoodNs (x.ns ns)) fun x x' n r hx heq => (good_top x x' ns n r hx heq).1

/-- C09 frozen, for reachable states, without closedness hypothesis. Start from any world whose name space `ns`
    satisfies the invariant (in particular: a set that has never been executed, with arbitrary parsed templates,
    `goodNs_fresh`). After any sequence `before` of analyses in that set (successful or failed), let the analysis of
    `o` succeed. Then no sequence `after` of further analyses changes what `o` executes. -/
theorem C09_frozen_reachable (w0 : World) (ns : Nat) (hg : GoodNs (w0.ns ns)) (before : List String)
    (o : TObj) (hons : o.ns = ns) (w1 : World)
    (h : escapeTemplateTop (analyses ns w0 before) ns o.name = .inr (w1, none))
    (after : List String) (d : Value) :
    textExecute (analyses ns w1 after) o d = textExecute w1 o d := by
  obtain ⟨_, hcl⟩ := good_top _ w1 ns o.name none (good_analyses ns before w0 hg) h
  obtain ⟨hm, hc⟩ := hcl rfl
  exact C09_frozen_after_own_analysis (MemoOk (w1.ns ns).esc) _ w1 ns o d hons h (fun _ hn => hn.memo) hm hc after

/-- `C09_frozen_reachable` as a statement about the state reached: after its own successful analysis `o` is `Settled`,
    which the complete critical sections of Execute / ExecuteTemplate preserve (`apiExecute_frozen`,
    `apiExecuteTemplate_frozen`) -/
theorem settled_after_own_analysis (w w1 : World) (ns : Nat) (hg : GoodNs (w.ns ns)) (o : TObj) (hons : o.ns = ns)
    (h : escapeTemplateTop w ns o.name = .inr (w1, none)) :
    Settled (MemoOk (w1.ns ns).esc) w1 o := by
  obtain ⟨_, hcl⟩ := good_top w w1 ns o.name none hg h
  obtain ⟨hm, hc⟩ := hcl rfl
  obtain ⟨hi, _⟩ := own_analysis_establishes w w1 ns o.name h
  subst hons
  exact ⟨Inv.mono hi (fun _ hn => hn.memo), hc, hm⟩


/-! #### non-vacuity of `C09_frozen_reachable`

`Demo.w0` (section 8) is a freshly parsed set. `bad` is analysed first and fails with ErrEndContext — leaving pending
edits for `bad` and `h` in the escaper —, then `A` is analysed successfully; whatever is analysed afterwards, `A`
executes the same. -/
namespace Demo

theorem w0_fresh : GoodNs (w0.ns 0) :=
  goodNs_fresh _ (by decide +kernel) (by decide +kernel) (by decide +kernel)

def checkR : Bool :=
  match escapeTemplateTop w0 0 "bad" with
  | .inr (wb, some .endContext) =>
    (wb.ns 0).esc.actionEdits.length != 0 &&
    (match escapeTemplateTop wb 0 "A" with
     | .inr (_, none) => true
     | _ => false)
  | _ => false

theorem checkR_true : checkR = true := by decide +kernel

theorem A_frozen_after_failed_bad : ∃ w1, escapeTemplateTop (analyses 0 w0 ["bad"]) 0 "A" = .inr (w1, none) ∧
    ∀ (o : TObj) (d : Value) (after : List String), o.ns = 0 → o.name = "A" →
      textExecute (analyses 0 w1 after) o d = textExecute w1 o d := by
  have hc := checkR_true
  unfold checkR at hc
  split at hc
  · rename_i wb hb
    simp only [Bool.and_eq_true] at hc
    obtain ⟨_, hc⟩ := hc
    split at hc
    · rename_i w1 hA
      have hrun : analyses 0 w0 ["bad"] = wb := by
        unfold analyses; rw [hb]; rfl
      refine ⟨w1, by rw [hrun]; exact hA, ?_⟩
      intro o d after hns hname
      exact C09_frozen_reachable w0 0 w0_fresh ["bad"] o hns w1 (by rw [hname, hrun]; exact hA) after d
    · cases hc
  · cases hc

end Demo

/-! ### What is not covered

That `(ns.text, ns.esc)` of an executed set are changed by no API operation other than Execute* (Parse is gated,
Clone/New/Lookup create or read): `GoodNs`/`Settled` are shown here to be preserved by the critical sections of
Execute/ExecuteTemplate only (`api*_frozen`, `good_top`); the other operations of `Api.step` are treated in
`Proofs/ConcReach.lean` (`invR_step`). -/

end SafeHtml.Proofs.Frozen
