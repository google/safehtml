/-
C09, last hypothesis: the invariant `Inv` of `Proofs/ConcApi.lean` holds in every world REACHABLE through the API model
(every `Op` of `Api.step`, from an empty world). Every operation is decomposed once into primitive updates (`Prim`,
`Steps`); the invariant, and in `Proofs/ApiFrames.lean` the frames, are facts about the primitives.
-/
import SafeHtml.Proofs.ConcApi
namespace SafeHtml.Proofs.ConcReach
open SafeHtml SafeHtml.Model.Tmpl SafeHtml.Model.Conc SafeHtml.Proofs.Analysis SafeHtml.Proofs.Frozen SafeHtml.Proofs.ConcApi

/-! ### 1. the reachability invariant -/

/-- every entry of every set names an existing object of that set with that name (except possibly the entry `x`,
    while `assocNew` is replacing it) -/
def SetWFx (x : Option (Nat × String)) (w : World) : Prop :=
  ∀ ns name oid, alookup (w.ns ns).set name = some oid → x ≠ some (ns, name) →
    ∃ o, nlookup w.objs oid = some o ∧ o.ns = ns ∧ o.name = name

def FreshIds (w : World) : Prop := ∀ id o, nlookup w.objs id = some o → id < w.next ∧ o.ns < w.next

/-- a set that has not been executed has an empty escaper -/
def EscGate (w : World) : Prop :=
  ∀ k, (w.ns k).escaped = false →
    (w.ns k).esc.output = [] ∧ (w.ns k).esc.derived = [] ∧ (w.ns k).esc.tmplEdits = []

/-- an analysed object lives in an executed set -/
def OkEscaped (w : World) : Prop :=
  ∀ id o, nlookup w.objs id = some o → o.status = .ok → (w.ns o.ns).escaped = true

def AInv (w : World) : Prop := (∀ k, GoodNs (w.ns k)) ∧ EscGate w ∧ OkSettled w ∧ OkEscaped w

def InvRx (x : Option (Nat × String)) (w : World) : Prop := AInv w ∧ SetWFx x w ∧ FreshIds w

def InvR (w : World) : Prop := InvRx none w

theorem InvR.inv {w : World} (h : InvR w) : Inv w := by
  obtain ⟨⟨hg, _, hok, _⟩, hs, _⟩ := h
  refine ⟨hg, ?_, hok⟩
  intro ns name oid o h1 h2
  obtain ⟨o', h3, h4, h5⟩ := hs ns name oid h1 (fun hx => nomatch hx)
  rw [h2] at h3; cases h3
  exact ⟨h4, h5⟩

/-- a name space is untouched in what the analysis sees (it may become `escaped`) … -/
def NsSame (w w' : World) (k : Nat) : Prop :=
  (w'.ns k).text = (w.ns k).text ∧ (w'.ns k).esc = (w.ns k).esc ∧
  ((w.ns k).escaped = true → (w'.ns k).escaped = true)
/-- … or it is (re)initialised with an empty escaper and no analysed object lives in it -/
def NsNew (w w' : World) (k : Nat) : Prop :=
  (w'.ns k).esc.output = [] ∧ (w'.ns k).esc.derived = [] ∧ (w'.ns k).esc.tmplEdits = [] ∧
  ∀ id o, nlookup w.objs id = some o → o.status = .ok → o.ns ≠ k

/-- frame lemma for the part of the invariant that talks about escapers and analysed objects -/
theorem ainv_frame (w w' : World) (ha : AInv w)
    (hobj : ∀ id o', nlookup w'.objs id = some o' → o'.status = .ok →
      ∃ o, nlookup w.objs id = some o ∧ o.status = .ok ∧ o'.ns = o.ns ∧ o'.name = o.name)
    (hns : ∀ k, NsSame w w' k ∨ NsNew w w' k) : AInv w' := by
  obtain ⟨hg, he, hok, hoe⟩ := ha
  refine ⟨?_, ?_, ?_, ?_⟩
  · intro k
    rcases hns k with ⟨h1, h2, _⟩ | ⟨h1, h2, h3, _⟩
    · unfold GoodNs; rw [h1, h2]; exact hg k
    · exact goodNs_fresh _ h1 h2 h3
  · intro k hk
    rcases hns k with ⟨_, h2, h3⟩ | ⟨h1, h2, h3, _⟩
    · rw [h2]
      apply he k
      cases hb : (w.ns k).escaped with
      | false => rfl
      | true => rw [h3 hb] at hk; cases hk
    · exact ⟨h1, h2, h3⟩
  · intro id o' h1 h2
    obtain ⟨o, h3, h4, h5, h6⟩ := hobj id o' h1 h2
    obtain ⟨F, hF⟩ := hok id o h3 h4
    refine ⟨F, ?_⟩
    rcases hns o.ns with ⟨k1, k2, _⟩ | ⟨_, _, _, k4⟩
    · unfold Settled NsInv at hF ⊢
      rw [h5, h6, k1, k2]; exact hF
    · exact absurd rfl (k4 id o h3 h4)
  · intro id o' h1 h2
    obtain ⟨o, h3, h4, h5, _⟩ := hobj id o' h1 h2
    rw [h5]
    rcases hns o.ns with ⟨_, _, k3⟩ | ⟨_, _, _, k4⟩
    · exact k3 (hoe id o h3 h4)
    · exact absurd rfl (k4 id o h3 h4)


/-! ### 2. construction primitives -/

theorem ns_next (w : World) (n : Nat) (k : Nat) : ({ w with next := n } : World).ns k = w.ns k := rfl

theorem newSet_eq (w : World) (name : String) :
    w.newSet name = ((({ w with next := w.next + 2 } : World).setNs w.next { set := [(name, w.next + 1)] }).setObj
      (w.next + 1) { ns := w.next, name := name }, w.next + 1) := rfl

theorem newSet_ns (w : World) (name : String) (k : Nat) :
    (w.newSet name).1.ns k = if k = w.next then { set := [(name, w.next + 1)] } else w.ns k := by
  rw [newSet_eq]; simp only [ns_setObj, ns_setNs]; rfl

theorem newSet_objs (w : World) (name : String) (id : Nat) :
    nlookup (w.newSet name).1.objs id =
      if id = w.next + 1 then some { ns := w.next, name := name } else nlookup w.objs id := by
  rw [newSet_eq]; simp only [objs_setObj]; rfl

theorem newSet_next (w : World) (name : String) : (w.newSet name).1.next = w.next + 2 := rfl

/-- a brand-new name space `w.next` with one member object `w.next + 1` (what `newSet` and the head of `Clone` build) -/
theorem freshSet_inv (w w' : World) (root : TObj) (n1 : NS) (h : InvR w)
    (hnext : w'.next = w.next + 2)
    (hns : ∀ k, w'.ns k = if k = w.next then n1 else w.ns k)
    (hobjs : ∀ id, nlookup w'.objs id = if id = w.next + 1 then some root else nlookup w.objs id)
    (r1 : root.ns = w.next) (r3 : root.status = .unset) (n2 : n1.set = [(root.name, w.next + 1)])
    (n3 : n1.esc.output = [] ∧ n1.esc.derived = [] ∧ n1.esc.tmplEdits = []) : InvR w' := by
  obtain ⟨ha, hs, hf⟩ := h
  refine ⟨?_, ?_, ?_⟩
  · apply ainv_frame w _ ha
    · intro id o' h1 h2
      rw [hobjs] at h1
      split at h1
      · cases h1; rw [r3] at h2; cases h2
      · exact ⟨o', h1, h2, rfl, rfl⟩
    · intro k
      rw [NsSame, NsNew, hns]
      by_cases hk : k = w.next
      · rw [if_pos hk]
        refine .inr ⟨n3.1, n3.2.1, n3.2.2, fun id o h1 _ hn => ?_⟩
        have := (hf id o h1).2
        omega
      · rw [if_neg hk]; exact .inl ⟨rfl, rfl, fun h => h⟩
  · intro ns name oid h1 hx
    rw [hns] at h1
    rw [hobjs]
    by_cases hk : ns = w.next
    · rw [if_pos hk, n2] at h1
      have : name = root.name ∧ oid = w.next + 1 := by
        rw [alookup_cons] at h1
        split at h1
        · rename_i hn; cases h1; exact ⟨hn.symm, rfl⟩
        · cases h1
      obtain ⟨rfl, rfl⟩ := this
      rw [if_pos rfl]
      exact ⟨root, rfl, r1.trans hk.symm, rfl⟩
    · rw [if_neg hk] at h1
      obtain ⟨o, h2, h3, h4⟩ := hs ns name oid h1 hx
      have := (hf oid o h2).1
      rw [if_neg (by omega)]
      exact ⟨o, h2, h3, h4⟩
  · intro id o h1
    rw [hobjs] at h1
    rw [hnext]
    split at h1
    · rename_i hid; cases h1; rw [r1]; omega
    · have := hf id o h1; omega


theorem InvRx.weaken {w : World} (x : Option (Nat × String)) (h : InvRx none w) : InvRx x w :=
  ⟨h.1, fun ns nm oid h1 _ => h.2.1 ns nm oid h1 (fun hx => nomatch hx), h.2.2⟩

/-- allocate a new object and register it under `name` in set `k` (tail of `assocNew`, body of the loop of `Clone`) -/
def bindNew (w : World) (k : Nat) (name : String) (obj : TObj) : World × Nat :=
  let oid := w.next
  let w := { w with next := w.next + 1 }
  let ns := w.ns k
  let w := w.setNs k { ns with set := aset ns.set name oid }
  (w.setObj oid obj, oid)

theorem bindNew_ns (w : World) (k : Nat) (name : String) (obj : TObj) (j : Nat) :
    (bindNew w k name obj).1.ns j =
      if j = k then { w.ns k with set := aset (w.ns k).set name w.next } else w.ns j := by
  unfold bindNew; simp only [ns_setObj, ns_setNs]; rfl

theorem bindNew_objs (w : World) (k : Nat) (name : String) (obj : TObj) (id : Nat) :
    nlookup (bindNew w k name obj).1.objs id = if id = w.next then some obj else nlookup w.objs id := by
  unfold bindNew; simp only [objs_setObj]; rfl

theorem bindNew_next (w : World) (k : Nat) (name : String) (obj : TObj) :
    (bindNew w k name obj).1.next = w.next + 1 := rfl

theorem bindNew_inv (w : World) (k : Nat) (name : String) (obj : TObj) (h : InvRx (some (k, name)) w)
    (hk : k < w.next) (h1 : obj.ns = k) (h2 : obj.name = name) (h3 : obj.status = .unset) :
    InvR (bindNew w k name obj).1 := by
  obtain ⟨ha, hs, hf⟩ := h
  refine ⟨?_, ?_, ?_⟩
  · apply ainv_frame w _ ha
    · intro id o' ho hok
      rw [bindNew_objs] at ho
      split at ho
      · cases ho; rw [h3] at hok; cases hok
      · exact ⟨o', ho, hok, rfl, rfl⟩
    · intro j
      refine .inl ?_
      rw [NsSame, bindNew_ns]
      by_cases hj : j = k
      · subst hj; rw [if_pos rfl]; exact ⟨rfl, rfl, fun h => h⟩
      · rw [if_neg hj]; exact ⟨rfl, rfl, fun h => h⟩
  · intro ns nm oid hl _
    rw [bindNew_ns] at hl
    rw [bindNew_objs]
    by_cases hn : ns = k
    · subst hn
      rw [if_pos rfl] at hl
      simp only [] at hl
      rw [alookup_aset] at hl
      by_cases hm : nm = name
      · subst hm
        rw [if_pos rfl] at hl; cases hl
        rw [if_pos rfl]
        exact ⟨obj, rfl, h1, h2⟩
      · rw [if_neg hm] at hl
        obtain ⟨o, g1, g2, g3⟩ := hs ns nm oid hl (by
          intro hx; simp only [Option.some.injEq, Prod.mk.injEq] at hx; exact hm hx.2.symm)
        have := (hf oid o g1).1
        rw [if_neg (by omega)]
        exact ⟨o, g1, g2, g3⟩
    · rw [if_neg hn] at hl
      obtain ⟨o, g1, g2, g3⟩ := hs ns nm oid hl (by
        intro hx; simp only [Option.some.injEq, Prod.mk.injEq] at hx; exact hn hx.1.symm)
      have := (hf oid o g1).1
      rw [if_neg (by omega)]
      exact ⟨o, g1, g2, g3⟩
  · intro id o ho
    rw [bindNew_objs] at ho
    rw [bindNew_next]
    split at ho
    · rename_i hid; cases ho; rw [h1]; omega
    · have := hf id o ho; omega

/-- overwrite the object registered under `(k, name)` by a fresh unanalysed object (`*existing = *emptyTmpl`) -/
theorem overwrite_inv (w : World) (k : Nat) (name : String) (ex : Nat) (ho : TObj) (h : InvR w)
    (hex : alookup (w.ns k).set name = some ex) (h1 : ho.status = .unset) (h2 : ho.ns < w.next) :
    InvRx (some (k, name)) (w.setObj ex ho) := by
  obtain ⟨ha, hs, hf⟩ := h
  obtain ⟨oex, e1, e2, e3⟩ := hs k name ex hex (fun hx => nomatch hx)
  refine ⟨?_, ?_, ?_⟩
  · apply ainv_frame w _ ha
    · intro id o' hl hok
      rw [objs_setObj] at hl
      split at hl
      · cases hl; rw [h1] at hok; cases hok
      · exact ⟨o', hl, hok, rfl, rfl⟩
    · intro j; exact .inl ⟨rfl, rfl, fun h => h⟩
  · intro ns nm oid hl hx
    have hl' : alookup (w.ns ns).set nm = some oid := hl
    obtain ⟨o, g1, g2, g3⟩ := hs ns nm oid hl' (fun hx => nomatch hx)
    rw [objs_setObj]
    by_cases hid : oid = ex
    · subst hid
      rw [e1] at g1; cases g1
      exact absurd (by rw [← g2, ← g3, e2, e3]) hx
    · rw [if_neg hid]; exact ⟨o, g1, g2, g3⟩
  · intro id o hl
    rw [objs_setObj] at hl
    split at hl
    · rename_i hid; cases hl
      exact ⟨hid ▸ (hf ex oex e1).1, h2⟩
    · exact hf id o hl

theorem assocNew_eq (w : World) (nsId : Nat) (name : String) :
    w.assocNew nsId name =
      bindNew (match alookup (w.ns nsId).set name with
        | some ex =>
          (match nlookup (w.newSet name).1.objs (w.newSet name).2 with
           | some ho => (w.newSet name).1.setObj ex ho
           | none => (w.newSet name).1)
        | none => w) nsId name { ns := nsId, name := name } := by
  unfold World.assocNew bindNew
  rfl

theorem modObj_inv (w : World) (tid : Nat) (t t' : TObj) (h : InvR w) (ht : nlookup w.objs tid = some t)
    (h1 : t'.ns = t.ns) (h2 : t'.name = t.name) (h3 : t'.status = t.status) : InvR (w.setObj tid t') := by
  obtain ⟨ha, hs, hf⟩ := h
  refine ⟨?_, ?_, ?_⟩
  · apply ainv_frame w _ ha
    · intro id o' hl hok
      rw [objs_setObj] at hl
      split at hl
      · rename_i hid; cases hl
        exact ⟨t, hid ▸ ht, h3 ▸ hok, h1, h2⟩
      · exact ⟨o', hl, hok, rfl, rfl⟩
    · intro j; exact .inl ⟨rfl, rfl, fun h => h⟩
  · intro ns nm oid hl hx
    have hl' : alookup (w.ns ns).set nm = some oid := hl
    obtain ⟨o, g1, g2, g3⟩ := hs ns nm oid hl' hx
    rw [objs_setObj]
    by_cases hid : oid = tid
    · subst hid
      rw [ht] at g1; cases g1
      rw [if_pos rfl]
      exact ⟨t', rfl, h1.trans g2, h2.trans g3⟩
    · rw [if_neg hid]; exact ⟨o, g1, g2, g3⟩
  · intro id o hl
    rw [objs_setObj] at hl
    split at hl
    · rename_i hid; cases hl
      have := hf tid t ht
      exact ⟨hid ▸ this.1, h1 ▸ this.2⟩
    · exact hf id o hl

theorem setNs_inv (w : World) (k : Nat) (n : NS) (h : InvR w) (hset : n.set = (w.ns k).set)
    (hk : NsSame w (w.setNs k n) k ∨ NsNew w (w.setNs k n) k) : InvR (w.setNs k n) := by
  obtain ⟨ha, hs, hf⟩ := h
  refine ⟨ainv_frame w _ ha (fun id o' hl hok => ⟨o', hl, hok, rfl, rfl⟩) (fun j => ?_),
    fun ns nm oid hl hx => hs ns nm oid ?_ hx, hf⟩
  · by_cases hj : j = k
    · subst hj; exact hk
    · exact .inl (by rw [NsSame, ns_setNs, if_neg hj]; exact ⟨rfl, rfl, fun h => h⟩)
  · rw [ns_setNs] at hl
    by_cases hj : ns = k
    · subst hj; rw [if_pos rfl, hset] at hl; exact hl
    · rw [if_neg hj] at hl; exact hl

/-- replace the text set of a set that has not been executed (Parse before the first Execute) -/
theorem setText_inv (w : World) (k : Nat) (n : NS) (h : InvR w) (hesc : (w.ns k).escaped = false)
    (hn1 : n.set = (w.ns k).set) (hn2 : n.esc = (w.ns k).esc) : InvR (w.setNs k n) := by
  refine setNs_inv w k n h hn1 (.inr ?_)
  obtain ⟨e1, e2, e3⟩ := h.1.2.1 k hesc
  rw [NsNew, ns_setNs_same, hn2]
  refine ⟨e1, e2, e3, fun id o g1 g2 g3 => ?_⟩
  have := h.1.2.2.2 id o g1 g2
  rw [g3, hesc] at this; cases this

theorem setFlags_inv (w : World) (k : Nat) (n : NS) (h : InvR w) (h1 : n.text = (w.ns k).text)
    (h2 : n.esc = (w.ns k).esc) (h3 : n.set = (w.ns k).set) (h4 : (w.ns k).escaped = true → n.escaped = true) :
    InvR (w.setNs k n) :=
  setNs_inv w k n h h3 (.inl (by rw [NsSame, ns_setNs_same]; exact ⟨h1, h2, h4⟩))

theorem bind_inv (w : World) (h id : Nat) (hi : InvR w) : InvR (w.bind h id) := hi


theorem newSet_snd_obj (w : World) (name : String) :
    nlookup (w.newSet name).1.objs (w.newSet name).2 = some { ns := w.next, name := name } := by
  rw [newSet_objs]; exact if_pos rfl

theorem bindNew_snd_obj (w : World) (k : Nat) (name : String) (obj : TObj) :
    nlookup (bindNew w k name obj).1.objs (bindNew w k name obj).2 = some obj := by
  show nlookup (bindNew w k name obj).1.objs w.next = some obj
  rw [bindNew_objs, if_pos rfl]

theorem assocNew_snd_obj (w : World) (k : Nat) (name : String) :
    nlookup (w.assocNew k name).1.objs (w.assocNew k name).2 = some { ns := k, name := name } := by
  rw [assocNew_eq]; exact bindNew_snd_obj _ _ _ _


/-! ### 3. Execute / ExecuteTemplate: one analysis -/

theorem top_invR (w w' : World) (ns : Nat) (name : String) (r : Option ErrCode) (hi : InvR w)
    (hesc : (w.ns ns).escaped = true) (h : escapeTemplateTop w ns name = .inr (w', r)) : InvR w' := by
  have hinv := inv_top w w' ns name r hi.inv h
  obtain ⟨⟨_, he, _, hoe⟩, hs, hf⟩ := hi
  obtain ⟨hset, hobjs⟩ := top_objs w w' ns name r h
  have hoth := ns_top h
  have hesc' : (w'.ns ns).escaped = true := by rw [escapeTemplateTop_escaped w ns name w' r h]; exact hesc
  have hnext : w'.next = w.next := (fields_top h).2.2.1
  refine ⟨⟨hinv.1, ?_, hinv.2.2, ?_⟩, ?_, ?_⟩
  · intro k hk
    by_cases hkn : k = ns
    · subst hkn; rw [hesc'] at hk; cases hk
    · rw [hoth k hkn] at hk ⊢; exact he k hk
  · intro id o' h1 h2
    have key : ∀ o : TObj, o'.ns = o.ns → (w.ns o.ns).escaped = true → (w'.ns o'.ns).escaped = true := by
      intro o hns hb
      rw [hns]
      by_cases hkn : o.ns = ns
      · rw [hkn]; exact hesc'
      · rw [hoth _ hkn]; exact hb
    rcases hobjs id o' h1 with h3 | ⟨o, h3, hso, hst⟩
    · exact key o' rfl (hoe id o' h3 h2)
    · obtain ⟨_, hset'⟩ := hst h2
      obtain ⟨o2, g1, g2, _⟩ := hs ns name id hset' (fun hx => nomatch hx)
      rw [h3] at g1; cases g1
      rw [hso.1, g2]; exact hesc'
  · intro k nm oid h1 hx
    rw [hset k] at h1
    obtain ⟨o, g1, g2, g3⟩ := hs k nm oid h1 hx
    rcases objs_top h oid with f1 | ⟨o1, o', _, ho1, f1, hso, _⟩
    · exact ⟨o, f1.trans g1, g2, g3⟩
    · rw [g1] at ho1; cases ho1; exact ⟨o', f1, hso.1.trans g2, hso.2.1.trans g3⟩
  · intro id o' h1
    rw [hnext]
    rcases hobjs id o' h1 with h3 | ⟨o, h3, hso, _⟩
    · exact hf id o' h3
    · have := hf id o h3
      exact ⟨this.1, hso.1 ▸ this.2⟩


theorem setEscaped_invR (w : World) (k : Nat) (hi : InvR w) : InvR (w.setNs k { w.ns k with escaped := true }) :=
  setFlags_inv w k _ hi rfl rfl rfl (fun _ => rfl)


/-! ### 4. every operation is a chain of primitive updates -/

/-- The updates of which the operations are made: `Prim k X w w'` changes name space `k` and objects living in it
    (or allocates them), may reset the analysis status of the objects in `X` only, and comes with what the
    invariant needs to survive it. -/
inductive Prim : Nat → (Nat → Prop) → World → World → Prop
  | fresh (w : World) (root : TObj) (n1 : NS) (r1 : root.ns = w.next) (r3 : root.status = .unset)
      (n2 : n1.set = [(root.name, w.next + 1)])
      (n3 : n1.esc.output = [] ∧ n1.esc.derived = [] ∧ n1.esc.tmplEdits = []) :
      Prim w.next (fun _ => False) w
        ((({ w with next := w.next + 2 } : World).setObj (w.next + 1) root).setNs w.next n1)
  | bindNew (w : World) (k : Nat) (name : String) (obj : TObj) (hk : k < w.next) (h1 : obj.ns = k)
      (h2 : obj.name = name) (h3 : obj.status = .unset) : Prim k (fun _ => False) w (bindNew w k name obj).1
  | rebind (w : World) (k : Nat) (name : String) (ex : Nat) (ho obj : TObj) (hk : k < w.next)
      (hex : alookup (w.ns k).set name = some ex) (g1 : ho.status = .unset) (g2 : ho.ns < w.next) (h1 : obj.ns = k)
      (h2 : obj.name = name) (h3 : obj.status = .unset) :
      Prim k (fun id => id = ex) w (bindNew (w.setObj ex ho) k name obj).1
  | modObj (w : World) (tid : Nat) (t t' : TObj) (ht : nlookup w.objs tid = some t) (h1 : t'.ns = t.ns)
      (h2 : t'.name = t.name) (h3 : t'.status = t.status) : Prim t.ns (fun _ => False) w (w.setObj tid t')
  | setText (w : World) (k : Nat) (n : NS) (hesc : (w.ns k).escaped = false) (hn1 : n.set = (w.ns k).set)
      (hn2 : n.esc = (w.ns k).esc) : Prim k (fun _ => False) w (w.setNs k n)
  | setFlags (w : World) (k : Nat) (n : NS) (h1 : n.text = (w.ns k).text) (h2 : n.esc = (w.ns k).esc)
      (h3 : n.set = (w.ns k).set) (h4 : (w.ns k).escaped = true → n.escaped = true) :
      Prim k (fun _ => False) w (w.setNs k n)
  | top (w w' : World) (ns : Nat) (name : String) (r : Option ErrCode) (hesc : (w.ns ns).escaped = true)
      (h : escapeTemplateTop w ns name = .inr (w', r)) :
      Prim ns (fun id => alookup (w.ns ns).set name = some id) w w'
  | bind (k : Nat) (w : World) (h id : Nat) : Prim k (fun _ => False) w (w.bind h id)

theorem Prim.invR {k : Nat} {X : Nat → Prop} {w w' : World} (hp : Prim k X w w') (hi : InvR w) : InvR w' := by
  cases hp with
  | fresh _ root n1 r1 r3 n2 n3 =>
    exact freshSet_inv w _ root n1 hi rfl (fun _ => ns_setNs ..) (fun _ => objs_setObj ..) r1 r3 n2 n3
  | bindNew _ _ name obj hk h1 h2 h3 => exact bindNew_inv w k name obj (hi.weaken _) hk h1 h2 h3
  | rebind _ _ name ex ho obj hk hex g1 g2 h1 h2 h3 =>
    exact bindNew_inv _ k name obj (overwrite_inv w k name ex ho hi hex g1 g2) hk h1 h2 h3
  | modObj _ tid t t' ht h1 h2 h3 => exact modObj_inv w tid t t' hi ht h1 h2 h3
  | setText _ _ n hesc hn1 hn2 => exact setText_inv w k n hi hesc hn1 hn2
  | setFlags _ _ n h1 h2 h3 h4 => exact setFlags_inv w k n hi h1 h2 h3 h4
  | top _ _ _ name r hesc h => exact top_invR w w' k name r hi hesc h
  | bind _ _ h id => exact hi

theorem Prim.next_le {k : Nat} {X : Nat → Prop} {w w' : World} (hp : Prim k X w w') : w.next ≤ w'.next := by
  cases hp with
  | fresh => exact Nat.le_add_right _ 2
  | bindNew => rw [bindNew_next]; omega
  | rebind => rw [bindNew_next]; exact Nat.le_succ _
  | top _ _ _ _ _ _ h => rw [(fields_top h).2.2.1]; exact Nat.le_refl _
  | _ => exact Nat.le_refl _

/-- chains of primitive updates inside the name spaces `K`, resetting at most the objects `X`, from worlds that
    satisfy the invariant -/
inductive Steps (K : Nat → Prop) (X : Nat → Prop) : World → World → Prop
  | refl (w : World) : Steps K X w w
  | step {w w1 w2 : World} {k : Nat} {X' : Nat → Prop} (hp : Prim k X' w w1) (hk : K k) (hx : ∀ id, X' id → X id)
      (hi : InvR w) (ht : Steps K X w1 w2) : Steps K X w w2

section
variable {K K' X X' : Nat → Prop} {w w1 w2 : World}

theorem Steps.one {k : Nat} (hp : Prim k X' w w1) (hk : K k) (hx : ∀ id, X' id → X id) (hi : InvR w) :
    Steps K X w w1 := .step hp hk hx hi (.refl _)

theorem Steps.rel {Q : World → World → Prop} (hrefl : ∀ w, Q w w) (htrans : ∀ {a b c}, Q a b → Q b c → Q a c)
    (hprim : ∀ {k X' a b}, Prim k X' a b → K k → (∀ id, X' id → X id) → InvR a → Q a b) (h : Steps K X w w1) :
    Q w w1 := by
  induction h with
  | refl w => exact hrefl w
  | step hp hk hx hi _ ih => exact htrans (hprim hp hk hx hi) ih

theorem Steps.trans (h1 : Steps K X w w1) (h2 : Steps K X w1 w2) : Steps K X w w2 := by
  induction h1 with
  | refl => exact h2
  | step hp hk hx hi _ ih => exact .step hp hk hx hi (ih h2)

theorem Steps.mono (h : Steps K X w w1) (hK : ∀ j, K j → K' j) (hX : ∀ id, X id → X' id) : Steps K' X' w w1 := by
  induction h with
  | refl => exact .refl _
  | step hp hk hx hi _ ih => exact .step hp (hK _ hk) (fun id h => hX id (hx id h)) hi ih

theorem Steps.invR (h : Steps K X w w1) (hi : InvR w) : InvR w1 := by
  induction h with
  | refl => exact hi
  | step hp _ _ hi0 _ ih => exact ih (hp.invR hi0)

theorem Steps.next_le (h : Steps K X w w1) : w.next ≤ w1.next :=
  h.rel (Q := fun a b => a.next ≤ b.next) (fun _ => Nat.le_refl _) Nat.le_trans (fun hp _ _ _ => hp.next_le)

end

/-- the name spaces an operation with receiver in `k` (if any) may touch in a world whose allocation counter is `b` -/
def Ns (k : Option Nat) (b : Nat) (j : Nat) : Prop := k = some j ∨ b ≤ j

theorem Ns.mono {k : Option Nat} {b b' : Nat} (h : b ≤ b') (j : Nat) (hj : Ns k b' j) : Ns k b j :=
  hj.imp id (Nat.le_trans h)

theorem Steps.foldl {β} {X : Nat → Prop} {k : Nat} {f : World → β → World}
    (hf : ∀ w b, InvR w → k < w.next → Steps (Ns (some k) w.next) X w (f w b)) (l : List β) :
    ∀ w, InvR w → k < w.next → Steps (Ns (some k) w.next) X w (l.foldl f w) := by
  induction l with
  | nil => intro w _ _; exact .refl _
  | cons b t ih =>
    intro w hi hk
    have s1 := hf w b hi hk
    have hle := s1.next_le
    exact s1.trans ((ih _ (s1.invR hi) (by omega)).mono (Ns.mono hle) (fun _ h => h))

theorem prim_newSet (w : World) (name : String) : Prim w.next (fun _ => False) w (w.newSet name).1 :=
  .fresh w { ns := w.next, name := name } { set := [(name, w.next + 1)] } rfl rfl rfl ⟨rfl, rfl, rfl⟩

/-- `t.New(name)`: a new object; when the name is taken, first a hidden new set whose (empty) root is copied over
    the object registered under the name -/
theorem steps_assocNew (w : World) (nsId : Nat) (name : String) (hi : InvR w) (hk : nsId < w.next) :
    Steps (Ns (some nsId) w.next) (fun id => alookup (w.ns nsId).set name = some id) w (w.assocNew nsId name).1 := by
  rw [assocNew_eq]
  cases hex : alookup (w.ns nsId).set name with
  | none => exact .one (.bindNew w nsId name _ hk rfl rfl rfl) (.inl rfl) (fun _ h => h.elim) hi
  | some ex =>
    simp only []
    rw [newSet_snd_obj]
    simp only []
    have hex1 : alookup ((w.newSet name).1.ns nsId).set name = some ex := by
      rw [newSet_ns, if_neg (by omega)]; exact hex
    exact (Steps.one (prim_newSet w name) (.inr (Nat.le_refl _)) (fun _ h => h.elim) hi).trans
      (.one (.rebind (w.newSet name).1 nsId name ex _ _ (by rw [newSet_next]; omega) hex1 rfl
        (by rw [newSet_next]; exact Nat.lt_succ_of_lt (Nat.lt_succ_self _)) rfl rfl rfl) (.inl rfl)
        (fun id h => by rw [h]) ((prim_newSet w name).invR hi))

/-- one round of the loop of `apiParse` that binds every template of the common set to an object -/
def parseStep (k : Nat) (w : World) (p : String × Option Tree) : World :=
  let ns := w.ns k
  let (w, tid) := match alookup ns.set p.1 with
    | some tid => (w, tid)
    | none => w.assocNew k p.1
  match nlookup w.objs tid with
  | some t => w.setObj tid { t with registered := true, treeNil := p.2.isNone }
  | none => w

theorem steps_parseStep (k : Nat) (w : World) (p : String × Option Tree) (hi : InvR w) (hk : k < w.next) :
    Steps (Ns (some k) w.next) (fun _ => False) w (parseStep k w p) := by
  unfold parseStep
  simp only []
  cases hl : alookup (w.ns k).set p.1 with
  | some tid =>
    simp only []
    cases ht : nlookup w.objs tid with
    | none => exact .refl _
    | some t =>
      obtain ⟨o, g1, g2, _⟩ := hi.2.1 k p.1 tid hl (fun hx => nomatch hx)
      rw [ht] at g1; cases g1
      exact .one (.modObj w tid t _ ht rfl rfl rfl) (.inl (by rw [g2])) (fun _ h => h) hi
  | none =>
    simp only []
    have s1 := (steps_assocNew w k p.1 hi hk).mono (X' := fun _ => False) (fun _ h => h)
      (fun id h => by rw [hl] at h; cases h)
    rw [assocNew_snd_obj]
    exact s1.trans (.one (.modObj _ _ _ _ (assocNew_snd_obj w k p.1) rfl rfl rfl) (.inl rfl) (fun _ h => h)
      (s1.invR hi))

theorem steps_parseFold (k : Nat) (l : List (String × Option Tree)) : ∀ w, InvR w → k < w.next →
    Steps (Ns (some k) w.next) (fun _ => False) w (l.foldl (parseStep k) w) :=
  Steps.foldl (steps_parseStep k) l

/-- `Parse` is refused (no object, or the set has been executed) and changes nothing, or it updates the receiver's
    registration and the text set and then runs one `parseStep` per template of the set -/
theorem apiParse_cases (w : World) (h : Nat) (defs : List Tree) :
    (∃ s, apiParse w h defs = (w, s)) ∨
    ∃ oid o, ∃ text : TextSet, ∃ reg : Bool, w.obj h = some (oid, o) ∧ (w.ns o.ns).escaped = false ∧
      defs.foldl (fun acc tr => addParseTree acc.1 o.name acc.2 tr) ((w.ns o.ns).text, o.registered) = (text, reg) ∧
      apiParse w h defs = (text.foldl (parseStep o.ns)
        ((w.setObj oid { o with registered := reg }).setNs o.ns { w.ns o.ns with text := text }), "ok") := by
  unfold apiParse
  cases hobj : w.obj h with
  | none => exact .inl ⟨_, rfl⟩
  | some q =>
    obtain ⟨oid, o⟩ := q
    simp only []
    cases hesc : (w.ns o.ns).escaped with
    | true => simp only [if_true]; exact .inl ⟨_, rfl⟩
    | false =>
      simp only [Bool.false_eq_true, if_false]
      generalize htr : defs.foldl _ ((w.ns o.ns).text, o.registered) = tr
      obtain ⟨text, reg⟩ := tr
      exact .inr ⟨oid, o, text, reg, rfl, hesc, htr, by rw [hesc]; rfl⟩

theorem steps_apiParse (w : World) (h : Nat) (defs : List Tree) (hi : InvR w) :
    Steps (Ns ((w.obj h).map (·.2.ns)) w.next) (fun _ => False) w (apiParse w h defs).1 := by
  rcases apiParse_cases w h defs with ⟨_, hc⟩ | ⟨oid, o, text, reg, hobj, hesc, _, hc⟩ <;> rw [hc]
  · exact .refl _
  · rw [hobj]
    have hlk := (obj_inv hobj).2
    have s1 : Steps (Ns (some o.ns) w.next) (fun _ => False) w (w.setObj oid { o with registered := reg }) :=
      .one (.modObj w oid o _ hlk rfl rfl rfl) (.inl rfl) (fun _ h => h) hi
    have s2 := s1.trans (.one (.setText _ o.ns { w.ns o.ns with text := text } hesc rfl rfl) (.inl rfl) (fun _ h => h)
      (s1.invR hi))
    exact s2.trans (steps_parseFold o.ns text _ (s2.invR hi) (hi.2.2 oid o hlk).2)

/-- one round of the loop of `Clone` that creates the objects of the new set -/
def cloneStep (nsId : Nat) (w : World) (p : String × Option Tree) : World :=
  (bindNew w nsId p.1 { ns := nsId, name := p.1, registered := true, treeNil := p.2.isNone }).1

theorem steps_cloneFold (nsId : Nat) (l : List (String × Option Tree)) : ∀ w, InvR w → nsId < w.next →
    Steps (Ns (some nsId) w.next) (fun _ => False) w (l.foldl (cloneStep nsId) w) :=
  Steps.foldl (fun w p hi hk => .one (.bindNew w nsId p.1 _ hk rfl rfl rfl) (.inl rfl) (fun _ h => h) hi) l

theorem cloneFold_set_isSome (k : Nat) (name : String) (l : List (String × Option Tree)) : ∀ w,
    (alookup (w.ns k).set name).isSome = true → (alookup ((l.foldl (cloneStep k) w).ns k).set name).isSome = true :=
  fun w h => foldl_ind (P := fun x => (alookup (x.ns k).set name).isSome = true) l w h fun p _ x hx => by
    unfold cloneStep
    rw [bindNew_ns, if_pos rfl]
    exact isSome_aset _ _ _ _ hx

/-- the head of `Clone`: the brand-new set `w.next` with its root object `w.next + 1` -/
def cloneHead (w : World) (name : String) (ctext : TextSet) : World :=
  (({ w with next := w.next + 2 } : World).setObj (w.next + 1)
    { ns := w.next, name := name, registered := (ctext.lookup name).isSome,
      treeNil := !(match ctext.lookup name with | some (some _) => true | _ => false) }).setNs w.next
    { set := [(name, w.next + 1)], text := ctext }

theorem prim_cloneHead (w : World) (name : String) (ctext : TextSet) :
    Prim w.next (fun _ => False) w (cloneHead w name ctext) :=
  .fresh w _ _ rfl rfl rfl ⟨rfl, rfl, rfl⟩

/-- the text set of a clone: the receiver's, with the receiver's own tree hidden when the receiver is not the
    registered object -/
def cloneText (w : World) (o : TObj) : TextSet :=
  if o.registered then (w.ns o.ns).text
  else (w.ns o.ns).text.map fun p => if p.1 == o.name then (p.1, none) else p

/-- `Clone` refuses and changes nothing, or builds `cloneHead`, adds one object per template of the (copied) text set
    and binds the handle to the object registered under the receiver's name -/
theorem apiClone_cases (w : World) (h h' : Nat) :
    (∃ s, apiClone w h h' = (w, s) ∧ s ≠ "ok") ∨
    ∃ oid o, w.obj h = some (oid, o) ∧ o.status = .unset ∧
      ∃ rid, alookup (((cloneText w o).foldl (cloneStep w.next) (cloneHead w o.name (cloneText w o))).ns w.next).set
          o.name = some rid ∧
        apiClone w h h' =
          (((cloneText w o).foldl (cloneStep w.next) (cloneHead w o.name (cloneText w o))).bind h' rid, "ok") := by
  generalize hr : apiClone w h h' = r
  unfold apiClone at hr
  split at hr
  · subst hr; exact .inl ⟨_, rfl, by decide⟩
  · rename_i oid o hobj
    simp only [] at hr
    split at hr
    · subst hr; exact .inl ⟨_, rfl, by decide⟩
    · rename_i hst
      split at hr
      · subst hr; exact .inl ⟨_, rfl, by decide⟩
      · refine .inr ⟨oid, o, hobj, by simpa using hst, ?_⟩
        have hW : ∀ W, W = (cloneText w o).foldl (cloneStep w.next) (cloneHead w o.name (cloneText w o)) →
            (match alookup (W.ns w.next).set o.name with
              | some rid => (W.bind h' rid, "ok")
              | none => (W, "unsupported")) = r := fun W hW => by rw [hW]; exact hr
        have hs := cloneFold_set_isSome w.next o.name (cloneText w o) (cloneHead w o.name (cloneText w o))
          (by unfold cloneHead; rw [ns_setNs, if_pos rfl, alookup_cons, if_pos rfl]; rfl)
        generalize (cloneText w o).foldl (cloneStep w.next) (cloneHead w o.name (cloneText w o)) = W at hW hs ⊢
        have := hW W rfl
        cases hl : alookup (W.ns w.next).set o.name with
        | some rid => rw [hl] at this; exact ⟨rid, rfl, this.symm⟩
        | none => rw [hl] at hs; cases hs

theorem steps_apiClone (w : World) (h h' : Nat) (hi : InvR w) :
    Steps (Ns none w.next) (fun _ => False) w (apiClone w h h').1 := by
  rcases apiClone_cases w h h' with ⟨_, hc, _⟩ | ⟨oid, o, _, _, hc⟩
  · rw [hc]; exact .refl _
  · have s0 : Steps (Ns none w.next) (fun _ => False) w _ :=
      .one (prim_cloneHead w o.name (cloneText w o)) (.inr (Nat.le_refl _)) (fun _ h => h) hi
    have s1 := s0.trans ((steps_cloneFold w.next (cloneText w o) _ (s0.invR hi) (by show w.next < w.next + 2; omega)).mono
      (fun j hj => .inr (by
        rcases hj with hj | hj
        · cases hj; exact Nat.le_refl _
        · exact Nat.le_trans (Nat.le_add_right _ 2) hj)) (fun _ h => h))
    obtain ⟨rid, _, hc⟩ := hc
    rw [hc]
    exact s1.trans (.one (.bind w.next _ _ _) (.inr (Nat.le_refl _)) (fun _ h => h) (s1.invR hi))

/-- the objects whose analysis `Execute` on `h` may (re)do: the one registered under the receiver's own name, when
    the receiver is not analysed yet -/
def ExecMarks (w : World) (h : Nat) (id : Nat) : Prop :=
  ∃ rid r, w.obj h = some (rid, r) ∧ r.status = .unset ∧ alookup (w.ns r.ns).set r.name = some id

/-- … and `ExecuteTemplate(name)`: the object registered under `name`, when it is not analysed yet -/
def ExecTMarks (w : World) (h : Nat) (name : String) (id : Nat) : Prop :=
  ∃ rid r t, w.obj h = some (rid, r) ∧ alookup (w.ns r.ns).set name = some id ∧ nlookup w.objs id = some t ∧
    t.status = .unset

theorem steps_critExecute (w : World) (h : Nat) (hi : InvR w) :
    Steps (Ns ((w.obj h).map (·.2.ns)) w.next) (ExecMarks w h) w (critExecute w h).1 := by
  rcases critExecute_cases w h with ⟨_, hc⟩ | ⟨rid, r, ho, ⟨_, hc, _⟩ | ⟨w', oc, _, hs, _, he, hc, _⟩⟩ <;>
    rw [hc]
  · exact .refl _
  all_goals
    have s1 : Steps (Ns ((w.obj h).map (·.2.ns)) w.next) (ExecMarks w h) w
        (w.setNs r.ns { w.ns r.ns with escaped := true }) :=
      .one (.setFlags w r.ns _ rfl rfl rfl (fun _ => rfl)) (.inl (by rw [ho]; rfl)) (fun _ hx => hx.elim) hi
  · exact s1
  · exact s1.trans (.one (.top _ w' r.ns r.name oc (by rw [ns_setNs_same]) he) (.inl (by rw [ho]; rfl))
      (fun id hx => ⟨rid, r, ho, hs, by rw [ns_setNs_same] at hx; exact hx⟩) (s1.invR hi))

theorem steps_critExecuteTemplate (w : World) (h : Nat) (name : String) (hi : InvR w) :
    Steps (Ns ((w.obj h).map (·.2.ns)) w.next) (ExecTMarks w h name) w (critExecuteTemplate w h name).1 := by
  rcases critExecuteTemplate_cases w h name with
    ⟨_, hc⟩ | ⟨rid, r, ho, ⟨_, hc, _⟩ | ⟨tid, t, w', oc, _, hl, hn, hs, _, he, hc, _⟩⟩ <;> rw [hc]
  · exact .refl _
  all_goals
    have s1 : Steps (Ns ((w.obj h).map (·.2.ns)) w.next) (ExecTMarks w h name) w
        (w.setNs r.ns { w.ns r.ns with escaped := true }) :=
      .one (.setFlags w r.ns _ rfl rfl rfl (fun _ => rfl)) (.inl (by rw [ho]; rfl)) (fun _ hx => hx.elim) hi
  · exact s1
  · refine s1.trans (.one (.top _ w' r.ns name oc (by rw [ns_setNs_same]) he) (.inl (by rw [ho]; rfl))
      (fun id hx => ?_) (s1.invR hi))
    rw [ns_setNs_same] at hx
    have hx' : alookup (w.ns r.ns).set name = some id := hx
    rw [hl] at hx'; cases hx'
    exact ⟨rid, r, t, ho, hl, hn, hs⟩

theorem steps_apiLookup (K : Nat → Prop) (w : World) (h : Nat) (name : String) (h' : Nat) (hi : InvR w)
    (hK : K w.next) : Steps K (fun _ => False) w (apiLookup w h name h').1 := by
  unfold apiLookup
  split
  · exact .refl _
  · split
    · exact .refl _
    · split <;> exact .one (.bind w.next _ _ _) hK (fun _ h => h) hi


/-! ### 5. every operation of the API state machine keeps the invariant -/

theorem invR_step (w : World) (op : Op) (hi : InvR w) : InvR (Api.step w op).1 := by
  cases op with
  | new h name => exact (prim_newSet w name).invR hi
  | assocNew h name h' =>
    simp only [Api.step]
    cases hobj : w.obj h with
    | none => exact hi
    | some p => exact (steps_assocNew w p.2.ns name hi (hi.2.2 p.1 p.2 (obj_inv hobj).2).2).invR hi
  | parse h defs => exact (steps_apiParse w h defs hi).invR hi
  | clone h h' => exact (steps_apiClone w h h' hi).invR hi
  | lookup h name h' => exact (steps_apiLookup (fun _ => True) w h name h' hi trivial).invR hi
  | templates h => exact hi
  | csp h =>
    simp only [Api.step]
    cases hobj : w.obj h with
    | none => exact hi
    | some p => exact setFlags_inv w _ _ hi rfl rfl rfl (fun h => h)
  | exec h d => rw [step_exec]; exact (steps_critExecute w h hi).invR hi
  | execHTML h d => rw [step_execHTML]; exact (steps_critExecute w h hi).invR hi
  | execT h n d => rw [step_execT]; exact (steps_critExecuteTemplate w h n hi).invR hi
  | execTHTML h n d => rw [step_execTHTML]; exact (steps_critExecuteTemplate w h n hi).invR hi


/-! ### 6. reachable worlds -/

/-- the empty world the harness starts from (any validators, fuel, counter and handle table) -/
def Initial (w : World) : Prop := w.objs = [] ∧ w.nss = []

/-- closure of the initial worlds under EVERY operation of `Api.step` -/
inductive Reachable : World → Prop where
  | init (w : World) (h : Initial w) : Reachable w
  | step (w : World) (op : Op) (h : Reachable w) : Reachable (Api.step w op).1

theorem invR_initial (w : World) (h : Initial w) : InvR w := by
  obtain ⟨ho, hn⟩ := h
  have hns : ∀ k, w.ns k = {} := by intro k; unfold World.ns; rw [hn]; rfl
  have hobj : ∀ id, nlookup w.objs id = none := by intro id; rw [ho]; rfl
  refine ⟨⟨?_, ?_, ?_, ?_⟩, ?_, ?_⟩
  · intro k; rw [hns]; exact goodNs_fresh _ rfl rfl rfl
  · intro k _; rw [hns]; exact ⟨rfl, rfl, rfl⟩
  · intro id o h1; rw [hobj] at h1; cases h1
  · intro id o h1; rw [hobj] at h1; cases h1
  · intro ns nm oid h1; rw [hns] at h1; cases h1
  · intro id o h1; rw [hobj] at h1; cases h1

theorem invR_reachable (w : World) (h : Reachable w) : InvR w := by
  induction h with
  | init w h => exact invR_initial w h
  | step w op _ ih => exact invR_step w op ih

theorem reachable_run (w : World) (ops : List Op) (h : Reachable w) : Reachable (Api.run w ops) := by
  induction ops generalizing w with
  | nil => exact h
  | cons op t ih => exact ih _ (Reachable.step w op h)

/-- C09 for every world a program can build. For every reachable world `w`, all threads of calls of the
    concurrent API started in `w` and every schedule, the concurrent run and the serial run (`Api.step` at the moment
    of each critical section) agree: same shared state, every thread gets the serial results. No hypothesis on `w`
    other than reachability. -/
theorem C09_api_serializable_reachable (w : World) (hr : Reachable w) (thr : List (Thr World Pend Ret))
    (hfresh : ∀ t ∈ thr, t.pending = none ∧ t.done = [] ∧ ∀ c ∈ t.todo, U c) (evs : List Ev) :
    Rel U Inv Done (run { s := w, thr := thr } evs) (runSerial { s := w, thr := thr } evs) :=
  C09_api_serializable { s := w, thr := thr } (invR_reachable w hr).inv hfresh evs

theorem C09_api_results_reachable (w : World) (hr : Reachable w) (thr : List (Thr World Pend Ret))
    (hfresh : ∀ t ∈ thr, t.pending = none ∧ t.done = [] ∧ ∀ c ∈ t.todo, U c) (evs : List Ev)
    (i : Nat) (ta tb : Thr World Pend Ret) (ha : (run { s := w, thr := thr } evs).thr[i]? = some ta)
    (hb : (runSerial { s := w, thr := thr } evs).thr[i]? = some tb) (hidle : ta.pending = none) :
    ta.done = tb.done ∧ (run { s := w, thr := thr } evs).s = (runSerial { s := w, thr := thr } evs).s :=
  C09_api_results { s := w, thr := thr } (invR_reachable w hr).inv hfresh evs i ta tb ha hb hidle


/-! ### 7. a kernel-checked example

The set of `Frozen.Demo` (`h`, `A`, `B`, `bad`) is parsed, cloned, `bad` and `A` are executed (the first fails and
leaves pending edits), `t.New("late")` is called on the EXECUTED set (finding new-after-exec), `B` is executed on
the clone, `h` is executed and then replaced by `t.New("h")` (`*existing = *emptyTmpl`: the analysed object moves
to a brand-new set). The resulting world is reachable; it has analysed objects, non-empty escapers and three name spaces. -/
namespace Example

def data : Value := .map (.cons "X" (.str [97, 60, 98]) .nil)

def ops : List Op :=
  [ .new 0 "root", .parse 0 SafeHtml.Proofs.Frozen.Demo.defs, .clone 0 1,
    .execT 0 "bad" data, .execT 0 "A" data, .assocNew 0 "late" 2, .execT 1 "B" data, .execT 0 "h" data, .assocNew 0 "h" 4 ]

def w : World := Api.run { v := liteValidators, fuel := 60 } ops

theorem w_reachable : Reachable w := reachable_run _ ops (Reachable.init _ ⟨rfl, rfl⟩)

theorem w_nontrivial :
    (w.objs.any (fun p => p.2.status == .ok) && w.nss.any (fun p => !p.2.esc.output.isEmpty) &&
      w.nss.any (fun p => p.2.escaped && p.2.set.any (fun q => q.1 == "late")) && decide (3 ≤ w.nss.length)) = true := by
  decide +kernel

/-- three threads: Execute-family calls on both sets and a Lookup -/
def threads : List (Thr World Pend Ret) :=
  [ { todo := [execTemplateCall 0 "B" data false, execTemplateCall 0 "A" data true] },
    { todo := [execTemplateCall 1 "A" data false, lookupCall 1 "h" 3] },
    { todo := [execTemplateCall 0 "h" data false, templatesCall 1] } ]

theorem threads_ok : ∀ t ∈ threads, t.pending = none ∧ t.done = [] ∧ ∀ c ∈ t.todo, U c := by
  intro t ht
  simp only [threads, List.mem_cons, List.mem_nil_iff, or_false] at ht
  rcases ht with rfl | rfl | rfl
  · refine ⟨rfl, rfl, fun c hc => ?_⟩
    simp only [List.mem_cons, List.mem_nil_iff, or_false] at hc
    rcases hc with rfl | rfl
    · exact ⟨.execT 0 "B" data, rfl⟩
    · exact ⟨.execTHTML 0 "A" data, rfl⟩
  · refine ⟨rfl, rfl, fun c hc => ?_⟩
    simp only [List.mem_cons, List.mem_nil_iff, or_false] at hc
    rcases hc with rfl | rfl
    · exact ⟨.execT 1 "A" data, rfl⟩
    · exact ⟨.lookup 1 "h" 3, rfl⟩
  · refine ⟨rfl, rfl, fun c hc => ?_⟩
    simp only [List.mem_cons, List.mem_nil_iff, or_false] at hc
    rcases hc with rfl | rfl
    · exact ⟨.execT 0 "h" data, rfl⟩
    · exact ⟨.templates 1, rfl⟩

theorem serializable (evs : List Ev) :
    Rel U Inv Done (run { s := w, thr := threads } evs) (runSerial { s := w, thr := threads } evs) :=
  C09_api_serializable_reachable w w_reachable threads threads_ok evs

/-- for one schedule in which every unlocked phase is delayed past all critical sections, the kernel evaluates
    both runs: the results coincide (as the theorem says) -/
def sched : List Ev :=
  [.crit 0, .crit 1, .crit 2, .post 2, .crit 2, .post 1, .crit 1, .post 0, .crit 0, .post 1, .post 2, .post 0]

theorem sched_same :
    ((run { s := w, thr := threads } sched).thr.map (fun t => t.done.map Ret.str)) =
    ((runSerial { s := w, thr := threads } sched).thr.map (fun t => t.done.map Ret.str)) := by
  decide +kernel

end Example

/-! ### What is and is not covered

`invR_step` holds for EVERY `Op`; nothing had to be excluded: `t.New` on an executed set (new-after-exec) only adds an
`.unset` object and a set entry, which `GoodNs`/`Settled` do not see; `Clone` of an executed template is refused by the
model and a successful `Clone` creates an empty escaper; `Parse` on an executed set is refused, and on a non-executed
set the escaper is empty (`EscGate`) and no object is `.ok` (`OkEscaped`). Hence `C09_api_serializable_reachable` has
no hypothesis but reachability from an `Initial` world (no objects, no name spaces; any validators, fuel, counter and
handle table).

Outside: the calls `Name` / `DefinedTemplates` (not operations of `Api.step`), and construction operations running
CONCURRENTLY with executions (`U` contains only the concurrent API: Execute*, Lookup, Templates — New/Parse/Clone are
sequential set-up operations in the property text); the correspondence model ↔ real package is checked by the harness,
not proved.
-/

end SafeHtml.Proofs.ConcReach

namespace SafeHtml.Proofs.ConcApi
open SafeHtml SafeHtml.Model.Tmpl SafeHtml.Model.Conc SafeHtml.Proofs.Frozen SafeHtml.Proofs.ConcReach

/-! #### non-vacuity: the set of `Frozen.Demo` (templates `h`, `A`, `B`, `bad`), any threads, any schedule -/

theorem demo_serializable (thr : List (Thr World Pend Ret))
    (hfresh : ∀ t ∈ thr, t.pending = none ∧ t.done = [] ∧ ∀ c ∈ t.todo, U c) (evs : List Ev) :
    Rel U Inv Done (run { s := SafeHtml.Proofs.Frozen.Demo.w0, thr := thr } evs)
      (runSerial { s := SafeHtml.Proofs.Frozen.Demo.w0, thr := thr } evs) :=
  C09_api_serializable_reachable _ (reachable_run _ _ (.init _ ⟨rfl, rfl⟩)) thr hfresh evs

end SafeHtml.Proofs.ConcApi
