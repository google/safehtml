/-
C01 on the model's own analysis (`escapeList`), rewriting (`commit`) and execution (`walkList`, `textExecute`).
(A) Straight-line templates: `commit` turns the analysed nodes into `outNodes` (`applyEdits_out`), a successful walk of
    them is `Layer3E2E.exec` on the argument values (`walk_exec`), `escapeList` refines `analyse`: `C01_straight_line_exec`.
(B) `{{if}}` / `{{with}}` with `{{else}}`: a branch is accepted when both arms end in `Ctx.eq`-equal contexts; two
    executions along the same control path are simulated (`C01_branches`; with the model's analysis, `C01_branches_model`).
-/
import SafeHtml.Proofs.Layer3E2E
import SafeHtml.Model.Tmpl.Api
set_option linter.unusedSimpArgs false
namespace SafeHtml.Proofs.Layer3Branch
open SafeHtml SafeHtml.Model SafeHtml.Model.Tmpl SafeHtml.Spec SafeHtml.Spec.HtmlTok SafeHtml.Generated.Policy
open SafeHtml.Props.C01 (InertPos run_nil run_cons run_append)
open SafeHtml.Props.C02 (Untrusted)
open SafeHtml.Proofs.HtmlTokSim
open SafeHtml.Proofs.Layer3 SafeHtml.Proofs.Layer3E2E

/-! ## (A) execution of the rewritten tree -/

/-- the argument of an action `{{.}}` or `{{.A.B}}` -/
def ActArg (a : Arg) : Prop := a = .dot ∨ ∃ ns, a = .field ns

/-- the pipeline `{{a}}` -/
def actPipe (a : Arg) : Pipe := { cmds := [{ args := [a] }] }

/-- the pipeline `{{a | f₁ | … | fₙ}}` that `commit` leaves for an action with chain `ch` -/
def chainPipe (a : Arg) (ch : List String) : Pipe := { cmds := { args := [a] } :: ch.map identCmd }

def argVal (d : Value) : Arg → Except ExecErr Value
  | .dot => .ok d
  | .field ns => fieldChain d ns
  | _ => .error .unsupported

/-- the parse-tree nodes of a straight-line template whose actions print the arguments `as` (ids `i, i+1, …`;
    missing arguments default to dot) -/
def toNodesA : Nat → List Piece → List Arg → List Node
  | _, [], _ => []
  | i, .text s :: ps, as => .text i s :: toNodesA (i + 1) ps as
  | i, .action :: ps, a :: as => .action i (actPipe a) :: toNodesA (i + 1) ps as
  | i, .action :: ps, [] => .action i (actPipe .dot) :: toNodesA (i + 1) ps []

/-- the nodes after `commit` has applied the edits: emitted texts, pipelines with the sanitizer chains -/
def outNodes : Nat → List EPiece → List Arg → List Node
  | _, [], _ => []
  | i, .text o :: es, as => .text i o :: outNodes (i + 1) es as
  | i, .action ch :: es, a :: as => .action i (chainPipe a ch) :: outNodes (i + 1) es as
  | i, .action ch :: es, [] => .action i (chainPipe .dot ch) :: outNodes (i + 1) es []

/-- the values the actions print for data `d`: `none` if an argument cannot be evaluated -/
def argVals (d : Value) : List EPiece → List Arg → Option (List Value)
  | [], _ => some []
  | .text _ :: es, as => argVals d es as
  | .action _ :: es, a :: as =>
    match argVal d a with
    | .ok v => (argVals d es as).map (v :: ·)
    | .error _ => none
  | .action _ :: es, [] => (argVals d es []).map (d :: ·)

/-! The three definitions treat a missing argument as `.`: an action consumes `as.headD .dot` and leaves `as.tail`. -/

theorem toNodesA_action (i : Nat) (ps : List Piece) (as : List Arg) :
    toNodesA i (.action :: ps) as = .action i (actPipe (as.headD .dot)) :: toNodesA (i + 1) ps as.tail := by
  cases as <;> rfl

theorem outNodes_action (i : Nat) (ch : List String) (es : List EPiece) (as : List Arg) :
    outNodes i (.action ch :: es) as = .action i (chainPipe (as.headD .dot) ch) :: outNodes (i + 1) es as.tail := by
  cases as <;> rfl

theorem argVals_action (d : Value) (ch : List String) (es : List EPiece) (as : List Arg) :
    argVals d (.action ch :: es) as =
      match argVal d (as.headD .dot) with
      | .ok v => (argVals d es as.tail).map (v :: ·)
      | .error _ => none := by
  cases as <;> rfl

theorem actArg_dot : ActArg .dot := Or.inl rfl

theorem actArgs_uncons {as : List Arg} (h : ∀ a ∈ as, ActArg a) : ActArg (as.headD .dot) ∧ ∀ a ∈ as.tail, ActArg a := by
  cases as with
  | nil => exact ⟨actArg_dot, fun a ha => by cases ha⟩
  | cons a as => exact ⟨h a (by simp), fun x hx => h x (List.mem_cons_of_mem _ hx)⟩

/-- run-time errors of a chain as text/template reports them -/
def liftErr : Except RunErr Value → Except ExecErr Value
  | .ok v => .ok v
  | .error .sanitizer => .error .exec
  | .error .unsupported => .error .unsupported

theorem go_chain (d root : Value) : ∀ (ch : List String) (v : Value),
    evalPipe.go d root (ch.map identCmd) (some v) = liftErr (runChain ch v)
  | [], v => rfl
  | f :: fs, v => by
    simp only [List.map_cons, evalPipe.go, identCmd, evalCmd, runChain]
    cases h : runFn f v with
    | ok w => simp [bind, Except.bind, go_chain d root fs w, identCmd]
    | error e => cases e <;> simp [bind, Except.bind, liftErr]

theorem evalPipe_chain (d root : Value) (a : Arg) (ha : ActArg a) (ch : List String) :
    evalPipe d root (chainPipe a ch) =
      match argVal d a with
      | .ok v => liftErr (runChain ch v)
      | .error e => .error e := by
  have harg : evalCmd d root { args := [a] } none = argVal d a := by
    rcases ha with rfl | ⟨ns, rfl⟩ <;> simp [evalCmd, argVal]
  simp only [evalPipe, chainPipe, List.isEmpty_nil, Bool.not_true, Bool.false_eq_true, if_false, evalPipe.go, harg]
  cases argVal d a with
  | ok v => simp [bind, Except.bind, go_chain]
  | error e => simp [bind, Except.bind]

theorem walk_action (text : TextSet) (depth f : Nat) (d root : Value) (out : Bytes) (id : Nat) (a : Arg)
    (ha : ActArg a) (ch : List String) :
    walkNode false text depth (f + 1) d root out (.action id (chainPipe a ch)) =
      match argVal d a with
      | .ok v =>
        (match runChain ch v with
         | .ok (.str b) => ⟨out ++ b, none⟩
         | .ok _ => ⟨out, some .unsupported⟩
         | .error .sanitizer => ⟨out, some .exec⟩
         | .error .unsupported => ⟨out, some .unsupported⟩)
      | .error e => ⟨out, some e⟩ := by
  simp only [walkNode, evalPipe_chain d root a ha ch]
  cases argVal d a with
  | error e => rfl
  | ok v =>
    cases h : runChain ch v with
    | error e => cases e <;> simp [liftErr, h]
    | ok w => cases w <;> simp [liftErr, h]

theorem walk_action_ok {text : TextSet} {depth f : Nat} {d root : Value} {out : Bytes} {id : Nat} {a : Arg}
    {ch : List String} (ha : ActArg a)
    (h : (walkNode false text depth (f + 1) d root out (.action id (chainPipe a ch))).err = none) :
    ∃ x b, argVal d a = .ok x ∧ runChain ch x = .ok (.str b) ∧
      walkNode false text depth (f + 1) d root out (.action id (chainPipe a ch)) = ⟨out ++ b, none⟩ := by
  rw [walk_action text depth f d root out id a ha ch] at h ⊢
  cases hav : argVal d a with
  | error e => simp [hav] at h
  | ok x =>
    simp only [hav] at h ⊢
    cases hr : runChain ch x with
    | error e => cases e <;> simp [hr] at h
    | ok w =>
      cases w with
      | str b => exact ⟨x, b, rfl, hr, rfl⟩
      | _ => simp [hr] at h

theorem walkList_cons (plain : Bool) (text : TextSet) (depth f : Nat) (d root : Value) (out : Bytes) (n : Node)
    (ns : NodeList) :
    walkList plain text depth (f + 1) d root out (.cons n ns) =
      (match (walkNode plain text depth f d root out n).err with
       | some _ => walkNode plain text depth f d root out n
       | none => walkList plain text depth f d root (walkNode plain text depth f d root out n).out ns) := by
  rw [walkList]
  cases (walkNode plain text depth f d root out n).err <;> rfl

theorem walkList_zero (plain : Bool) (text : TextSet) (depth : Nat) (d r : Value) (out : Bytes) (l : NodeList) :
    (walkList plain text depth 0 d r out l).err = some .fuel := by simp [walkList]

theorem walkNode_zero (plain : Bool) (text : TextSet) (depth : Nat) (d root : Value) (out : Bytes) (n : Node) :
    (walkNode plain text depth 0 d root out n).err = some .fuel := by simp [walkNode]

theorem walkList_cons_ok {plain : Bool} {text : TextSet} {depth f : Nat} {d root : Value} {out : Bytes} {n : Node}
    {ns : NodeList} (h : (walkList plain text depth f d root out (.cons n ns)).err = none) :
    ∃ f', f = f' + 2 ∧ (walkNode plain text depth (f' + 1) d root out n).err = none ∧
      walkList plain text depth f d root out (.cons n ns) =
        walkList plain text depth (f' + 1) d root (walkNode plain text depth (f' + 1) d root out n).out ns := by
  match f, h with
  | 0, h => simp [walkList_zero] at h
  | 1, h => rw [walkList_cons] at h; simp [walkNode_zero] at h
  | f' + 2, h =>
    rw [walkList_cons] at h
    cases hn : (walkNode plain text depth (f' + 1) d root out n).err with
    | some e => simp [hn] at h
    | none => exact ⟨f', rfl, hn, by rw [walkList_cons, hn]⟩

theorem walkNode_text (plain : Bool) (text : TextSet) (depth f : Nat) (d root : Value) (out : Bytes) (id : Nat)
    (b : Bytes) : walkNode plain text depth (f + 1) d root out (.text id b) = ⟨out ++ b, none⟩ := by
  simp only [walkNode]

theorem exec_walk (text : TextSet) (depth : Nat) (d root : Value) : ∀ (es : List EPiece) (i : Nat) (as : List Arg)
    (vs : List Value) (o out : Bytes) (f : Nat), (∀ a ∈ as, ActArg a) → argVals d es as = some vs →
    exec es vs = some o → es.length + 1 ≤ f →
    walkList false text depth f d root out (NodeList.ofList (outNodes i es as)) = ⟨out ++ o, none⟩
  | [], i, as, vs, o, out, f, _, hv, he, hf => by
    obtain ⟨f', rfl⟩ : ∃ f', f = f' + 1 := ⟨f - 1, by omega⟩
    simp only [argVals, Option.some.injEq] at hv
    subst hv
    simp only [exec, Option.some.injEq] at he
    subst he
    simp [outNodes, NodeList.ofList, walkList]
  | .text t :: es, i, as, vs, o, out, f, has, hv, he, hf => by
    obtain ⟨f', rfl⟩ : ∃ f', f = f' + 2 := ⟨f - 2, by simp at hf; omega⟩
    obtain ⟨o', he', rfl⟩ := exec_text he
    have := exec_walk text depth d root es (i + 1) as vs o' (out ++ t) (f' + 1) has hv he' (by simp at hf ⊢; omega)
    simp only [outNodes, NodeList.ofList]
    rw [walkList_cons, walkNode_text]
    simp only [this, List.append_assoc]
  | .action ch :: es, i, as, vs, o, out, f, has, hv, he, hf => by
    obtain ⟨f', rfl⟩ : ∃ f', f = f' + 2 := ⟨f - 2, by simp at hf; omega⟩
    obtain ⟨ha, hat⟩ := actArgs_uncons has
    obtain ⟨x, vs', b, o', rfl, hr, he', rfl⟩ := exec_action he
    rw [argVals_action] at hv
    cases hav : argVal d (as.headD .dot) with
    | error e => rw [hav] at hv; cases hv
    | ok y =>
      rw [hav] at hv
      simp only [Option.map_eq_some_iff, List.cons.injEq] at hv
      obtain ⟨vs'', hv, rfl, rfl⟩ := hv
      have := exec_walk text depth d root es (i + 1) as.tail vs'' o' (out ++ b) (f' + 1) hat hv he'
        (by simp at hf ⊢; omega)
      rw [outNodes_action]
      simp only [NodeList.ofList]
      rw [walkList_cons, walk_action text depth f' d root out i _ ha ch]
      simp only [hav, hr, this, List.append_assoc]

theorem walk_exec (text : TextSet) (depth : Nat) (d root : Value) : ∀ (es : List EPiece) (i : Nat) (as : List Arg)
    (out : Bytes) (f : Nat), (∀ a ∈ as, ActArg a) →
    (walkList false text depth f d root out (NodeList.ofList (outNodes i es as))).err = none →
    ∃ vs o, argVals d es as = some vs ∧ exec es vs = some o ∧
      (walkList false text depth f d root out (NodeList.ofList (outNodes i es as))).out = out ++ o
  | [], i, as, out, 0, _, h => by simp [walkList] at h
  | [], i, as, out, f + 1, _, h => ⟨[], [], rfl, rfl, by simp [outNodes, NodeList.ofList, walkList]⟩
  | .text t :: es, i, as, out, f, has, h => by
    simp only [outNodes, NodeList.ofList] at h ⊢
    obtain ⟨f', rfl, _, hw⟩ := walkList_cons_ok h
    rw [hw, walkNode_text] at h ⊢
    obtain ⟨vs, o, h1, h2, h3⟩ := walk_exec text depth d root es (i + 1) as (out ++ t) (f' + 1) has h
    exact ⟨vs, t ++ o, h1, by simp [exec, h2], by rw [h3]; simp⟩
  | .action ch :: es, i, as, out, f, has, h => by
    obtain ⟨ha, hat⟩ := actArgs_uncons has
    rw [outNodes_action] at h ⊢
    simp only [NodeList.ofList] at h ⊢
    obtain ⟨f', rfl, hn, hw⟩ := walkList_cons_ok h
    obtain ⟨x, b, hav, hr, hx⟩ := walk_action_ok ha hn
    rw [hw, hx] at h ⊢
    obtain ⟨vs, o, h1, h2, h3⟩ := walk_exec text depth d root es (i + 1) as.tail (out ++ b) (f' + 1) hat h
    exact ⟨x :: vs, b ++ o, by rw [argVals_action, hav, h1]; rfl, by simp [exec, hr, h2], by rw [h3]; simp⟩

/-! ### `commit`: applying the edits of the analysis -/

theorem ensure_chain (a : Arg) (ha : ActArg a) (ch : List String) :
    ensurePipelineContains (actPipe a) ch = some (chainPipe a ch) := by
  unfold ensurePipelineContains
  cases ch with
  | nil => rfl
  | cons f fs =>
    rcases ha with rfl | ⟨ns, rfl⟩ <;> simp [actPipe, chainPipe, List.getLast?]

theorem find_none_of_any {β} (l : List (EditKey × β)) (k : EditKey) (h : l.any (fun p => p.1 == k) = false) :
    l.find? (fun p => p.1 == k) = none := by
  rw [List.find?_eq_none]
  intro x hx
  have := (List.any_eq_false.1 h) x hx
  simpa using this

theorem find_append_other {β} (l : List (EditKey × β)) (tn : String) (i k : Nat) (x : β) (h : k < i) :
    (l ++ [((tn, i), x)]).find? (fun p => p.1 == (tn, k)) = l.find? (fun p => p.1 == (tn, k)) := by
  rw [List.find?_append]
  have : List.find? (fun p => p.1 == (tn, k)) [((tn, i), x)] = none := by simp; omega
  simp [this]

theorem find_addText (tn : String) (i k : Nat) (c : Ctx) (s : Bytes) (te : List (EditKey × Bytes)) (h : k < i) :
    (addText tn i c s te).find? (fun p => p.1 == (tn, k)) = te.find? (fun p => p.1 == (tn, k)) := by
  simp only [addText]
  split
  · exact find_append_other _ tn i k _ h
  · rfl

theorem find_editsOf (v : Validators) (tn : String) : ∀ (ps : List Piece) (i : Nat) (c : Ctx) (e : Esc) (k : Nat),
    k < i →
    (editsOf v tn i c ps e).textEdits.find? (fun p => p.1 == (tn, k)) = e.textEdits.find? (fun p => p.1 == (tn, k)) ∧
    (editsOf v tn i c ps e).actionEdits.find? (fun p => p.1 == (tn, k)) =
      e.actionEdits.find? (fun p => p.1 == (tn, k))
  | [], i, c, e, k, _ => ⟨rfl, rfl⟩
  | .text s :: ps, i, c, e, k, hk => by
    simp only [editsOf]
    obtain ⟨h1, h2⟩ := find_editsOf v tn ps (i + 1) (scanD c s).1
      { e with textEdits := addText tn i c s e.textEdits } k (by omega)
    exact ⟨h1.trans (find_addText tn i k c s _ hk), h2⟩
  | .action :: ps, i, c, e, k, hk => by
    simp only [editsOf]
    split
    · next c' ch _ =>
      obtain ⟨h1, h2⟩ := find_editsOf v tn ps (i + 1) c' { e with actionEdits := e.actionEdits ++ [((tn, i), ch)] } k
        (by omega)
      exact ⟨h1, h2.trans (find_append_other _ tn i k _ hk)⟩
    · exact ⟨rfl, rfl⟩

theorem applyEdits_cons (tn : String) (E : Esc) (n n' : Node) (ns ns' : NodeList)
    (h1 : Node.applyEdits tn E n = some n') (h2 : NodeList.applyEdits tn E ns = some ns') :
    NodeList.applyEdits tn E (.cons n ns) = some (.cons n' ns') := by
  rw [NodeList.applyEdits]; simp [h1, h2, bind, Option.bind]

/-- `applyEdits` on a text node whose edit in `E` is the one the analysis records (none when the text is emitted
    unchanged): the node carries the emitted text -/
theorem applyEdits_text_node (tn : String) (E : Esc) (i : Nat) (c c' : Ctx) (s out : Bytes)
    (te : List (EditKey × Bytes)) (hsc : scan c s = some (c', out)) (hk : te.any (fun p => p.1 == (tn, i)) = false)
    (hf : E.textEdits.find? (fun p => p.1 == (tn, i)) = (addText tn i c s te).find? (fun p => p.1 == (tn, i))) :
    Node.applyEdits tn E (.text i s) = some (.text i out) := by
  have hk := find_none_of_any _ _ hk
  simp only [Node.applyEdits, hf, Option.some.injEq]
  simp only [scan] at hsc
  simp only [addText]
  cases het : escapeText false c s with
  | panic => simp [het] at hsc
  | done c2 nt =>
    cases nt with
    | none =>
      simp only [het, Option.some.injEq, Prod.mk.injEq] at hsc
      simp [hk, hsc.2]
    | some nb =>
      simp only [het, Option.some.injEq, Prod.mk.injEq] at hsc
      simp [List.find?_append, hk, hsc.2]

theorem applyEdits_action_node (tn : String) (E : Esc) (i : Nat) (a : Arg) (ha : ActArg a) (ch : List String)
    (ae : List (EditKey × List String)) (hk : ae.any (fun p => p.1 == (tn, i)) = false)
    (hf : E.actionEdits.find? (fun p => p.1 == (tn, i)) =
      (ae ++ [((tn, i), ch)]).find? (fun p => p.1 == (tn, i))) :
    Node.applyEdits tn E (.action i (actPipe a)) = some (.action i (chainPipe a ch)) := by
  have hf2 : E.actionEdits.find? (fun q => q.1 == (tn, i)) = some ((tn, i), ch) := by
    rw [hf]; simp [List.find?_append, find_none_of_any _ _ hk]
  simp [Node.applyEdits, hf2, ensure_chain a ha ch]

/-- `commit` turns the analysed nodes into `outNodes`: if the edits of `E` for the node ids of the template are
    those recorded by the analysis, every text node carries the emitted text and every action the pipeline
    `a | f₁ | … | fₙ` -/
theorem applyEdits_out (v : Validators) (tn : String) (E : Esc) : ∀ (ps : List Piece) (i : Nat) (c cf : Ctx) (e : Esc)
    (es : List EPiece) (as : List Arg), analyse v c ps = some (cf, es) → Fresh tn i e → (∀ a ∈ as, ActArg a) →
    (∀ k, k < i + ps.length →
      E.textEdits.find? (fun p => p.1 == (tn, k)) =
        (editsOf v tn i c ps e).textEdits.find? (fun p => p.1 == (tn, k)) ∧
      E.actionEdits.find? (fun p => p.1 == (tn, k)) =
        (editsOf v tn i c ps e).actionEdits.find? (fun p => p.1 == (tn, k))) →
    NodeList.applyEdits tn E (NodeList.ofList (toNodesA i ps as)) = some (NodeList.ofList (outNodes i es as))
  | [], i, c, cf, e, es, as, ha, _, _, _ => by
    simp only [analyse, Option.some.injEq, Prod.mk.injEq] at ha
    obtain ⟨_, rfl⟩ := ha
    simp [toNodesA, outNodes, NodeList.ofList, NodeList.applyEdits]
  | .text s :: ps, i, c, cf, e, es, as, ha, hfr, has, hag => by
    obtain ⟨c', out, es', hsc, _, hrec, rfl⟩ := analyse_text ha
    simp only [editsOf, scanD_of_scan hsc] at hag
    have hfind := ((hag i (by simp)).1).trans
      (find_editsOf v tn ps (i + 1) c' { e with textEdits := addText tn i c s e.textEdits } i (by omega)).1
    have ih := applyEdits_out v tn E ps (i + 1) c' cf _ es' as hrec (Fresh_addText tn i c s e hfr) has
      (fun k hk' => hag k (by simp at hk' ⊢; omega))
    simp only [toNodesA, outNodes, NodeList.ofList]
    exact applyEdits_cons tn E _ _ _ _
      (applyEdits_text_node tn E i c c' s out _ hsc (hfr i (Nat.le_refl _)).2 hfind) ih
  | .action :: ps, i, c, cf, e, es, as, ha, hfr, has, hag => by
    obtain ⟨c', ch, es', hact, hrec, rfl⟩ := analyse_action ha
    obtain ⟨ha1, hat⟩ := actArgs_uncons has
    simp only [editsOf, hact] at hag
    have hfind := ((hag i (by simp)).2).trans
      (find_editsOf v tn ps (i + 1) c' { e with actionEdits := e.actionEdits ++ [((tn, i), ch)] } i (by omega)).2
    have ih := applyEdits_out v tn E ps (i + 1) c' cf _ es' as.tail hrec (Fresh_addAction tn i ch e hfr) hat
      (fun k hk' => hag k (by simp at hk' ⊢; omega))
    rw [toNodesA_action, outNodes_action]
    simp only [NodeList.ofList]
    exact applyEdits_cons tn E _ _ _ _
      (applyEdits_action_node tn E i _ ha1 ch _ (hfr i (Nat.le_refl _)).1 hfind) ih

/-! ### the analysis of the nodes with arguments -/

theorem escapeList_cons_ok {env : Env} {f : Nat} {tn : String} {e e1 : Esc} {c c1 : Ctx} {n : Node} (ns : NodeList)
    (h : escapeNode env f tn e c n = .ok (e1, c1)) :
    escapeList env (f + 1) tn e c (.cons n ns) = escapeList env f tn e1 c1 ns := by
  rw [escapeList]
  simp only [h, bind, Out.bind]

theorem escapeAction_arg (env : Env) (tn : String) (e : Esc) (c c' : Ctx) (ch : List String) (i : Nat) (a : Arg)
    (ha : ActArg a) (hact : actionStep env.v c = some (c', ch))
    (hk : e.actionEdits.any (fun p => p.1 == (tn, i)) = false) :
    escapeAction env tn e c i (actPipe a) = .ok ({ e with actionEdits := e.actionEdits ++ [((tn, i), ch)] }, c') :=
  escapeAction_step env tn e c c' ch i (actPipe a) rfl
    (fun d => by rcases ha with rfl | ⟨ns, rfl⟩ <;> simp [predefinedCheck, predefinedCheck.go, actPipe]) hact hk

theorem escapeList_refinesA (env : Env) (hcsp : env.csp = false) (tn : String) :
    ∀ (ps : List Piece) (i : Nat) (c cf : Ctx) (e : Esc) (es : List EPiece) (as : List Arg) (f : Nat),
      analyse env.v c ps = some (cf, es) → Fresh tn i e → (∀ a ∈ as, ActArg a) → ps.length + 1 ≤ f →
      escapeList env f tn e c (NodeList.ofList (toNodesA i ps as)) = .ok (editsOf env.v tn i c ps e, cf)
  | [], i, c, cf, e, es, as, f, ha, _, _, hf => by
    obtain ⟨f', rfl⟩ : ∃ f', f = f' + 1 := ⟨f - 1, by omega⟩
    simp only [analyse, Option.some.injEq, Prod.mk.injEq] at ha
    simp [toNodesA, NodeList.ofList, escapeList, editsOf, ha.1]
  | .text s :: ps, i, c, cf, e, es, as, f, ha, hfr, has, hf => by
    obtain ⟨f', rfl⟩ : ∃ f', f = f' + 2 := ⟨f - 2, by simp at hf; omega⟩
    obtain ⟨c', out, es', hsc, _, hrec, _⟩ := analyse_text ha
    have h1 : escapeNode env (f' + 1) tn e c (.text i s) = _ :=
      (by simp only [escapeNode] : _ = escapeTextNode env tn e c i s).trans
        (escapeTextNode_scan env hcsp tn e c c' i s out hsc (hfr i (Nat.le_refl _)).2)
    simp only [toNodesA, NodeList.ofList, editsOf, scanD_of_scan hsc]
    rw [escapeList_cons_ok _ h1]
    exact escapeList_refinesA env hcsp tn ps (i + 1) c' cf _ es' as (f' + 1) hrec (Fresh_addText tn i c s e hfr) has
      (by simp at hf ⊢; omega)
  | .action :: ps, i, c, cf, e, es, as, f, ha, hfr, has, hf => by
    obtain ⟨f', rfl⟩ : ∃ f', f = f' + 2 := ⟨f - 2, by simp at hf; omega⟩
    obtain ⟨c', ch, es', hact, hrec, _⟩ := analyse_action ha
    obtain ⟨ha1, hat⟩ := actArgs_uncons has
    have h1 : escapeNode env (f' + 1) tn e c (.action i (actPipe (as.headD .dot))) = _ :=
      (by simp only [escapeNode] : _ = escapeAction env tn e c i (actPipe (as.headD .dot))).trans
        (escapeAction_arg env tn e c c' ch i _ ha1 hact (hfr i (Nat.le_refl _)).1)
    rw [toNodesA_action]
    simp only [NodeList.ofList, editsOf, hact]
    rw [escapeList_cons_ok _ h1]
    exact escapeList_refinesA env hcsp tn ps (i + 1) c' cf _ es' as.tail (f' + 1) hrec (Fresh_addAction tn i ch e hfr)
      hat (by simp at hf ⊢; omega)

/-! ### C01 for the model's execution -/

/-- every value an action of the template can print for data `d` is untrusted: `d` itself (for `{{.}}`) and the
    fields `{{.A.B}}` that are used -/
def LeavesUntrusted (d : Value) (as : List Arg) : Prop :=
  Untrusted d ∧ ∀ a ∈ as, ∀ x, argVal d a = .ok x → Untrusted x

theorem argVals_untrusted (d : Value) : ∀ (es : List EPiece) (as : List Arg) (vs : List Value),
    LeavesUntrusted d as → argVals d es as = some vs → ∀ x ∈ vs, Untrusted x
  | [], as, vs, _, h => by simp [argVals] at h; subst h; simp
  | .text _ :: es, as, vs, hl, h => argVals_untrusted d es as vs hl (by simpa [argVals] using h)
  | .action _ :: es, as, vs, hl, h => by
    rw [argVals_action] at h
    cases hav : argVal d (as.headD .dot) with
    | error e => rw [hav] at h; cases h
    | ok v =>
      rw [hav] at h
      simp only [Option.map_eq_some_iff] at h
      obtain ⟨vs', h, rfl⟩ := h
      have hv : Untrusted v := by
        cases as with
        | nil => simp only [List.headD, argVal, Except.ok.injEq] at hav; exact hav ▸ hl.1
        | cons a as => exact hl.2 a (by simp) _ hav
      have hl' : LeavesUntrusted d as.tail := ⟨hl.1, fun b hb => hl.2 b (List.mem_of_mem_tail hb)⟩
      intro x hx
      rcases List.mem_cons.1 hx with rfl | hx
      · exact hv
      · exact argVals_untrusted d es as.tail vs' hl' h x hx

theorem C01_of_walks (v : Validators) (ps : List Piece) (as : List Arg) (has : ∀ a ∈ as, ActArg a) (cf : Ctx)
    (es : List EPiece) (hs : SimpleAll v {} ps) (ha : analyse v {} ps = some (cf, es))
    (text : TextSet) (depth f1 f2 : Nat) (d1 d2 root1 root2 : Value)
    (hu1 : LeavesUntrusted d1 as) (hu2 : LeavesUntrusted d2 as)
    (h1 : (walkList false text depth f1 d1 root1 [] (NodeList.ofList (outNodes 0 es as))).err = none)
    (h2 : (walkList false text depth f2 d2 root2 [] (NodeList.ofList (outNodes 0 es as))).err = none) :
    skeleton (HtmlTok.tokenize (walkList false text depth f1 d1 root1 [] (NodeList.ofList (outNodes 0 es as))).out).tokens =
      skeleton (HtmlTok.tokenize (walkList false text depth f2 d2 root2 [] (NodeList.ofList (outNodes 0 es as))).out).tokens ∧
    (HtmlTok.tokenize (walkList false text depth f1 d1 root1 [] (NodeList.ofList (outNodes 0 es as))).out).final =
      (HtmlTok.tokenize (walkList false text depth f2 d2 root2 [] (NodeList.ofList (outNodes 0 es as))).out).final ∧
    (cf.state = .text →
      (HtmlTok.tokenize (walkList false text depth f1 d1 root1 [] (NodeList.ofList (outNodes 0 es as))).out).final = .data ∧
      (HtmlTok.tokenize (walkList false text depth f2 d2 root2 [] (NodeList.ofList (outNodes 0 es as))).out).final = .data) := by
  obtain ⟨vs, o1, hv1, he1, ho1⟩ := walk_exec text depth d1 root1 es 0 as [] f1 has h1
  obtain ⟨ws, o2, hv2, he2, ho2⟩ := walk_exec text depth d2 root2 es 0 as [] f2 has h2
  rw [ho1, ho2]
  simp only [List.nil_append]
  exact C01_straight_line v ps cf es vs ws o1 o2 hs ha (argVals_untrusted d1 es as vs hu1 hv1)
    (argVals_untrusted d2 es as ws hu2 hv2) he1 he2

/-- C01 for straight-line templates, on the model's execution of the committed tree. The template `ps` with
    action arguments `as` is analysed (`escapeList`) and rewritten (`applyEdits`, what `commit` does) by the model;
    if the walks of the rewritten tree over two data values whose printed leaves are untrusted both end without
    error, the two outputs have the same markup skeleton and the same final tokenizer state (`data` when the
    template ends in the text context). -/
theorem C01_straight_line_walk (env : Env) (hcsp : env.csp = false) (tn : String) (ps : List Piece) (as : List Arg)
    (has : ∀ a ∈ as, ActArg a) (cf : Ctx) (es : List EPiece)
    (hs : SimpleAll env.v {} ps) (ha : analyse env.v {} ps = some (cf, es))
    (text : TextSet) (depth f1 f2 : Nat) (d1 d2 root1 root2 : Value)
    (hu1 : LeavesUntrusted d1 as) (hu2 : LeavesUntrusted d2 as) (root : NodeList)
    (hroot : NodeList.applyEdits tn (editsOf env.v tn 0 {} ps {}) (NodeList.ofList (toNodesA 0 ps as)) = some root)
    (h1 : (walkList false text depth f1 d1 root1 [] root).err = none)
    (h2 : (walkList false text depth f2 d2 root2 [] root).err = none) :
    escapeList env (ps.length + 1) tn {} {} (NodeList.ofList (toNodesA 0 ps as)) =
      .ok (editsOf env.v tn 0 {} ps {}, cf) ∧
    skeleton (HtmlTok.tokenize (walkList false text depth f1 d1 root1 [] root).out).tokens =
      skeleton (HtmlTok.tokenize (walkList false text depth f2 d2 root2 [] root).out).tokens ∧
    (HtmlTok.tokenize (walkList false text depth f1 d1 root1 [] root).out).final =
      (HtmlTok.tokenize (walkList false text depth f2 d2 root2 [] root).out).final ∧
    (cf.state = .text → (HtmlTok.tokenize (walkList false text depth f1 d1 root1 [] root).out).final = .data ∧
      (HtmlTok.tokenize (walkList false text depth f2 d2 root2 [] root).out).final = .data) := by
  have hfresh : Fresh tn 0 {} := fun k _ => ⟨rfl, rfl⟩
  have hout := applyEdits_out env.v tn (editsOf env.v tn 0 {} ps {}) ps 0 {} cf {} es as ha hfresh has
    (fun _ _ => ⟨rfl, rfl⟩)
  rw [hout] at hroot
  cases hroot
  exact ⟨escapeList_refinesA env hcsp tn ps 0 {} cf {} es as _ ha hfresh has (Nat.le_refl _),
    C01_of_walks env.v ps as has cf es hs ha text depth f1 f2 d1 d2 root1 root2 hu1 hu2 h1 h2⟩


/-- the analysis environment of a name space, as in `escapeTemplateTop` -/
def envOf (w : World) (nsId : Nat) : Env :=
  ⟨(w.ns nsId).text, fun n => (alookup (w.ns nsId).set n).isSome, (w.ns nsId).csp, w.v⟩

theorem textExecute_ok (w : World) (o : TObj) (d : Value) (out : Bytes) (tr : Tree) (hreg : o.registered = true)
    (hlook : (w.ns o.ns).text.lookup o.name = some (some tr)) (h : textExecute w o d = .ok out) :
    (walkList false (w.ns o.ns).text 0 w.fuel d d [] tr.root).err = none ∧
    out = (walkList false (w.ns o.ns).text 0 w.fuel d d [] tr.root).out := by
  simp only [textExecute, hreg, if_true, hlook] at h
  cases he : (walkList false (w.ns o.ns).text 0 w.fuel d d [] tr.root).err with
  | none => simp only [he] at h; cases h; exact ⟨rfl, rfl⟩
  | some e => cases e <;> simp [he] at h

/-- C01 for straight-line templates at the level of `textExecute` (the model function that the correspondence
    check compares with `Template.Execute` of the real package): the template object `o` is registered with the tree
    the model's `commit` produces for the straight-line template `ps` (its `escapeList` analysis is part of the
    conclusion); two executions over data whose printed leaves are untrusted that both return `ok` have the same
    markup skeleton and final tokenizer state. -/
theorem C01_straight_line_exec (w : World) (o : TObj) (hcsp : (w.ns o.ns).csp = false) (tn : String)
    (ps : List Piece) (as : List Arg) (has : ∀ a ∈ as, ActArg a) (cf : Ctx) (es : List EPiece)
    (hs : SimpleAll w.v {} ps) (ha : analyse w.v {} ps = some (cf, es))
    (tr : Tree) (hreg : o.registered = true) (hlook : (w.ns o.ns).text.lookup o.name = some (some tr))
    (hroot : NodeList.applyEdits tn (editsOf w.v tn 0 {} ps {}) (NodeList.ofList (toNodesA 0 ps as)) = some tr.root)
    (d1 d2 : Value) (hu1 : LeavesUntrusted d1 as) (hu2 : LeavesUntrusted d2 as) (o1 o2 : Bytes)
    (h1 : textExecute w o d1 = .ok o1) (h2 : textExecute w o d2 = .ok o2) :
    escapeList (envOf w o.ns) (ps.length + 1) tn {} {}
        (NodeList.ofList (toNodesA 0 ps as)) = .ok (editsOf w.v tn 0 {} ps {}, cf) ∧
    skeleton (HtmlTok.tokenize o1).tokens = skeleton (HtmlTok.tokenize o2).tokens ∧
    (HtmlTok.tokenize o1).final = (HtmlTok.tokenize o2).final ∧
    (cf.state = .text → (HtmlTok.tokenize o1).final = .data ∧ (HtmlTok.tokenize o2).final = .data) := by
  obtain ⟨e1, rfl⟩ := textExecute_ok w o d1 o1 tr hreg hlook h1
  obtain ⟨e2, rfl⟩ := textExecute_ok w o d2 o2 tr hreg hlook h2
  exact C01_straight_line_walk (envOf w o.ns) hcsp tn ps as has cf es hs ha (w.ns o.ns).text 0 w.fuel w.fuel d1 d2 d1 d2
    hu1 hu2 tr.root hroot e1 e2


/-! ### non-vacuity of (A): `<p title="{{.T}}">{{.T}}</p>` over map data -/

def exArgs : List Arg := [.field ["T"], .field ["T"]]
def exData (b : Bytes) : Value := .map (.cons "T" (.str b) .nil)

theorem exData_untrusted (b : Bytes) : LeavesUntrusted (exData b) exArgs := by
  refine ⟨fun t x h => by simp [exData, Value.indirect] at h, ?_⟩
  intro a ha x hx
  simp only [exArgs, List.mem_cons, List.not_mem_nil, or_false, or_self] at ha
  subst ha
  simp [argVal, fieldChain, exData, Value.indirect, KVList.get] at hx
  subst hx
  intro t y h; simp [Value.indirect] at h

example : NodeList.applyEdits "t" (editsOf v0 "t" 0 {} exTemplate {}) (NodeList.ofList (toNodesA 0 exTemplate exArgs)) =
    some (NodeList.ofList (outNodes 0 exOut exArgs)) :=
  applyEdits_out v0 "t" _ exTemplate 0 {} {} {} exOut exArgs ex_analyse (fun k _ => ⟨rfl, rfl⟩)
    (by intro a ha; simp [exArgs] at ha; subst ha; exact Or.inr ⟨_, rfl⟩) (fun _ _ => ⟨rfl, rfl⟩)

example : (walkList false [] 0 10 (exData [34, 62, 60]) (exData [34, 62, 60]) []
    (NodeList.ofList (outNodes 0 exOut exArgs))).err = none := by decide +kernel

/-! ## (B) branches -/

mutual
/-- a template with `{{if}}…{{else}}…{{end}}` / `{{with}}…{{else}}…{{end}}` branches (no range, no template calls) -/
inductive BP where
  | text (s : Bytes)
  | action
  | ifElse (t e : BPs)
inductive BPs where
  | nil
  | cons (p : BP) (ps : BPs)
end

mutual
inductive EB where
  | text (out : Bytes)
  | action (chain : List String)
  | ifElse (t e : EBs)
inductive EBs where
  | nil
  | cons (p : EB) (ps : EBs)
end

mutual
/-- analysis of one piece: context after it and the emitted piece. A branch is accepted when both arms are accepted
    from the same context and end in `Ctx.eq`-equal contexts; the analysis continues in their `join`. -/
def analyseP (v : Validators) : Ctx → BP → Option (Ctx × EB)
  | c, .text s =>
    match scan c s with
    | none => none
    | some (c', out) => if c'.state == .error then none else some (c', .text out)
  | c, .action =>
    match actionStep v c with
    | none => none
    | some (c', ch) => some (c', .action ch)
  | c, .ifElse t e =>
    match analyseL v c t, analyseL v c e with
    | some (ct, et), some (ce, ee) => if ct.eq ce then some (join ct ce, .ifElse et ee) else none
    | _, _ => none
def analyseL (v : Validators) : Ctx → BPs → Option (Ctx × EBs)
  | c, .nil => some (c, .nil)
  | c, .cons p ps =>
    match analyseP v c p with
    | none => none
    | some (c', ep) =>
      match analyseL v c' ps with
      | none => none
      | some (cf, es) => some (cf, .cons ep es)
end

mutual
/-- execution along a control path: each branch consumes one `Bool` of the path (`true` = first arm), each executed
    action one value; the unused rest of the path and of the values is returned -/
def execP : EB → List Bool → List Value → Option (Bytes × List Bool × List Value)
  | .text o, path, vs => some (o, path, vs)
  | .action ch, path, v :: vs =>
    match runChain ch v with
    | .ok (.str s) => some (s, path, vs)
    | _ => none
  | .action _, _, [] => none
  | .ifElse t e, b :: path, vs => if b then execL t path vs else execL e path vs
  | .ifElse _ _, [], _ => none
def execL : EBs → List Bool → List Value → Option (Bytes × List Bool × List Value)
  | .nil, path, vs => some ([], path, vs)
  | .cons p ps, path, vs =>
    match execP p path vs with
    | none => none
    | some (o, path', vs') =>
      match execL ps path' vs' with
      | none => none
      | some (o', path'', vs'') => some (o ++ o', path'', vs'')
end

mutual
/-- every static text is simple for the context it is scanned in, in both arms of every branch -/
def SimpleP (v : Validators) : Ctx → BP → Prop
  | c, .text s =>
    ∃ js out se, Simple js c.elemName c.state c.delim s out se ∧
      (memKey specialElements c.elemName = true → InTagState c.state → ∀ x ∈ s, x ≠ 60) ∧
      (js = true → isJsTemplateBalanced s = true)
  | c, .action => c.state = .beforeValue → c.attrName ≠ []
  | c, .ifElse t e => SimpleL v c t ∧ SimpleL v c e
def SimpleL (v : Validators) : Ctx → BPs → Prop
  | _, .nil => True
  | c, .cons p ps =>
    SimpleP v c p ∧
    match analyseP v c p with
    | some (c', _) => SimpleL v c' ps
    | none => True
end

/-! ### inversion of the analysis and of the execution -/

theorem analyseP_text {v : Validators} {c c' : Ctx} {s : Bytes} {ep : EB} (h : analyseP v c (.text s) = some (c', ep)) :
    ∃ out, scan c s = some (c', out) ∧ ep = .text out := by
  simp only [analyseP] at h
  split at h
  · cases h
  · next c1 out hsc =>
    split at h
    · cases h
    · simp only [Option.some.injEq, Prod.mk.injEq] at h
      obtain ⟨rfl, rfl⟩ := h
      exact ⟨out, hsc, rfl⟩

theorem analyseP_action {v : Validators} {c c' : Ctx} {ep : EB} (h : analyseP v c .action = some (c', ep)) :
    ∃ ch, actionStep v c = some (c', ch) ∧ ep = .action ch := by
  simp only [analyseP] at h
  split at h
  · cases h
  · next c1 ch hact =>
    simp only [Option.some.injEq, Prod.mk.injEq] at h
    obtain ⟨rfl, rfl⟩ := h
    exact ⟨ch, hact, rfl⟩

theorem analyseP_if {v : Validators} {c c' : Ctx} {t e : BPs} {ep : EB} (h : analyseP v c (.ifElse t e) = some (c', ep)) :
    ∃ ct et ce ee, analyseL v c t = some (ct, et) ∧ analyseL v c e = some (ce, ee) ∧ ct.eq ce = true ∧
      c' = join ct ce ∧ ep = .ifElse et ee := by
  simp only [analyseP] at h
  split at h
  · next ct et ce ee ht he =>
    split at h
    · next heq =>
      simp only [Option.some.injEq, Prod.mk.injEq] at h
      obtain ⟨rfl, rfl⟩ := h
      exact ⟨ct, et, ce, ee, ht, he, heq, rfl, rfl⟩
    · cases h
  · cases h

theorem analyseL_cons {v : Validators} {c cf : Ctx} {p : BP} {ps : BPs} {es : EBs}
    (h : analyseL v c (.cons p ps) = some (cf, es)) :
    ∃ c1 ep es', analyseP v c p = some (c1, ep) ∧ analyseL v c1 ps = some (cf, es') ∧ es = .cons ep es' := by
  simp only [analyseL] at h
  split at h
  · cases h
  · next c1 ep hp =>
    split at h
    · cases h
    · next cf' es' hrec =>
      simp only [Option.some.injEq, Prod.mk.injEq] at h
      obtain ⟨rfl, rfl⟩ := h
      exact ⟨c1, ep, es', hp, hrec, rfl⟩

theorem analyseL_nil {v : Validators} {c cf : Ctx} {es : EBs} (h : analyseL v c .nil = some (cf, es)) :
    cf = c ∧ es = .nil := by
  simp only [analyseL, Option.some.injEq, Prod.mk.injEq] at h
  exact ⟨h.1.symm, h.2.symm⟩

theorem execP_action {ch : List String} {path path' : List Bool} {vs vs' : List Value} {o : Bytes}
    (h : execP (.action ch) path vs = some (o, path', vs')) :
    ∃ x, vs = x :: vs' ∧ runChain ch x = .ok (.str o) ∧ path' = path := by
  cases vs with
  | nil => simp [execP] at h
  | cons x vs =>
    simp only [execP] at h
    cases hr : runChain ch x with
    | error e => simp [hr] at h
    | ok w =>
      cases w with
      | str b =>
        simp only [hr, Option.some.injEq, Prod.mk.injEq] at h
        obtain ⟨rfl, rfl, rfl⟩ := h
        exact ⟨x, rfl, hr, rfl⟩
      | _ => simp [hr] at h

theorem execL_cons {p : EB} {ps : EBs} {path path' : List Bool} {vs vs' : List Value} {o : Bytes}
    (h : execL (.cons p ps) path vs = some (o, path', vs')) :
    ∃ o1 p1 v1 o2, execP p path vs = some (o1, p1, v1) ∧ execL ps p1 v1 = some (o2, path', vs') ∧ o = o1 ++ o2 := by
  simp only [execL] at h
  split at h
  · cases h
  · next o1 p1 v1 hx =>
    split at h
    · cases h
    · next o2 p2 v2 hy =>
      simp only [Option.some.injEq, Prod.mk.injEq] at h
      obtain ⟨rfl, rfl, rfl⟩ := h
      exact ⟨o1, p1, v1, o2, hx, hy, rfl⟩

/-! ### the simulation along a template with branches -/

theorem Rel_congr (c c' : Ctx) (t : T) (h1 : c'.state = c.state) (h2 : c'.delim = c.delim)
    (h3 : c'.elemName = c.elemName) (h4 : c'.attrName = c.attrName) (h : Rel c t) : Rel c' t := by
  unfold Rel InTag at *
  rw [h1, h2, h3, h4]; exact h

theorem ctx_eq_fields (a b : Ctx) (h : a.eq b = true) :
    b.state = a.state ∧ b.delim = a.delim ∧ b.elemName = a.elemName ∧ b.attrName = a.attrName := by
  simp only [Ctx.eq, Bool.and_eq_true, beq_iff_eq] at h
  obtain ⟨⟨⟨⟨⟨⟨⟨h1, h2⟩, h3⟩, h4⟩, _⟩, _⟩, _⟩, _⟩ := h
  exact ⟨h1.symm, h2.symm, h3.symm, h4.symm⟩

/-- the join of two `Ctx.eq`-equal non-error contexts is the first one up to the name lists and the ambiguity flag -/
theorem join_eq (a b : Ctx) (ha : a.state ≠ .error) (h : a.eq b = true) :
    (join a b).state = a.state ∧ (join a b).delim = a.delim ∧ (join a b).elemName = a.elemName ∧
    (join a b).attrName = a.attrName := by
  have ha' : (a.state == State.error) = false := by simpa using ha
  have hb' : (b.state == State.error) = false := by rw [(ctx_eq_fields a b h).1]; exact ha'
  have he : ({ a with elemNames := joinNames a.elemName b.elemName a.elemNames b.elemNames,
                      attrNames := joinNames a.attrName b.attrName a.attrNames b.attrNames,
                      ambiguous := a.ambiguous || (a.attrValue != b.attrValue) || b.ambiguous } : Ctx).eq b = true := h
  simp only [join, joinCore, ha', hb', Bool.false_eq_true, if_false, he, if_true]
  simp

theorem rel_join_left (a b : Ctx) (t : T) (h : a.eq b = true) (hr : Rel a t) : Rel (join a b) t := by
  obtain ⟨h1, h2, h3, h4⟩ := join_eq a b (rel_not_error hr) h
  exact Rel_congr a _ t h1 h2 h3 h4 hr

theorem rel_join_right (a b : Ctx) (t : T) (h : a.eq b = true) (hr : Rel b t) : Rel (join a b) t := by
  obtain ⟨e1, e2, e3, e4⟩ := ctx_eq_fields a b h
  have ha : a.state ≠ .error := by rw [← e1]; exact rel_not_error hr
  obtain ⟨h1, h2, h3, h4⟩ := join_eq a b ha h
  exact Rel_congr b _ t (h1.trans e1.symm) (h2.trans e2.symm) (h3.trans e3.symm) (h4.trans e4.symm) hr

/-- what is carried through a template with branches, for two executions along the same control path -/
def Carried (c' : Ctx) (a b : T) (o1 o2 : Bytes) (path1 path2 : List Bool) (vs' ws' : List Value) : Prop :=
  path1 = path2 ∧ (∀ x ∈ vs', Untrusted x) ∧ (∀ x ∈ ws', Untrusted x) ∧
  Rel c' (run a o1) ∧ Rel c' (run b o2) ∧ Sim (run a o1) (run b o2)

mutual
theorem simP (v : Validators) : ∀ (p : BP) (c c' : Ctx) (a b : T) (ep : EB) (path path1 path2 : List Bool)
    (vs vs' ws ws' : List Value) (o1 o2 : Bytes), Rel c a → Rel c b → Sim a b → SimpleP v c p →
    analyseP v c p = some (c', ep) → (∀ x ∈ vs, Untrusted x) → (∀ x ∈ ws, Untrusted x) →
    execP ep path vs = some (o1, path1, vs') → execP ep path ws = some (o2, path2, ws') →
    Carried c' a b o1 o2 path1 path2 vs' ws'
  | .text s, c, c', a, b, ep, path, path1, path2, vs, vs', ws, ws', o1, o2, ha, hb, hsim, hsp, han, hu, hw, h1, h2 => by
    obtain ⟨out, hsc, rfl⟩ := analyseP_text han
    simp only [execP, Option.some.injEq, Prod.mk.injEq] at h1 h2
    obtain ⟨rfl, rfl, rfl⟩ := h1
    obtain ⟨rfl, rfl, rfl⟩ := h2
    obtain ⟨hra, hrb, hs⟩ := sim_text ha hb hsim hsp hsc
    exact ⟨rfl, hu, hw, hra, hrb, hs⟩
  | .action, c, c', a, b, ep, path, path1, path2, vs, vs', ws, ws', o1, o2, ha, hb, hsim, hsp, han, hu, hw, h1, h2 => by
    obtain ⟨ch, hact, rfl⟩ := analyseP_action han
    obtain ⟨x, rfl, hx, rfl⟩ := execP_action h1
    obtain ⟨y, rfl, hy, rfl⟩ := execP_action h2
    obtain ⟨_, hra, hrb, hs⟩ := sim_action ha hb hsim hsp hact (hu x (by simp)) (hw y (by simp)) hx hy
    exact ⟨rfl, fun z hz => hu z (by simp [hz]), fun z hz => hw z (by simp [hz]), hra, hrb, hs⟩
  | .ifElse t e, c, c', a, b, ep, path, path1, path2, vs, vs', ws, ws', o1, o2, ha, hb, hsim, hsp, han, hu, hw, h1,
      h2 => by
    obtain ⟨ct, et, ce, ee, ht, he, heq, rfl, rfl⟩ := analyseP_if han
    cases path with
    | nil => simp [execP] at h1
    | cons bch path =>
      cases bch with
      | true =>
        simp only [execP, if_true] at h1 h2
        obtain ⟨hp, hu', hw', hra, hrb, hs'⟩ := simL v t c ct a b et path path1 path2 vs vs' ws ws' o1 o2 ha hb hsim
          hsp.1 ht hu hw h1 h2
        exact ⟨hp, hu', hw', rel_join_left ct ce _ heq hra, rel_join_left ct ce _ heq hrb, hs'⟩
      | false =>
        simp only [execP, Bool.false_eq_true, if_false] at h1 h2
        obtain ⟨hp, hu', hw', hra, hrb, hs'⟩ := simL v e c ce a b ee path path1 path2 vs vs' ws ws' o1 o2 ha hb hsim
          hsp.2 he hu hw h1 h2
        exact ⟨hp, hu', hw', rel_join_right ct ce _ heq hra, rel_join_right ct ce _ heq hrb, hs'⟩
theorem simL (v : Validators) : ∀ (ps : BPs) (c cf : Ctx) (a b : T) (es : EBs) (path path1 path2 : List Bool)
    (vs vs' ws ws' : List Value) (o1 o2 : Bytes), Rel c a → Rel c b → Sim a b → SimpleL v c ps →
    analyseL v c ps = some (cf, es) → (∀ x ∈ vs, Untrusted x) → (∀ x ∈ ws, Untrusted x) →
    execL es path vs = some (o1, path1, vs') → execL es path ws = some (o2, path2, ws') →
    Carried cf a b o1 o2 path1 path2 vs' ws'
  | .nil, c, cf, a, b, es, path, path1, path2, vs, vs', ws, ws', o1, o2, ha, hb, hsim, _, han, hu, hw, h1, h2 => by
    obtain ⟨rfl, rfl⟩ := analyseL_nil han
    simp only [execL, Option.some.injEq, Prod.mk.injEq] at h1 h2
    obtain ⟨rfl, rfl, rfl⟩ := h1
    obtain ⟨rfl, rfl, rfl⟩ := h2
    exact ⟨rfl, hu, hw, ha, hb, hsim⟩
  | .cons p ps, c, cf, a, b, es, path, path1, path2, vs, vs', ws, ws', o1, o2, ha, hb, hsim, hsl, han, hu, hw, h1,
      h2 => by
    obtain ⟨c1, ep, es', hp, hrec, rfl⟩ := analyseL_cons han
    obtain ⟨hsp, hsrest⟩ := hsl
    simp only [hp] at hsrest
    obtain ⟨p1, pa1, va1, r1, hx1, hy1, rfl⟩ := execL_cons h1
    obtain ⟨p2, pa2, va2, r2, hx2, hy2, rfl⟩ := execL_cons h2
    obtain ⟨rfl, hu1, hw1, hra, hrb, hs1⟩ := simP v p c c1 a b ep path pa1 pa2 vs va1 ws va2 p1 p2 ha hb hsim hsp hp
      hu hw hx1 hx2
    have := simL v ps c1 cf (run a p1) (run b p2) es' pa1 path1 path2 va1 vs' va2 ws' r1 r2 hra hrb hs1 hsrest hrec
      hu1 hw1 hy1 hy2
    simpa [Carried, run_append] using this
end


/-- C01 for templates with branches, for the control path taken. Every static text is simple for the context it
    is scanned in (both arms of every branch), the analysis accepts (the two arms of each branch end in
    `Ctx.eq`-equal contexts), and two executions follow the same control path `path` with untrusted values and both
    succeed: then the outputs have the same markup skeleton and the same final tokenizer state (`data` when the
    template ends in the text context). Executions along different control paths may differ legitimately. -/
theorem C01_branches (v : Validators) (ps : BPs) (cf : Ctx) (es : EBs) (path p1 p2 : List Bool)
    (vs vs' ws ws' : List Value) (o1 o2 : Bytes)
    (hs : SimpleL v {} ps) (ha : analyseL v {} ps = some (cf, es))
    (hu : ∀ x ∈ vs, Untrusted x) (hw : ∀ x ∈ ws, Untrusted x)
    (h1 : execL es path vs = some (o1, p1, vs')) (h2 : execL es path ws = some (o2, p2, ws')) :
    skeleton (HtmlTok.tokenize o1).tokens = skeleton (HtmlTok.tokenize o2).tokens ∧
    (HtmlTok.tokenize o1).final = (HtmlTok.tokenize o2).final ∧
    (cf.state = .text → (HtmlTok.tokenize o1).final = .data ∧ (HtmlTok.tokenize o2).final = .data) := by
  obtain ⟨_, _, _, hr1, hr2, hsim⟩ := simL v ps {} cf {} {} es path p1 p2 vs vs' ws ws' o1 o2 Layer3.rel_init Layer3.rel_init
    (Sim.refl _) hs ha hu hw h1 h2
  exact C01_of_sim hr1 hr2 hsim

/-! ### non-vacuity of (B): `<p{{if .}} title="{{.}}"{{end}}>` -/

def bT0 : Bytes := [60, 112]                                   -- `<p`
def bT1 : Bytes := [32, 116, 105, 116, 108, 101, 61, 34]       -- ` title="`
def bT2 : Bytes := [34]                                        -- `"`
def bT3 : Bytes := [62]                                        -- `>`

def exBranch : BPs :=
  .cons (.text bT0) (.cons (.ifElse (.cons (.text bT1) (.cons .action (.cons (.text bT2) .nil))) .nil)
    (.cons (.text bT3) .nil))

def bC1 : Ctx := { state := .tag, elemName := [112] }

theorem b_scan0 : scan {} bT0 = some (bC1, bT0) := by decide +kernel
theorem b_scan1 : scan bC1 bT1 = some (cAttr, bT1) := by decide +kernel
theorem b_act : actionStep v0 cAttr = some (cAttr, ["_evalArgs", "_sanitizeHTML"]) := by decide +kernel
theorem b_scan2 : scan cAttr bT2 = some (bC1, bT2) := by decide +kernel
theorem b_scan3 : scan bC1 bT3 = some ({ state := .text, elemName := [112] }, bT3) := by decide +kernel
theorem b_join : join bC1 bC1 = bC1 := by decide +kernel

theorem hErrA : (cAttr.state == State.error) = false := by decide
theorem hErrB : (bC1.state == State.error) = false := by decide
theorem hErrT : (({ state := .text, elemName := [112] } : Ctx).state == State.error) = false := by decide
theorem hEq : bC1.eq bC1 = true := by decide

def exBranchOut : EBs :=
  .cons (.text bT0) (.cons (.ifElse (.cons (.text bT1) (.cons (.action ["_evalArgs", "_sanitizeHTML"])
    (.cons (.text bT2) .nil))) .nil) (.cons (.text bT3) .nil))

theorem b_thenArm : analyseL v0 bC1 (.cons (.text bT1) (.cons .action (.cons (.text bT2) .nil))) =
    some (bC1, .cons (.text bT1) (.cons (.action ["_evalArgs", "_sanitizeHTML"]) (.cons (.text bT2) .nil))) := by
  simp only [analyseL, analyseP, b_scan1, b_act, b_scan2, hErrA, hErrB, Bool.false_eq_true, if_false]

theorem b_if : analyseP v0 bC1 (.ifElse (.cons (.text bT1) (.cons .action (.cons (.text bT2) .nil))) .nil) =
    some (bC1, .ifElse (.cons (.text bT1) (.cons (.action ["_evalArgs", "_sanitizeHTML"]) (.cons (.text bT2) .nil)))
      .nil) := by
  rw [analyseP, b_thenArm]
  simp only [analyseL, b_join, hEq, if_true]

theorem b_analyse : analyseL v0 {} exBranch = some ({ state := .text, elemName := [112] }, exBranchOut) := by
  have h0 : analyseP v0 {} (.text bT0) = some (bC1, .text bT0) := by
    simp only [analyseP, b_scan0, hErrB, Bool.false_eq_true, if_false]
  have h3 : analyseP v0 bC1 (.text bT3) = some ({ state := .text, elemName := [112] }, .text bT3) := by
    simp only [analyseP, b_scan3]
    rfl
  simp only [exBranch, analyseL, h0, b_if, h3, exBranchOut]

theorem b_simple : SimpleL v0 {} exBranch := by
  have h0 : analyseP v0 {} (.text bT0) = some (bC1, .text bT0) := by
    simp only [analyseP, b_scan0, hErrB, Bool.false_eq_true, if_false]
  have h1 : analyseP v0 bC1 (.text bT1) = some (cAttr, .text bT1) := by
    simp only [analyseP, b_scan1, hErrA, Bool.false_eq_true, if_false]
  have h2 : analyseP v0 cAttr .action = some (cAttr, .action ["_evalArgs", "_sanitizeHTML"]) := by
    simp only [analyseP, b_act]
  simp only [exBranch, SimpleL, SimpleP, h0, b_if, h1, h2]
  refine ⟨⟨false, bT0, .tag, ?_, fun h => absurd h (by decide), fun h => by simp at h⟩,
    ⟨⟨⟨false, bT1, .attr, ?_, fun h => absurd h (by decide), fun h => by simp at h⟩,
      (fun h => by cases h), ⟨false, bT2, .tag, ?_, fun h => absurd h (by decide), fun h => by simp at h⟩, ?_⟩,
      trivial⟩, ⟨false, bT3, .text, ?_, fun h => absurd h (by decide), fun h => by simp at h⟩, ?_⟩
  · exact Simple.openTag [] [] 112 [] [] [] (by decide) (by decide) (by decide) (by decide) (by decide)
      (Simple.nil _ _ _)
  · exact Simple.attrNm _ [32] [116, 105, 116, 108, 101] _ _ (by decide) (by decide) (by decide) (by decide)
      (by decide) (Simple.eq _ [] _ _ (by decide)
        (Simple.quote _ .dq [] [] [] (Or.inl rfl) (by decide) (Simple.nil _ _ _)))
  · exact Simple.closeQ _ .dq [] [] [] (Or.inl rfl) (by decide) (Simple.nil _ _ _)
  · split <;> trivial
  · exact Simple.tagEnd _ [] [] [] [] (by decide) (fun h => absurd h (by decide)) (Simple.nil _ _ _)
  · split <;> trivial

theorem b_C01 (x y : Value) (hx : Untrusted x) (hy : Untrusted y) (o1 o2 : Bytes) (p1 p2 : List Bool)
    (r1 r2 : List Value) (h1 : execL exBranchOut [true] [x] = some (o1, p1, r1))
    (h2 : execL exBranchOut [true] [y] = some (o2, p2, r2)) :
    skeleton (HtmlTok.tokenize o1).tokens = skeleton (HtmlTok.tokenize o2).tokens ∧
    (HtmlTok.tokenize o1).final = .data ∧ (HtmlTok.tokenize o2).final = .data := by
  have := C01_branches v0 exBranch _ exBranchOut [true] p1 p2 [x] r1 [y] r2 o1 o2 b_simple b_analyse
    (by intro z hz; simp at hz; subst hz; exact hx) (by intro z hz; simp at hz; subst hz; exact hy) h1 h2
  exact ⟨this.1, this.2.2 rfl⟩

/-! ### refinement of (B): the model's `escapeList` on `{{if}}` / `{{with}}` nodes -/

mutual
/-- number of parse-tree nodes (= node ids) of a piece -/
def cntP : BP → Nat
  | .text _ => 1
  | .action => 1
  | .ifElse t e => 1 + cntL t + cntL e
def cntL : BPs → Nat
  | .nil => 0
  | .cons p ps => cntP p + cntL ps
end

mutual
/-- the parse tree of a template with branches; every branch is `{{if cond}}` (`isWith = false`) or
    `{{with cond}}` (`isWith = true`): the analysis ignores the pipeline and treats both alike -/
def nodeP (cond : Pipe) (isWith : Bool) : Nat → BP → Node
  | i, .text s => .text i s
  | i, .action => .action i dotPipe
  | i, .ifElse t e =>
    if isWith then .withN i cond (nodesL cond isWith (i + 1) t) (nodesL cond isWith (i + 1 + cntL t) e)
    else .ifN i cond (nodesL cond isWith (i + 1) t) (nodesL cond isWith (i + 1 + cntL t) e)
def nodesL (cond : Pipe) (isWith : Bool) : Nat → BPs → NodeList
  | _, .nil => .nil
  | i, .cons p ps => .cons (nodeP cond isWith i p) (nodesL cond isWith (i + cntP p) ps)
end

mutual
/-- the edits the analysis records -/
def editsP (v : Validators) (tn : String) : Nat → Ctx → BP → Esc → Esc
  | i, c, .text s, e => { e with textEdits := addText tn i c s e.textEdits }
  | i, c, .action, e =>
    match actionStep v c with
    | some (_, ch) => { e with actionEdits := e.actionEdits ++ [((tn, i), ch)] }
    | none => e
  | i, c, .ifElse t el, e => editsL v tn (i + 1 + cntL t) c el (editsL v tn (i + 1) c t e)
def editsL (v : Validators) (tn : String) : Nat → Ctx → BPs → Esc → Esc
  | _, _, .nil, e => e
  | i, c, .cons p ps, e =>
    match analyseP v c p with
    | some (c', _) => editsL v tn (i + cntP p) c' ps (editsP v tn i c p e)
    | none => e
end

mutual
def fuelP : BP → Nat
  | .text _ => 1
  | .action => 1
  | .ifElse t e => max (fuelL t) (fuelL e) + 2
def fuelL : BPs → Nat
  | .nil => 1
  | .cons p ps => max (fuelP p) (fuelL ps) + 1
end

mutual
theorem FreshP (v : Validators) (tn : String) : ∀ (p : BP) (i : Nat) (c : Ctx) (e : Esc), Fresh tn i e →
    Fresh tn (i + cntP p) (editsP v tn i c p e)
  | .text s, i, c, e, h => by simpa [editsP, cntP] using Fresh_addText tn i c s e h
  | .action, i, c, e, h => by
    simp only [editsP, cntP]
    split
    · exact Fresh_addAction tn i _ e h
    · exact Fresh_mono h (by omega)
  | .ifElse t el, i, c, e, h => by
    simp only [editsP, cntP]
    have h1 := FreshL v tn t (i + 1) c e (Fresh_mono h (by omega))
    have h2 := FreshL v tn el (i + 1 + cntL t) c _ h1
    exact Fresh_mono h2 (by omega)
theorem FreshL (v : Validators) (tn : String) : ∀ (ps : BPs) (i : Nat) (c : Ctx) (e : Esc), Fresh tn i e →
    Fresh tn (i + cntL ps) (editsL v tn i c ps e)
  | .nil, i, c, e, h => by simpa [editsL, cntL] using h
  | .cons p ps, i, c, e, h => by
    simp only [editsL, cntL]
    split
    · next c' _ _ =>
      have h1 := FreshP v tn p i c e h
      have h2 := FreshL v tn ps (i + cntP p) c' _ h1
      exact Fresh_mono h2 (by omega)
    · exact Fresh_mono h (by omega)
end

theorem escapeBranch_if (env : Env) (f : Nat) (tn : String) (e e1 e2 : Esc) (c c0 c1 : Ctx) (t el : NodeList)
    (h1 : escapeList env f tn e c t = .ok (e1, c0)) (h2 : escapeList env f tn e1 c el = .ok (e2, c1)) :
    escapeBranch env (f + 1) tn e c t el false = .ok (e2, join c0 c1) := by
  simp [escapeBranch, h1, h2, bind, Out.bind, pure]

mutual
theorem refP (env : Env) (hcsp : env.csp = false) (tn : String) (cond : Pipe) (isWith : Bool) :
    ∀ (p : BP) (i : Nat) (c c' : Ctx) (e : Esc) (ep : EB) (f : Nat),
      analyseP env.v c p = some (c', ep) → Fresh tn i e → fuelP p ≤ f →
      escapeNode env f tn e c (nodeP cond isWith i p) = .ok (editsP env.v tn i c p e, c')
  | .text s, i, c, c', e, ep, f, ha, hfr, hf => by
    obtain ⟨f', rfl⟩ : ∃ f', f = f' + 1 := ⟨f - 1, by simp [fuelP] at hf; omega⟩
    obtain ⟨out, hsc, _⟩ := analyseP_text ha
    simp only [nodeP, escapeNode, editsP]
    exact escapeTextNode_scan env hcsp tn e c c' i s out hsc (hfr i (Nat.le_refl _)).2
  | .action, i, c, c', e, ep, f, ha, hfr, hf => by
    obtain ⟨f', rfl⟩ : ∃ f', f = f' + 1 := ⟨f - 1, by simp [fuelP] at hf; omega⟩
    obtain ⟨ch, hact, _⟩ := analyseP_action ha
    simp only [nodeP, escapeNode, editsP, hact]
    exact escapeAction_arg env tn e c c' ch i .dot actArg_dot hact (hfr i (Nat.le_refl _)).1
  | .ifElse t el, i, c, c', e, ep, f, ha, hfr, hf => by
    obtain ⟨f', rfl⟩ : ∃ f', f = f' + 2 := ⟨f - 2, by simp [fuelP] at hf; omega⟩
    simp only [fuelP] at hf
    obtain ⟨ct, et, ce, ee, ht, he, _, rfl, _⟩ := analyseP_if ha
    have h1 := refL env hcsp tn cond isWith t (i + 1) c ct e et f' ht (Fresh_mono hfr (by omega)) (by omega)
    have h2 := refL env hcsp tn cond isWith el (i + 1 + cntL t) c ce _ ee f' he
      (FreshL env.v tn t (i + 1) c e (Fresh_mono hfr (by omega))) (by omega)
    have hb := escapeBranch_if env f' tn e _ _ c ct ce _ _ h1 h2
    cases isWith <;> simp only [nodeP, escapeNode, editsP, Bool.false_eq_true, if_false, if_true] <;> exact hb
theorem refL (env : Env) (hcsp : env.csp = false) (tn : String) (cond : Pipe) (isWith : Bool) :
    ∀ (ps : BPs) (i : Nat) (c cf : Ctx) (e : Esc) (es : EBs) (f : Nat),
      analyseL env.v c ps = some (cf, es) → Fresh tn i e → fuelL ps ≤ f →
      escapeList env f tn e c (nodesL cond isWith i ps) = .ok (editsL env.v tn i c ps e, cf)
  | .nil, i, c, cf, e, es, f, ha, _, hf => by
    obtain ⟨f', rfl⟩ : ∃ f', f = f' + 1 := ⟨f - 1, by simp [fuelL] at hf; omega⟩
    obtain ⟨rfl, _⟩ := analyseL_nil ha
    simp [nodesL, escapeList, editsL]
  | .cons p ps, i, c, cf, e, es, f, ha, hfr, hf => by
    obtain ⟨f', rfl⟩ : ∃ f', f = f' + 1 := ⟨f - 1, by simp [fuelL] at hf; omega⟩
    simp only [fuelL] at hf
    obtain ⟨c1, ep, es', hp, hrec, _⟩ := analyseL_cons ha
    have h1 := refP env hcsp tn cond isWith p i c c1 e ep f' hp hfr (by omega)
    simp only [nodesL, editsL, hp]
    rw [escapeList_cons_ok _ h1]
    exact refL env hcsp tn cond isWith ps (i + cntP p) c1 cf _ es' f' hrec (FreshP env.v tn p i c e hfr) (by omega)
end


/-- `C01_branches` together with the model's analysis: `escapeList` on the parse tree (`{{if}}` or `{{with}}` nodes with
    an arbitrary condition pipeline) computes the final context of `analyseL` and records the edits `editsL` -/
theorem C01_branches_model (env : Env) (hcsp : env.csp = false) (tn : String) (cond : Pipe) (isWith : Bool)
    (ps : BPs) (cf : Ctx) (es : EBs) (path p1 p2 : List Bool) (vs vs' ws ws' : List Value) (o1 o2 : Bytes)
    (hs : SimpleL env.v {} ps) (ha : analyseL env.v {} ps = some (cf, es))
    (hu : ∀ x ∈ vs, Untrusted x) (hw : ∀ x ∈ ws, Untrusted x)
    (h1 : execL es path vs = some (o1, p1, vs')) (h2 : execL es path ws = some (o2, p2, ws')) :
    escapeList env (fuelL ps) tn {} {} (nodesL cond isWith 0 ps) = .ok (editsL env.v tn 0 {} ps {}, cf) ∧
    skeleton (HtmlTok.tokenize o1).tokens = skeleton (HtmlTok.tokenize o2).tokens ∧
    (HtmlTok.tokenize o1).final = (HtmlTok.tokenize o2).final ∧
    (cf.state = .text → (HtmlTok.tokenize o1).final = .data ∧ (HtmlTok.tokenize o2).final = .data) :=
  ⟨refL env hcsp tn cond isWith ps 0 {} cf {} es _ ha (fun _ _ => ⟨rfl, rfl⟩) (Nat.le_refl _),
   C01_branches env.v ps cf es path p1 p2 vs vs' ws ws' o1 o2 hs ha hu hw h1 h2⟩

end SafeHtml.Proofs.Layer3Branch
