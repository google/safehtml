/-
A verified check that one list of inclusive ranges is contained in the union of another
(`covers a b = true → every x in a range of b is in a range of a`). Used with `decide` on the
regenerated Go tables, in both directions.
-/
import SafeHtml.Basic.Bytes
namespace SafeHtml.RangeCover

def inRanges (rs : List (Nat × Nat)) (c : Nat) : Bool := rs.any fun r => r.1 ≤ c && c ≤ r.2

/-- is `[lo, hi]` contained in the union of the ranges of `a` (walks `a` at most `fuel` times) -/
def covered (a : List (Nat × Nat)) : Nat → Nat → Nat → Bool
  | 0, _, _ => false
  | f+1, lo, hi =>
    match a.find? (fun r => r.1 ≤ lo && lo ≤ r.2) with
    | none => false
    | some r => if hi ≤ r.2 then true else covered a f (r.2 + 1) hi

def covers (a b : List (Nat × Nat)) : Bool :=
  b.all fun r => decide (r.2 < r.1) || covered a (a.length + 1) r.1 r.2

/-- first point of `b` not covered by `a` (the witness when `covers` fails) -/
def firstUncoveredIn (a : List (Nat × Nat)) : Nat → Nat → Nat → Option Nat
  | 0, lo, _ => some lo
  | f+1, lo, hi =>
    match a.find? (fun r => r.1 ≤ lo && lo ≤ r.2) with
    | none => some lo
    | some r => if hi ≤ r.2 then none else firstUncoveredIn a f (r.2 + 1) hi

def firstUncovered (a b : List (Nat × Nat)) : Option Nat :=
  b.findSome? fun r => if r.2 < r.1 then none else firstUncoveredIn a (a.length + 1) r.1 r.2

theorem covered_sound (a : List (Nat × Nat)) : ∀ (f lo hi : Nat), covered a f lo hi = true →
    ∀ x, lo ≤ x → x ≤ hi → inRanges a x = true := by
  intro f
  induction f with
  | zero => intro lo hi h; simp [covered] at h
  | succ f ih =>
    intro lo hi h x hlo hhi
    simp only [covered] at h
    cases hfind : a.find? (fun r => r.1 ≤ lo && lo ≤ r.2) with
    | none => rw [hfind] at h; simp at h
    | some r =>
      rw [hfind] at h
      have hmem := List.mem_of_find?_eq_some hfind
      have hp := List.find?_some hfind
      simp only [Bool.and_eq_true, decide_eq_true_eq] at hp
      by_cases hx : x ≤ r.2
      · simp only [inRanges, List.any_eq_true, Bool.and_eq_true, decide_eq_true_eq]
        exact ⟨r, hmem, by omega, hx⟩
      · have hhi' : ¬ hi ≤ r.2 := by omega
        simp only [hhi', if_false] at h
        exact ih _ _ h x (by omega) hhi

theorem covers_sound (a b : List (Nat × Nat)) (h : covers a b = true) :
    ∀ x, inRanges b x = true → inRanges a x = true := by
  intro x hx
  simp only [inRanges, List.any_eq_true, Bool.and_eq_true, decide_eq_true_eq] at hx
  obtain ⟨r, hr, h1, h2⟩ := hx
  have := List.all_eq_true.1 h r hr
  simp only [Bool.or_eq_true, decide_eq_true_eq] at this
  rcases this with h3 | h3
  · omega
  · exact covered_sound a _ _ _ h3 x h1 h2

theorem inRanges_append (a b : List (Nat × Nat)) (x : Nat) :
    inRanges (a ++ b) x = (inRanges a x || inRanges b x) := by
  simp [inRanges, List.any_append]

end SafeHtml.RangeCover
