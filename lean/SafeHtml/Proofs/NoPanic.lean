/-
C05 / C08. The handle table of the harness (`HInv`: a handle is bound to the object registered under its name, or to
one whose `Tree` is nil) gives C05 without the exclusion for `Execute`. For C08: one critical section in the `Sat` form,
and the panic "command without arguments" (`msgArgs`) excluded for parser-shaped trees (`listWF`). Of the panics that
`C08_analysis_total_partial` leaves open, `NoPanic2` takes up `msgShared`, `NoPanic3`/`NoPanic4` take up `msgLoop`.
-/
import SafeHtml.Proofs.ApiFrames
namespace SafeHtml.Proofs.NoPanic
open SafeHtml SafeHtml.Model.Tmpl SafeHtml.Proofs.Analysis SafeHtml.Proofs.Frozen SafeHtml.Proofs.ConcApi
  SafeHtml.Proofs.ConcReach SafeHtml.Proofs.ApiFrames

/-! ### 1. the handle-table invariant -/

def Reg (w : World) (oid : Nat) (o : TObj) : Prop := alookup (w.ns o.ns).set o.name = some oid

/-- an object is either the registered one or a shadowed / unparsed one whose exported `Tree` is nil -/
def P (w : World) (oid : Nat) : Prop := ∀ o, nlookup w.objs oid = some o → Reg w oid o ∨ o.treeNil = true

def HInv (w : World) : Prop := ∀ h oid, nlookup w.handles h = some oid → oid < w.next ∧ P w oid

def PK (b : Nat) (w w' : World) : Prop := ∀ oid, oid < b → P w oid → P w' oid

theorem PK.refl (b : Nat) (w : World) : PK b w w := fun _ _ h => h
theorem PK.trans {b : Nat} {w w1 w2 : World} (h1 : PK b w w1) (h2 : PK b w1 w2) : PK b w w2 :=
  fun oid hb h => h2 oid hb (h1 oid hb h)

theorem P_congr {w w' : World} (oid : Nat) (hobj : nlookup w'.objs oid = nlookup w.objs oid)
    (hset : ∀ k, (w'.ns k).set = (w.ns k).set) (h : P w oid) : P w' oid := by
  intro o ho
  rw [hobj] at ho
  rcases h o ho with h1 | h1
  · exact .inl (by unfold Reg at h1 ⊢; rw [hset]; exact h1)
  · exact .inr h1

theorem pk_setNs (b : Nat) (w : World) (k : Nat) (n : NS) (hn : n.set = (w.ns k).set) : PK b w (w.setNs k n) := by
  intro oid _ h
  refine P_congr (w := w) (w' := w.setNs k n) oid rfl ?_ h
  intro j; rw [ns_setNs]; split
  · rename_i hj; rw [hj, hn]
  · rfl

theorem pk_newSet (w : World) (name : String) (hf : FreshIds w) : PK w.next w (w.newSet name).1 := by
  intro oid hb h o ho
  rw [newSet_objs, if_neg (by omega)] at ho
  have hns := (hf oid o ho).2
  rcases h o ho with h1 | h1
  · left; unfold Reg at h1 ⊢; rw [newSet_ns, if_neg (by omega)]; exact h1
  · exact .inr h1

theorem P_newSet_new (w : World) (name : String) : P (w.newSet name).1 (w.next + 1) := by
  intro o ho
  rw [newSet_objs, if_pos rfl] at ho
  cases ho
  left
  unfold Reg
  simp only []
  rw [newSet_ns, if_pos rfl]
  simp only [alookup_cons, if_true]

theorem pk_setObj_nil (b : Nat) (w : World) (id : Nat) (t' : TObj) (ht : t'.treeNil = true) :
    PK b w (w.setObj id t') := by
  intro oid _ h o ho
  rw [objs_setObj] at ho
  split at ho
  · cases ho; exact .inr ht
  · exact h o ho

theorem pk_setObj_mod (b : Nat) (w : World) (id : Nat) (t t' : TObj) (ht : nlookup w.objs id = some t)
    (h1 : t'.ns = t.ns) (h2 : t'.name = t.name) (h3 : t'.treeNil = t.treeNil ∨ Reg w id t) :
    PK b w (w.setObj id t') := by
  intro oid _ h o ho
  rw [objs_setObj] at ho
  split at ho
  · rename_i hid
    cases ho
    subst hid
    rcases h3 with h3 | h3
    · rcases h t ht with g | g
      · left; unfold Reg at g ⊢; rw [h1, h2]; exact g
      · right; rw [h3]; exact g
    · left; unfold Reg at h3 ⊢; rw [h1, h2]; exact h3
  · exact h o ho

theorem pk_bindNew_one (w : World) (k : Nat) (name : String) (obj : TObj) (oid : Nat) (hold : oid < w.next)
    (hP : P w oid) (hside : ∀ o, nlookup w.objs oid = some o → o.ns = k → o.name = name → o.treeNil = true) :
    P (bindNew w k name obj).1 oid := by
  intro o ho
  rw [bindNew_objs] at ho
  split at ho
  · omega
  · rcases hP o ho with h1 | h1
    · by_cases hk : o.ns = k ∧ o.name = name
      · exact .inr (hside o ho hk.1 hk.2)
      · left
        unfold Reg at h1 ⊢
        rw [bindNew_ns]
        by_cases hkk : o.ns = k
        · rw [if_pos hkk]
          simp only []
          rw [alookup_aset, if_neg (fun hn => hk ⟨hkk, hn⟩)]
          rw [hkk] at h1; exact h1
        · rw [if_neg hkk]; exact h1
    · exact .inr h1


theorem P_bindNew_new (w : World) (k : Nat) (name : String) (obj : TObj) (h1 : obj.ns = k) (h2 : obj.name = name) :
    P (bindNew w k name obj).1 (bindNew w k name obj).2 := by
  show P (bindNew w k name obj).1 w.next
  intro o ho
  rw [bindNew_objs, if_pos rfl] at ho
  cases ho
  left
  unfold Reg
  rw [bindNew_ns, h1, if_pos rfl, h2]
  simp only []
  rw [alookup_aset, if_pos rfl]

theorem pk_assocNew (w : World) (nsId : Nat) (name : String) (hi : InvR w) (hk : nsId < w.next) :
    PK w.next w (w.assocNew nsId name).1 ∧ P (w.assocNew nsId name).1 (w.assocNew nsId name).2 := by
  rw [assocNew_eq]
  refine ⟨?_, P_bindNew_new _ _ _ _ rfl rfl⟩
  cases hex : alookup (w.ns nsId).set name with
  | none =>
    intro oid hb hP
    apply pk_bindNew_one w nsId name _ oid hb hP
    intro o ho h1 h2
    rcases hP o ho with g | g
    · unfold Reg at g; rw [h1, h2, hex] at g; cases g
    · exact g
  | some ex =>
    simp only []
    have hobj : nlookup (w.newSet name).1.objs (w.newSet name).2 = some { ns := w.next, name := name } := by
      rw [newSet_objs]; exact if_pos rfl
    rw [hobj]
    simp only []
    intro oid hb hP
    have p1 := pk_newSet w name hi.2.2 oid hb hP
    have p2 := pk_setObj_nil w.next (w.newSet name).1 ex { ns := w.next, name := name } rfl oid hb p1
    apply pk_bindNew_one _ nsId name _ oid (by show oid < (w.newSet name).1.next; rw [newSet_next]; omega) p2
    intro o ho h1 h2
    rcases p2 o ho with g | g
    · exfalso
      unfold Reg at g
      rw [h1, h2] at g
      have hset : alookup (((w.newSet name).1.setObj ex { ns := w.next, name := name }).ns nsId).set name = some ex := by
        show alookup ((w.newSet name).1.ns nsId).set name = some ex
        rw [newSet_ns, if_neg (by omega)]; exact hex
      rw [hset] at g; cases g
      rw [objs_setObj, if_pos rfl] at ho
      cases ho
      simp only [] at h1
      omega
    · exact g


theorem PK.mono {b b' : Nat} {w w' : World} (h : PK b' w w') (hb : b ≤ b') : PK b w w' :=
  fun oid ho hP => h oid (by omega) hP

theorem pk_setObj_other (b : Nat) (w : World) (id : Nat) (t' : TObj) (hid : b ≤ id) : PK b w (w.setObj id t') := by
  intro oid hb h
  exact P_congr (w := w) (w' := w.setObj id t') oid (by rw [objs_setObj, if_neg (by omega)]) (fun _ => rfl) h

theorem Reg_assocNew_new (w : World) (k : Nat) (name : String) :
    Reg (w.assocNew k name).1 (w.assocNew k name).2 { ns := k, name := name } := by
  rw [assocNew_eq]
  unfold Reg
  simp only []
  rw [bindNew_ns, if_pos rfl]
  simp only []
  rw [alookup_aset, if_pos rfl]
  rfl

theorem pk_parseStep (k : Nat) (w : World) (p : String × Option Tree) (hi : InvR w) (hk : k < w.next) :
    PK w.next w (parseStep k w p) := by
  unfold parseStep
  simp only []
  cases hl : alookup (w.ns k).set p.1 with
  | some tid =>
    simp only []
    cases ht : nlookup w.objs tid with
    | none => exact PK.refl _ _
    | some t =>
      obtain ⟨o, g1, g2, g3⟩ := hi.2.1 k p.1 tid hl (fun hx => nomatch hx)
      rw [ht] at g1; cases g1
      exact pk_setObj_mod _ w tid t _ ht rfl rfl (.inr (by unfold Reg; rw [g2, g3]; exact hl))
  | none =>
    simp only []
    rw [assocNew_snd_obj]
    exact (pk_assocNew w k p.1 hi hk).1.trans
      (pk_setObj_mod _ _ _ _ _ (assocNew_snd_obj w k p.1) rfl rfl (.inr (Reg_assocNew_new w k p.1)))

theorem pk_parseFold (b k : Nat) (l : List (String × Option Tree)) (w : World) (hi : InvR w) (hk : k < w.next)
    (hb : b ≤ w.next) : PK b w (l.foldl (parseStep k) w) :=
  (foldl_inv_rel (I := fun w : World => InvR w ∧ k < w.next ∧ b ≤ w.next) (PK.refl b) PK.trans
    (fun a p _ ⟨h, hk, hb⟩ =>
      have hn : a.next ≤ (parseStep k a p).next := (steps_parseStep k a p h hk).next_le
      ⟨⟨(steps_parseStep k a p h hk).invR h, Nat.lt_of_lt_of_le hk hn, Nat.le_trans hb hn⟩,
        (pk_parseStep k a p h hk).mono hb⟩)
    ⟨hi, hk, hb⟩).2

theorem pk_apiParse (w : World) (h : Nat) (defs : List Tree) (hi : InvR w) : PK w.next w (apiParse w h defs).1 := by
  rcases apiParse_cases w h defs with ⟨_, hc⟩ | ⟨rid, o, text, reg, hobj, hesc, _, hc⟩ <;> rw [hc]
  · exact PK.refl _ _
  · have hlk := (obj_inv hobj).2
    have h1 := (Prim.modObj w rid o { o with registered := reg } hlk rfl rfl rfl).invR hi
    have h2 := (Prim.setText (w.setObj rid { o with registered := reg }) o.ns { w.ns o.ns with text := text } hesc rfl
      rfl).invR h1
    have s1 : PK w.next w (w.setObj rid { o with registered := reg }) :=
      pk_setObj_mod _ w rid o _ hlk rfl rfl (.inl rfl)
    have s2 : PK w.next (w.setObj rid { o with registered := reg })
        ((w.setObj rid { o with registered := reg }).setNs o.ns { w.ns o.ns with text := text }) :=
      pk_setNs w.next _ o.ns _ rfl
    exact (s1.trans s2).trans (pk_parseFold w.next o.ns text _ h2 (hi.2.2 rid o hlk).2 (Nat.le_refl _))

theorem pk_mark (b : Nat) {w : World} {k : Nat} {name : String} (n : NS) (hn : n.set = (w.ns k).set) (hi : InvR w)
    {oid : Nat} {o : TObj} (o' : TObj) (hid : alookup (w.ns k).set name = some oid) (ho : nlookup w.objs oid = some o)
    (h1 : o'.ns = o.ns) (h2 : o'.name = o.name) : PK b w ((w.setNs k n).setObj oid o') := by
  obtain ⟨o2, g1, g2, g3⟩ := hi.2.1 k name oid hid (fun hx => nomatch hx)
  rw [ho] at g1; cases g1
  refine (pk_setNs b w k n hn).trans (pk_setObj_mod b _ oid o o' ho h1 h2 (.inr ?_))
  unfold Reg
  rw [g2, g3, ns_setNs_same, hn]; exact hid

/-- one analysis: sets unchanged, the only object modified is the registered one -/
theorem pk_top (b : Nat) (w w' : World) (ns : Nat) (name : String) (r : Option ErrCode) (hi : InvR w)
    (h : escapeTemplateTop w ns name = .inr (w', r)) : PK b w w' := by
  obtain ⟨e, _, _, _, ⟨code, _, _, rfl⟩ | ⟨t, e', _, _, _, rfl⟩⟩ := top_inr h
  · rcases markFailed_shape w ns name e code with hs | ⟨oid, o, hid, ho, hs⟩ <;> rw [hs]
    · exact pk_setNs b w ns { w.ns ns with esc := e } rfl
    · refine pk_mark b _ ?_ hi _ hid ho ?_ ?_ <;> rfl
  · rcases markOk_shape w ns name t e' with hs | ⟨oid, o, hid, ho, hs⟩ <;> rw [hs]
    · exact pk_setNs b w ns { w.ns ns with esc := e', text := t } rfl
    · refine pk_mark b _ ?_ hi _ hid ho ?_ ?_ <;> rfl

/-! #### handles are only changed by the harness' `bind` -/

theorem handles_newSet (w : World) (name : String) : (w.newSet name).1.handles = w.handles := rfl
theorem handles_bindNew (w : World) (k : Nat) (name : String) (obj : TObj) :
    (bindNew w k name obj).1.handles = w.handles := rfl

theorem handles_assocNew (w : World) (k : Nat) (name : String) : (w.assocNew k name).1.handles = w.handles := by
  rw [assocNew_eq, handles_bindNew]
  split
  · split <;> rfl
  · rfl

theorem handles_parseStep (k : Nat) (w : World) (p : String × Option Tree) : (parseStep k w p).handles = w.handles := by
  unfold parseStep
  dsimp only
  cases hl : alookup (w.ns k).set p.1 with
  | some tid =>
    dsimp only
    cases nlookup w.objs tid <;> rfl
  | none =>
    dsimp only
    cases nlookup (w.assocNew k p.1).1.objs (w.assocNew k p.1).2 <;> exact handles_assocNew w k p.1

theorem handles_parseFold (k : Nat) (l : List (String × Option Tree)) (w : World) :
    (l.foldl (parseStep k) w).handles = w.handles :=
  foldl_rel (R := fun a b : World => b.handles = a.handles) (fun _ => rfl) (fun h1 h2 => h2.trans h1)
    (fun a p => handles_parseStep k a p) l w

theorem handles_apiParse (w : World) (h : Nat) (defs : List Tree) : (apiParse w h defs).1.handles = w.handles := by
  rcases apiParse_cases w h defs with ⟨_, hc⟩ | ⟨_, _, _, _, _, _, _, hc⟩ <;> rw [hc]
  exact handles_parseFold _ _ _

theorem handles_cloneFold (k : Nat) (l : List (String × Option Tree)) (w : World) :
    (l.foldl (cloneStep k) w).handles = w.handles :=
  foldl_rel (R := fun a b : World => b.handles = a.handles) (fun _ => rfl) (fun h1 h2 => h2.trans h1)
    (f := cloneStep k) (fun _ _ => rfl) l w

theorem crit_keeps_of (w : World) (hi : InvR w) :
    (∀ k, (w.setNs k { w.ns k with escaped := true }).handles = w.handles ∧
      PK w.next w (w.setNs k { w.ns k with escaped := true })) ∧
    ∀ k name w' r, escapeTemplateTop (w.setNs k { w.ns k with escaped := true }) k name = .inr (w', r) →
      w'.handles = w.handles ∧ PK w.next w w' :=
  have hk : ∀ k, PK w.next w (w.setNs k { w.ns k with escaped := true }) := fun k => pk_setNs _ w k _ rfl
  ⟨fun k => ⟨rfl, hk k⟩, fun k name w' r h =>
    ⟨(fields_top h).2.2.2, (hk k).trans (pk_top _ _ w' k name r (setEscaped_invR w k hi) h)⟩⟩

theorem crit_keeps (w : World) (h : Nat) (hi : InvR w) :
    (critExecute w h).1.handles = w.handles ∧ PK w.next w (critExecute w h).1 :=
  critExecute_ind (fun w' => w'.handles = w.handles ∧ PK w.next w w') w h ⟨rfl, PK.refl _ _⟩
    (crit_keeps_of w hi).1 (crit_keeps_of w hi).2

theorem critT_keeps (w : World) (h : Nat) (name : String) (hi : InvR w) :
    (critExecuteTemplate w h name).1.handles = w.handles ∧ PK w.next w (critExecuteTemplate w h name).1 :=
  critExecuteTemplate_ind (fun w' => w'.handles = w.handles ∧ PK w.next w w') w h name ⟨rfl, PK.refl _ _⟩
    (crit_keeps_of w hi).1 (crit_keeps_of w hi).2

theorem hinv_build (w W : World) (hh : HInv w) (hn : w.next ≤ W.next) (hpk : PK w.next w W)
    (hhd : ∀ hd oid, nlookup W.handles hd = some oid →
      nlookup w.handles hd = some oid ∨ (oid < W.next ∧ P W oid)) : HInv W := by
  intro hd oid h
  rcases hhd hd oid h with h1 | h1
  · obtain ⟨a, b⟩ := hh hd oid h1
    exact ⟨by omega, hpk oid a b⟩
  · exact h1

theorem handles_bind (w : World) (h id hd oid : Nat) (hl : nlookup (w.bind h id).handles hd = some oid) :
    nlookup w.handles hd = some oid ∨ (hd = h ∧ oid = id) := by
  unfold World.bind at hl
  simp only [] at hl
  by_cases hh : hd = h
  · subst hh; rw [nlookup_nset_same] at hl; cases hl; exact .inr ⟨rfl, rfl⟩
  · rw [nlookup_nset_other _ _ _ _ hh] at hl; exact .inl hl

theorem P_bind (w : World) (h id oid : Nat) (hP : P w oid) : P (w.bind h id) oid := hP

theorem pk_setNs_fresh (b : Nat) (w : World) (k : Nat) (n : NS)
    (hf : ∀ oid o, oid < b → nlookup w.objs oid = some o → o.ns ≠ k) : PK b w (w.setNs k n) := by
  intro oid hb hP o ho
  have ho' : nlookup w.objs oid = some o := ho
  rcases hP o ho' with g | g
  · left; unfold Reg at g ⊢; rw [ns_setNs, if_neg (hf oid o hb ho')]; exact g
  · exact .inr g

theorem pk_cloneFold (b nsId : Nat) (w0 : World) (hfr : ∀ oid o, oid < b → nlookup w0.objs oid = some o → o.ns ≠ nsId)
    (l : List (String × Option Tree)) : ∀ w, b ≤ w.next →
    (∀ oid, oid < b → nlookup w.objs oid = nlookup w0.objs oid) →
    PK b w (l.foldl (cloneStep nsId) w) := by
  induction l with
  | nil => intro w _ _; exact PK.refl _ _
  | cons p t ih =>
    intro w hb hK
    have s1 : PK b w (cloneStep nsId w p) := by
      intro oid ho hP
      apply pk_bindNew_one w nsId p.1 _ oid (by omega) hP
      intro o hoo h1
      rw [hK oid ho] at hoo
      exact absurd h1 (hfr oid o ho hoo)
    refine s1.trans (ih _ ?_ ?_)
    · show b ≤ (bindNew w nsId p.1 _).1.next; rw [bindNew_next]; omega
    · intro oid ho
      show nlookup (bindNew w nsId p.1 _).1.objs oid = _
      rw [bindNew_objs, if_neg (by omega)]; exact hK oid ho

theorem hinv_bind_new (w W : World) (h' rid : Nat) (hh : HInv w) (hn : w.next ≤ W.next) (hpk : PK w.next w W)
    (hhand : W.handles = w.handles) (hrid : rid < W.next ∧ P W rid) : HInv (W.bind h' rid) := by
  apply hinv_build w (W.bind h' rid) hh hn hpk
  intro hd id hl
  rcases handles_bind _ h' rid hd id hl with hl' | ⟨_, rfl⟩
  · left; rw [hhand] at hl'; exact hl'
  · exact .inr hrid

theorem P_of_reg (W : World) (rid : Nat) (o' : TObj) (h1 : nlookup W.objs rid = some o') (h2 : Reg W rid o') :
    P W rid := by
  intro o2 ho2
  rw [h1] at ho2; cases ho2
  exact .inl h2

theorem hinv_same_handles (w W : World) (hh : HInv w) (hn : w.next ≤ W.next) (hpk : PK w.next w W)
    (hhand : W.handles = w.handles) : HInv W := by
  apply hinv_build w _ hh hn hpk
  intro hd id hl
  left; rw [hhand] at hl; exact hl

theorem cloneHead_invR {w : World} (hi : InvR w) (name : String) (ctext : TextSet) : InvR (cloneHead w name ctext) :=
  (prim_cloneHead w name ctext).invR hi

theorem hinv_clone (w : World) (h h' : Nat) (hi : InvR w) (hh : HInv w) : HInv (apiClone w h h').1 := by
  rcases apiClone_cases w h h' with ⟨_, hw, _⟩ | ⟨oid, o, _, _, hw⟩
  · rw [hw]; exact hh
  · generalize cloneText w o = ctext at hw
    have h0 := cloneHead_invR hi o.name ctext
    have hlt : w.next < (cloneHead w o.name ctext).next := Nat.lt_add_of_pos_right (by decide)
    have h1 := (steps_cloneFold w.next ctext _ h0 hlt).invR h0
    have hfr : ∀ id o2, id < w.next → nlookup w.objs id = some o2 → o2.ns ≠ w.next := fun id o2 _ ho2 =>
      Nat.ne_of_lt (hi.2.2 id o2 ho2).2
    have hobjs : ∀ id, id < w.next → nlookup (cloneHead w o.name ctext).objs id = nlookup w.objs id := fun id hid => by
      show nlookup (World.setObj _ _ _).objs id = _
      rw [objs_setObj, if_neg (Nat.ne_of_lt (Nat.lt_succ_of_lt hid))]
    -- `P` of old objects through the three initial updates and the loop
    have p0 : PK w.next w (cloneHead w o.name ctext) :=
      ((show PK w.next w ({ w with next := w.next + 2 } : World) from fun _ _ hP => hP).trans
        (pk_setObj_other w.next _ (w.next + 1) _ (Nat.le_succ _))).trans
        (pk_setNs_fresh _ _ _ _ fun id o2 hid ho2 => hfr id o2 hid (by
          rw [← hobjs id hid]; exact ho2))
    have p1 := p0.trans (pk_cloneFold w.next w.next w hfr ctext _ (Nat.le_of_lt hlt) hobjs)
    have hnext : w.next ≤ (List.foldl (cloneStep w.next) (cloneHead w o.name ctext) ctext).next :=
      Nat.le_trans (Nat.le_of_lt hlt) (steps_cloneFold w.next ctext _ h0 hlt).next_le
    have hhand := handles_cloneFold w.next ctext (cloneHead w o.name ctext)
    obtain ⟨rid, hrid, hw⟩ := hw
    rw [hw]
    obtain ⟨o', g1, g2, g3⟩ := h1.2.1 w.next o.name rid hrid (fun hx => nomatch hx)
    exact hinv_bind_new w _ h' rid hh hnext p1 hhand ⟨(h1.2.2 rid o' g1).1,
      P_of_reg _ rid o' g1 (by unfold Reg; rw [g2, g3]; exact hrid)⟩

theorem hinv_step (w : World) (op : Op) (hi : InvR w) (hh : HInv w) : HInv (Api.step w op).1 := by
  cases op with
  | new h name =>
    show HInv ((w.newSet name).1.bind h (w.newSet name).2)
    exact hinv_bind_new w _ h _ hh (by rw [newSet_next]; omega) (pk_newSet w name hi.2.2) rfl
      ⟨by show w.next + 1 < (w.newSet name).1.next; rw [newSet_next]; omega, P_newSet_new w name⟩
  | assocNew h name h' =>
    simp only [Api.step]
    cases hobj : w.obj h with
    | none => exact hh
    | some p =>
      obtain ⟨oid, o⟩ := p
      have hk := (hi.2.2 oid o (obj_inv hobj).2).2
      have hi' := (steps_assocNew w o.ns name hi hk).invR hi
      obtain ⟨a, b⟩ := pk_assocNew w o.ns name hi hk
      show HInv ((w.assocNew o.ns name).1.bind h' (w.assocNew o.ns name).2)
      exact hinv_bind_new w _ h' _ hh (steps_assocNew w o.ns name hi hk).next_le a (handles_assocNew w o.ns name)
        ⟨(hi'.2.2 _ _ (assocNew_snd_obj w o.ns name)).1, b⟩
  | parse h defs =>
    exact hinv_same_handles w _ hh (steps_apiParse w h defs hi).next_le (pk_apiParse w h defs hi) (handles_apiParse w h defs)
  | clone h h' => exact hinv_clone w h h' hi hh
  | lookup h name h' =>
    show HInv (apiLookup w h name h').1
    unfold apiLookup
    cases hobj : w.obj h with
    | none => exact hh
    | some p =>
      obtain ⟨oid, o⟩ := p
      simp only []
      cases hl : alookup (w.ns o.ns).set name with
      | none => exact hh
      | some tid =>
        simp only []
        obtain ⟨t, g1, g2, g3⟩ := hi.2.1 o.ns name tid hl (fun hx => nomatch hx)
        have hnew : tid < w.next ∧ P w tid :=
          ⟨(hi.2.2 tid t g1).1, P_of_reg w tid t g1 (by unfold Reg; rw [g2, g3]; exact hl)⟩
        have hb := hinv_bind_new w w h' tid hh (Nat.le_refl _) (PK.refl _ _) rfl hnew
        -- the two answers differ in the message only
        split <;> exact hb
  | templates h => exact hh
  | csp h =>
    simp only [Api.step]
    cases hobj : w.obj h with
    | none => exact hh
    | some p => exact hinv_same_handles w _ hh (Nat.le_refl _) (pk_setNs _ w _ _ rfl) rfl
  | exec h d =>
    rw [step_exec]
    exact hinv_same_handles w _ hh (steps_critExecute w h hi).next_le (crit_keeps w h hi).2 (crit_keeps w h hi).1
  | execHTML h d =>
    rw [step_execHTML]
    exact hinv_same_handles w _ hh (steps_critExecute w h hi).next_le (crit_keeps w h hi).2 (crit_keeps w h hi).1
  | execT h n d =>
    rw [step_execT]
    exact hinv_same_handles w _ hh (steps_critExecuteTemplate w h n hi).next_le (critT_keeps w h n hi).2
      (critT_keeps w h n hi).1
  | execTHTML h n d =>
    rw [step_execTHTML]
    exact hinv_same_handles w _ hh (steps_critExecuteTemplate w h n hi).next_le (critT_keeps w h n hi).2
      (critT_keeps w h n hi).1

/-- reachable from an initial world whose handle table is empty (as in the harness) -/
inductive Reachable0 : World → Prop where
  | init (w : World) (h : Initial w) (hh : w.handles = []) : Reachable0 w
  | step (w : World) (op : Op) (h : Reachable0 w) : Reachable0 (Api.step w op).1

theorem Reachable0.reachable {w : World} (h : Reachable0 w) : Reachable w := by
  induction h with
  | init w h _ => exact Reachable.init w h
  | step w op _ ih => exact Reachable.step w op ih

theorem hinv_reachable (w : World) (h : Reachable0 w) : HInv w := by
  induction h with
  | init w _ hh => intro hd oid hl; rw [hh] at hl; cases hl
  | step w op h ih => exact hinv_step w op (invR_reachable w h.reachable) ih

/-! ### 2. consequences -/

/-- exclusion (ii) of `ApiFrames.Resets` cannot arise: a handle is bound to the registered object or to an
    object with a nil `Tree`, for which `Execute` answers "incomplete" without analysing -/
theorem fk_critExecute_h (oid : Nat) (code : ErrCode) (w : World) (h : Nat) (o : TObj) (hh : HInv w)
    (ho : nlookup w.objs oid = some o) (hs : o.status = .failed code) :
    ∃ o', nlookup (critExecute w h).1.objs oid = some o' ∧ o'.status = .failed code := by
  rcases critExecute_cases w h with ⟨_, hc⟩ | ⟨rid, r, hobj, ⟨_, hc, _⟩ | ⟨_, _, _, _, ht, _⟩⟩
  · rw [hc]; exact ⟨o, ho, hs⟩
  · rw [hc]; exact ⟨o, ho, hs⟩
  · -- an analysis runs: the receiver has a tree, so it is the registered object
    obtain ⟨hhd, hlk⟩ := obj_inv hobj
    refine fk_critExecute oid code w h o ho hs fun rid' r' h1 h2 h3 => ?_
    rw [hobj] at h1; cases h1
    rcases (hh h rid hhd).2 r hlk with hreg | hnil
    · unfold Reg at hreg
      rw [hreg] at h3; cases h3
      exact h2 rfl
    · rw [hnil] at ht; cases ht

/-- **C05 for reachable worlds: failure is sticky under ALL operations except `t.New(name)` on the name registered for
    the failed object** (`*existing = *emptyTmpl`, finding new-after-exec). -/
theorem C05_failed_sticky_reachable (w : World) (hr : Reachable0 w) (op : Op) (oid : Nat) (o : TObj) (code : ErrCode)
    (ho : nlookup w.objs oid = some o) (hs : o.status = .failed code)
    (hnew : ∀ h name h', op = .assocNew h name h' →
      ¬ ∃ rid r, w.obj h = some (rid, r) ∧ alookup (w.ns r.ns).set name = some oid) :
    ∃ o', nlookup (Api.step w op).1.objs oid = some o' ∧ o'.status = .failed code := by
  have hi := invR_reachable w hr.reachable
  have hh := hinv_reachable w hr
  cases op with
  | exec h d => rw [step_exec]; exact fk_critExecute_h oid code w h o hh ho hs
  | execHTML h d => rw [step_execHTML]; exact fk_critExecute_h oid code w h o hh ho hs
  | assocNew h name h' =>
    exact C05_failed_sticky_all_ops w _ hi oid o code ho hs (fun hx => hnew h name h' rfl hx)
  | new h name => exact C05_failed_sticky_all_ops w _ hi oid o code ho hs (fun hx => hx)
  | parse h defs => exact C05_failed_sticky_all_ops w _ hi oid o code ho hs (fun hx => hx)
  | clone h h' => exact C05_failed_sticky_all_ops w _ hi oid o code ho hs (fun hx => hx)
  | lookup h n h' => exact C05_failed_sticky_all_ops w _ hi oid o code ho hs (fun hx => hx)
  | templates h => exact C05_failed_sticky_all_ops w _ hi oid o code ho hs (fun hx => hx)
  | csp h => exact C05_failed_sticky_all_ops w _ hi oid o code ho hs (fun hx => hx)
  | execT h n d => exact C05_failed_sticky_all_ops w _ hi oid o code ho hs (fun hx => hx)
  | execTHTML h n d => exact C05_failed_sticky_all_ops w _ hi oid o code ho hs (fun hx => hx)

def msgOutOfSync : String := "template escaping out of sync"
def msgExecNil : String := "nil pointer dereference: execution of a called template whose Tree is nil"

theorem textExecute_panic (w : World) (o : TObj) (d : Value) (m : String) (h : textExecute w o d = .panic m) :
    m = msgExecNil := by
  unfold textExecute at h
  dsimp only at h
  split at h
  · cases h
  · split at h <;> (cases h; try rfl)

/-! ### 3. one critical section and the commit, in the `Sat` form of the rules of `Analysis` -/

theorem top_sat {J : TextSet → Esc → Prop} {B : String → Prop} (w : World) (k : Nat) (name : String)
    (ha : Sat (fun r : Esc × Ctx × String => J (w.ns k).text r.1) B
      (escapeTree (analysisEnv w k) w.fuel (w.ns k).esc {} name))
    (hc : ∀ e, J (w.ns k).text e → Sat (fun r : TextSet × Esc => J r.1 r.2) B (commit (w.ns k).text e)) :
    (∀ m, escapeTemplateTop w k name = .inl (.panic m) → B m) ∧
    (∀ w' r, escapeTemplateTop w k name = .inr (w', r) → J (w'.ns k).text (w'.ns k).esc) := by
  refine ⟨fun m h => ?_, fun w' r h => ?_⟩
  · rcases top_inl h with ⟨_, hx⟩ | ⟨m', he, hx⟩ | ⟨e, c, d, he, _, ⟨_, hx⟩ | ⟨m', hm, hx⟩⟩
    · cases hx
    · cases hx; exact ha.of_panic he
    · cases hx
    · cases hx; exact (hc e (ha.of_ok he)).of_panic hm
  · obtain ⟨e, c, d, he, ⟨code, _, _, rfl⟩ | ⟨t, e', _, hcm, _, rfl⟩⟩ := top_inr h
    · rw [ns_markFailed, if_pos rfl]; exact ha.of_ok he
    · rw [ns_markOk, if_pos rfl]; exact (hc e (ha.of_ok he)).of_ok hcm

section
variable {T : NodeList → Prop}

theorem install_all (ds : List (String × Tree)) (ts : TextSet) (h : TextAll T ts) (hd : ∀ p ∈ ds, T p.2.root) :
    TextAll T (ds.foldl installStep ts) := by
  intro n tr hl
  rcases install_lookup ds ts n with h1 | ⟨d, hm, h1⟩
  · rw [h1] at hl; exact h n tr hl
  · rw [h1] at hl; cases hl; exact hd _ hm

/-- the snapshot of pristine trees that `commit` takes -/
theorem pristine_all {text : TextSet} {derived : List (String × Tree)} (ht : TextAll T text)
    (hd : ∀ p ∈ derived, T p.2.root) (l : List (String × Ctx)) : ∀ (acc : List (String × Tree)),
    (∀ p ∈ acc, T p.2.root) →
    ∀ p ∈ l.foldl (fun (acc : List (String × Tree)) p =>
      if (alookup acc p.1).isSome then acc
      else match text.lookup p.1 with
        | some (some t) => acc ++ [(p.1, t)]
        | some none => acc
        | none => match alookup derived p.1 with
          | some t => acc ++ [(p.1, t)]
          | none => acc) acc, T p.2.root := by
  induction l with
  | nil => intro acc h; exact h
  | cons q t ih =>
    intro acc h
    rw [List.foldl_cons]
    apply ih
    split
    · exact h
    · split
      · rename_i tr hl; exact forall_mem_snoc h (ht _ tr hl)
      · exact h
      · split
        · rename_i tr hl; exact forall_mem_snoc h (hd _ (mem_of_alookup _ _ _ hl))
        · exact h

variable {B : String → Prop}

theorem editStep_sat (hT : ∀ n e l, T l → match NodeList.applyEdits n e l with | some r => T r | none => B msgArgs)
    (e : Esc) (ts : TextSet) (n : String) (h : TextAll T ts) : Sat (TextAll T) B (editStep e ts n) := by
  unfold editStep
  split
  · rename_i tr hl
    have := hT n e tr.root (h n tr hl)
    split <;> rename_i heq <;> rw [heq] at this
    · intro m tr2 hl2
      rw [lookup_set] at hl2
      split at hl2
      · cases hl2; exact this
      · exact h m tr2 hl2
    · exact this
  · exact h

theorem commit_sat (hT : ∀ n e l, T l → match NodeList.applyEdits n e l with | some r => T r | none => B msgArgs)
    (hB : B msgCommit) {text : TextSet} {e : Esc} (ht : TextAll T text) (he : EscAll T e) :
    Sat (fun r : TextSet × Esc => TextAll T r.1 ∧ EscAll T r.2 ∧ r.2.actionEdits = [] ∧ r.2.tmplEdits = [] ∧
      r.2.textEdits = []) B (commit text e) := by
  unfold commit
  dsimp only
  split
  · exact hB
  · refine Sat.bind (Q := TextAll T)
      (foldlM_sat (fun ts n => editStep_sat hT _ ts n) _ _ (install_all e.derived text ht he.1)) fun text2 h2 => ?_
    refine ⟨h2, ⟨?_, pristine_all ht he.1 e.output e.pristine he.2⟩, rfl, rfl, rfl⟩
    intro p hp
    obtain ⟨q, hq, rfl⟩ := List.mem_map.mp hp
    split
    · rename_i t hl; exact h2 _ t hl
    · exact he.1 q hq

end

theorem commit_panic {text : TextSet} {e : Esc} {m : String} (h : commit text e = .panic m) :
    m = msgCommit ∨ m = msgArgs :=
  (commit_sat (T := fun _ => True) (B := fun m => m = msgCommit ∨ m = msgArgs)
    (fun _ _ _ _ => by split <;> first | trivial | exact .inr rfl) (.inl rfl) (text := text) (e := e)
    (fun _ _ _ => trivial) ⟨fun _ _ => trivial, fun _ _ => trivial⟩).of_panic h

/-! ### 4. "index out of range: command without arguments" is unreachable for parser-shaped trees -/

/-- every command of the pipeline has at least one argument (text/template's parser guarantees it) -/
def PipeOK (p : Pipe) : Prop := ∀ c ∈ p.cmds, c.args ≠ []

mutual
def nodeWF : Node → Prop
  | .action _ p => PipeOK p
  | .ifN _ _ t e => listWF t ∧ listWF e
  | .rangeN _ _ t e => listWF t ∧ listWF e
  | .withN _ _ t e => listWF t ∧ listWF e
  | .text _ _ => True
  | .tmpl _ _ _ => True
  | .brk _ => True
  | .cont _ => True
  | .comment _ => True
def listWF : NodeList → Prop
  | .nil => True
  | .cons n ns => nodeWF n ∧ listWF ns
end

theorem predefinedCheck_go_some (c : Ctx) (n : Nat) : ∀ (l : List Cmd) (pos : Nat), (∀ x ∈ l, x.args ≠ []) →
    predefinedCheck.go c n l pos ≠ none := by
  intro l
  induction l with
  | nil => intro pos _; simp [predefinedCheck.go]
  | cons cmd rest ih =>
    intro pos h
    have hc := h cmd (List.mem_cons_self ..)
    have hr : ∀ x ∈ rest, x.args ≠ [] := fun x hx => h x (List.mem_cons_of_mem _ hx)
    unfold predefinedCheck.go
    split
    · rename_i heq; exact absurd heq hc
    · split
      · simp
      · exact ih _ hr
    · exact ih _ hr

theorem predefinedCheck_some (c : Ctx) (p : Pipe) (h : PipeOK p) : predefinedCheck c p.cmds ≠ none :=
  predefinedCheck_go_some c _ p.cmds 0 h

theorem identCmd_ok (s : List String) : ∀ c ∈ s.map identCmd, c.args ≠ [] := by
  intro c hc
  obtain ⟨x, _, rfl⟩ := List.mem_map.mp hc
  simp [identCmd]

theorem epc_ok (p : Pipe) (s : List String) (h : PipeOK p) :
    ∃ p', ensurePipelineContains p s = some p' ∧ PipeOK p' := by
  have happ : ∀ l : List Cmd, (∀ c ∈ l, c.args ≠ []) → ∀ c ∈ l ++ s.map identCmd, c.args ≠ [] :=
    fun l hl => forall_mem_append hl (identCmd_ok s)
  unfold ensurePipelineContains
  split
  · exact ⟨p, rfl, h⟩
  · split
    · exact ⟨_, rfl, identCmd_ok s⟩
    · rename_i lastCmd hlast
      have hl := h lastCmd (List.mem_of_getLast? hlast)
      split
      · rename_i heq; exact absurd heq hl
      · rename_i esc restArgs _
        split
        · cases hb : (p.cmds.length == 1 && !restArgs.isEmpty)
          · refine ⟨_, rfl, fun c hc => ?_⟩
            simp only [List.mem_append] at hc
            exact hc.elim (fun hc => h c (List.mem_of_mem_take hc)) (identCmd_ok _ c)
          · refine ⟨_, rfl, fun c hc => ?_⟩
            simp only [List.mem_append] at hc
            refine hc.elim (fun hc => ?_) (identCmd_ok _ c)
            have hc' := List.mem_of_mem_take hc
            simp only [List.mem_cons, List.mem_nil_iff, or_false] at hc'
            rcases hc' with rfl | rfl
            · simp
            · simp [identCmd]
        · exact ⟨_, rfl, happ _ h⟩
      · exact ⟨_, rfl, happ _ h⟩

mutual
theorem node_apply_wf (tn : String) (e : Esc) : ∀ n, nodeWF n → ∃ r, Node.applyEdits tn e n = some r ∧ nodeWF r
  | .text id b, _ => by
    simp only [Node.applyEdits]
    exact ⟨_, rfl, by split <;> simp only [nodeWF]⟩
  | .action id p, h => by
    simp only [nodeWF] at h
    simp only [Node.applyEdits]
    split
    · rename_i q _
      obtain ⟨p', h1, h2⟩ := epc_ok p q.2 h
      rw [h1]
      exact ⟨_, rfl, by simp only [nodeWF]; exact h2⟩
    · exact ⟨_, rfl, by simp only [nodeWF]; exact h⟩
  | .tmpl id name p, _ => by
    simp only [Node.applyEdits]
    exact ⟨_, rfl, by split <;> simp only [nodeWF]⟩
  | .ifN id p t el, h => by
    simp only [nodeWF] at h
    obtain ⟨t', a1, a2⟩ := list_apply_wf tn e t h.1
    obtain ⟨el', b1, b2⟩ := list_apply_wf tn e el h.2
    simp only [Node.applyEdits, a1, b1]
    exact ⟨_, rfl, by simp only [nodeWF]; exact ⟨a2, b2⟩⟩
  | .rangeN id p t el, h => by
    simp only [nodeWF] at h
    obtain ⟨t', a1, a2⟩ := list_apply_wf tn e t h.1
    obtain ⟨el', b1, b2⟩ := list_apply_wf tn e el h.2
    simp only [Node.applyEdits, a1, b1]
    exact ⟨_, rfl, by simp only [nodeWF]; exact ⟨a2, b2⟩⟩
  | .withN id p t el, h => by
    simp only [nodeWF] at h
    obtain ⟨t', a1, a2⟩ := list_apply_wf tn e t h.1
    obtain ⟨el', b1, b2⟩ := list_apply_wf tn e el h.2
    simp only [Node.applyEdits, a1, b1]
    exact ⟨_, rfl, by simp only [nodeWF]; exact ⟨a2, b2⟩⟩
  | .brk id, _ => by simp only [Node.applyEdits]; exact ⟨_, rfl, by simp only [nodeWF]⟩
  | .cont id, _ => by simp only [Node.applyEdits]; exact ⟨_, rfl, by simp only [nodeWF]⟩
  | .comment id, _ => by simp only [Node.applyEdits]; exact ⟨_, rfl, by simp only [nodeWF]⟩
theorem list_apply_wf (tn : String) (e : Esc) : ∀ l, listWF l → ∃ r, NodeList.applyEdits tn e l = some r ∧ listWF r
  | .nil, _ => by simp only [NodeList.applyEdits]; exact ⟨_, rfl, by simp only [listWF]⟩
  | .cons n ns, h => by
    simp only [listWF] at h
    obtain ⟨n', a1, a2⟩ := node_apply_wf tn e n h.1
    obtain ⟨ns', b1, b2⟩ := list_apply_wf tn e ns h.2
    simp only [NodeList.applyEdits, a1, b1]
    exact ⟨_, rfl, by simp only [listWF]; exact ⟨a2, b2⟩⟩
end

def TW (text : TextSet) : Prop := ∀ n tr, text.lookup n = some (some tr) → listWF tr.root
def EW (e : Esc) : Prop := (∀ p ∈ e.derived, listWF p.2.root) ∧ (∀ p ∈ e.pristine, listWF p.2.root)

def OutP {α} (Q : α → Prop) : Out α → Prop
  | .ok a => Q a
  | .panic m => m ≠ msgArgs
  | .fuel => True

theorem OutP.pure {α} {Q : α → Prop} {a : α} (h : Q a) : OutP Q (Pure.pure a : Out α) := h

def NodeA (env : Env) (f : Nat) : Prop :=
  ∀ tn e c n, EW e → nodeWF n → OutP (fun r : Esc × Ctx => EW r.1) (escapeNode env f tn e c n)
def ListA (env : Env) (f : Nat) : Prop :=
  ∀ tn e c l, EW e → listWF l → OutP (fun r : Esc × Ctx => EW r.1) (escapeList env f tn e c l)
def BranchA (env : Env) (f : Nat) : Prop :=
  ∀ tn e c t el b, EW e → listWF t → listWF el →
    OutP (fun r : Esc × Ctx => EW r.1) (escapeBranch env f tn e c t el b)
def TreeA (env : Env) (f : Nat) : Prop :=
  ∀ e c name, EW e → OutP (fun r : Esc × Ctx × String => EW r.1) (escapeTree env f e c name)
def OutA (env : Env) (f : Nat) : Prop :=
  ∀ e c tname t, EW e → (∀ tr, t = some tr → listWF tr.root) →
    OutP (fun r : Esc × Ctx => EW r.1) (computeOutCtx env f e c tname t)
def BodyA (env : Env) (f : Nat) : Prop :=
  ∀ e c tname t, EW e → (∀ tr, t = some tr → listWF tr.root) →
    OutP (fun r : Esc × Ctx × Bool => EW r.1) (escapeTemplateBody env f e c tname t)

/-- under tree well-formedness the analysis never reports "command without arguments", and the derived / pristine
    trees stay well formed -/
theorem analysis_args (env : Env) (htw : TW env.text) : ∀ f,
    NodeA env f ∧ ListA env f ∧ BranchA env f ∧ TreeA env f ∧ OutA env f ∧ BodyA env f := by
  -- `OutP Q` is `Sat Q (· ≠ msgArgs)`, and `EW` is `EscAll listWF`
  have hS : msgShared ≠ msgArgs := by decide
  refine fuel_induction ⟨?_, ?_, ?_, ?_, ?_, ?_⟩ ?_ ?_ ?_ ?_ ?_ ?_
  · intro _ _ _ _ _ _; rw [escapeNode_zero]; trivial
  · intro _ _ _ _ _ _; rw [escapeList_zero]; trivial
  · intro _ _ _ _ _ _ _ _ _; rw [escapeBranch_zero]; trivial
  · intro _ _ _ _; rw [escapeTree_zero]; trivial
  · intro _ _ _ _ _ _; rw [computeOutCtx_zero]; trivial
  · intro _ _ _ _ _ _; rw [escapeTemplateBody_zero]; trivial
  · intro f hb ht tn e c n he hn
    cases n with
    | action id p =>
      rw [escapeNode_action]
      simp only [nodeWF] at hn
      exact escapeAction_sat (fun h => absurd h (predefinedCheck_some _ p hn)) he
        fun s => editAction_sat (fun _ => hS) (fun _ => he)
    | text id b =>
      rw [escapeNode_text]
      exact escapeTextNode_sat (by decide) he fun nb => editText_sat (fun _ => hS) (fun _ => he)
    | ifN id p t el => rw [escapeNode_if]; simp only [nodeWF] at hn; exact hb _ _ _ _ _ _ he hn.1 hn.2
    | withN id p t el => rw [escapeNode_with]; simp only [nodeWF] at hn; exact hb _ _ _ _ _ _ he hn.1 hn.2
    | rangeN id p t el => rw [escapeNode_range]; simp only [nodeWF] at hn; exact hb _ _ _ _ _ _ he hn.1 hn.2
    | tmpl id name p =>
      exact escapeNode_tmpl_sat (Q := EW) (R := EW) (ht e c name he) (fun _ h => h)
        fun e1 d h1 => editTmpl_sat (fun _ => hS) (fun _ => h1)
    | brk id => rw [escapeNode_brk]; exact he
    | cont id => rw [escapeNode_cont]; exact he
    | comment id => rw [escapeNode_comment]; exact he
  · intro f hn hl tn e c l he hw
    cases l with
    | nil => rw [escapeList_nil]; exact he
    | cons n ns =>
      rw [escapeList_cons]
      simp only [listWF] at hw
      exact Sat.bind (hn tn e c n he hw.1) fun r hr => hl tn r.1 r.2 ns hr hw.2
  · intro f hl tn e c t el b he ht hel
    exact escapeBranch_sat (Q := EW) (R := EW) (hl tn e c t he ht)
      (fun e1 c1 h1 => Sat.mono (hl tn (scratch e1) c1 t (EscAll.scratch h1) ht) (fun _ _ => trivial) fun _ h => h)
      (fun _ h => h) (fun e1 h1 => hl tn e1 c el h1 hel)
  · intro f ho e c name he
    refine escapeTree_sat (R := EW) he (fun _ _ => he) (fun _ => he) fun tr _ htm => ?_
    obtain ⟨h1, h2⟩ := enter_all htw he c htm
    exact ho _ c _ _ h1 h2
  · intro f hy e c tname t he ht
    exact computeOutCtx_sat (Q := fun e1 _ => EW e1) (Q2 := EW) (R := EW) (hy e c tname t he ht) (fun _ _ h => h)
      (fun e1 c1 h1 => hy e1 c1 tname t h1 ht) (fun _ _ h => h)
  · intro f hl e c tname t he ht
    exact escapeTemplateBody_sat (Q := EW) (R := fun e1 _ => EW e1) (fun _ => by decide)
      (fun tr h => hl tname _ c tr.root (EscAll.scratch (e := setOut e tname c) he) (ht tr h))
      (fun _ _ => ⟨mergeEdits_sat hS _ _, mergeEdits_sat hS _ _, mergeEdits_sat hS _ _⟩)
      (fun e1 h1 => EscAll.merge (e := setOut e tname c) he h1) (fun _ _ => he)

theorem commit_args (text : TextSet) (e : Esc) (htw : TW text) (he : EW e) :
    OutP (fun r : TextSet × Esc => TW r.1 ∧ EW r.2) (commit text e) :=
  Sat.mono
    (commit_sat (T := listWF) (fun n e l h => by obtain ⟨r, h1, h2⟩ := list_apply_wf n e l h; rw [h1]; exact h2)
      (by decide) htw he)
    (fun _ h => ⟨h.1, h.2.1⟩) fun _ h => h

theorem top_args (w : World) (ns : Nat) (name : String) (htw : TW (w.ns ns).text) (he : EW (w.ns ns).esc) :
    (∀ m, escapeTemplateTop w ns name = .inl (.panic m) → m ≠ msgArgs) ∧
    (∀ w' r, escapeTemplateTop w ns name = .inr (w', r) → TW (w'.ns ns).text ∧ EW (w'.ns ns).esc) :=
  top_sat (J := fun t e => TW t ∧ EW e) w ns name
    (Sat.mono ((analysis_args (analysisEnv w ns) htw w.fuel).2.2.2.1 _ _ _ he) (fun _ h => ⟨htw, h⟩) fun _ h => h)
    fun e h => commit_args _ e h.1 h.2

/-- **C08, analysis, as far as proved.** In a name space in which every memoized name has a template (`HasT`), no
    template has a nil tree (`NoNil`) and all installed, derived and pristine trees have only commands with at least
    one argument (`TW`, `EW`) — all four are invariants of the critical sections — `escapeTemplateTop` returns a
    result (`.inr`: success or analysis error), or runs out of fuel, or reports one of the two panics NOT covered
    here: "node shared between templates", "infinite loop in escapeText". -/
theorem C08_analysis_total_partial (w : World) (ns : Nat) (name : String)
    (hT : HasT (w.ns ns).text (w.ns ns).esc) (hnn : NoNil (w.ns ns).text)
    (htw : TW (w.ns ns).text) (he : EW (w.ns ns).esc) :
    (∃ w' r, escapeTemplateTop w ns name = .inr (w', r)) ∨ escapeTemplateTop w ns name = .inl .fuel ∨
    escapeTemplateTop w ns name = .inl (.panic msgShared) ∨ escapeTemplateTop w ns name = .inl (.panic msgLoop) := by
  cases hres : escapeTemplateTop w ns name with
  | inr p => exact .inl ⟨p.1, p.2, rfl⟩
  | inl res =>
    rcases top_inl_res hres with rfl | ⟨m, rfl⟩
    · exact .inr (.inl rfl)
    · rcases escapeTemplateTop_no_panic_partial w ns name m hT hnn hres with h1 | h1 | h1
      · exact absurd h1 ((top_args w ns name htw he).1 m hres)
      · rw [h1]; exact .inr (.inr (.inl rfl))
      · rw [h1]; exact .inr (.inr (.inr rfl))

end SafeHtml.Proofs.NoPanic
