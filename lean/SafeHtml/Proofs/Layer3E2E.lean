/-
C01 end to end for straight-line templates (static texts and actions; no branches, no template calls). It connects
three results proved separately: over a static text in the grammar `Simple` the engine's context stays `Rel`-related
to the tokenizer state on the emitted text (`Layer3.layer3_simple`); in EVERY context in which `sanitizerForContext`
accepts an action, a chain that succeeds yields a string in `Esc` unless the value carries a safe type that the
chain's first function passes through (`chain_esc_or`), and the action leaves the context unchanged
(`actionStep_same`, with `C04_positions`); `Esc` text at inert positions keeps two tokenizer runs `Sim`-related
(`HtmlTokSim`). `straight_line_sim` is the induction along the template, `C01_straight_line` the main theorem;
`escapeList_refines`: the model's `escapeList` on the node list of the template computes the context of `analyse`
and records exactly its edits.
-/
import SafeHtml.Proofs.Layer3
import SafeHtml.Props.C04
import SafeHtml.Model.Tmpl.Escaper
set_option linter.unusedSimpArgs false
namespace SafeHtml.Proofs.Layer3E2E
open SafeHtml SafeHtml.Model SafeHtml.Model.Tmpl SafeHtml.Spec SafeHtml.Spec.HtmlTok SafeHtml.Generated.Policy
open SafeHtml.Props.C01 (run_append run_data Esc_no_special)
open SafeHtml.Props.C02 (Untrusted)
open SafeHtml.Proofs.HtmlTokSim
open SafeHtml.Proofs.Layer3

/-! ### straight-line templates -/

/-- a straight-line template: static texts and actions, no branches, no template calls -/
inductive Piece where
  | text (s : Bytes)
  | action
  deriving Repr, DecidableEq

/-- what the analysis leaves for execution: the emitted static text, the sanitizer chain of an action -/
inductive EPiece where
  | text (out : Bytes)
  | action (chain : List String)
  deriving Repr, DecidableEq

/-- the analysis of an action (`escapeAction` for a pipeline without declarations and without predefined escapers):
    the context is nudged, and the chain is chosen by `sanitizerForContext`; `none` = the analysis fails -/
def actionStep (v : Validators) (c : Ctx) : Option (Ctx × List String) :=
  let c := nudge c
  if c.state == .error then none
  else
    let c := if c.state == .attrName || c.state == .tag then { c with state := .attrName } else c
    match sanitizerForContext v c with
    | none => none
    | some s => some (c, s)

/-- the analysis of a straight-line template from context `c`: final context and pieces for execution;
    `none` = the engine panics, or ends a piece in an error context (the template is rejected) -/
def analyse (v : Validators) : Ctx → List Piece → Option (Ctx × List EPiece)
  | c, [] => some (c, [])
  | c, .text s :: ps =>
    match scan c s with
    | none => none
    | some (c', out) =>
      if c'.state == .error then none
      else
        match analyse v c' ps with
        | none => none
        | some (cf, es) => some (cf, .text out :: es)
  | c, .action :: ps =>
    match actionStep v c with
    | none => none
    | some (c', ch) =>
      match analyse v c' ps with
      | none => none
      | some (cf, es) => some (cf, .action ch :: es)

/-- execution: the emitted static texts and the outputs of the chains, one value per action;
    `none` = a chain fails (execution error) or the number of values is wrong -/
def exec : List EPiece → List Value → Option Bytes
  | [], [] => some []
  | .text o :: es, vs => (exec es vs).map (o ++ ·)
  | .action ch :: es, v :: vs =>
    match runChain ch v with
    | .ok (.str s) => (exec es vs).map (s ++ ·)
    | _ => none
  | _, _ => none

/-- every static text is simple for the context it is scanned in (threaded through the analysis, as in
    `layer3_partial`); no action sits directly after `=` with an empty attribute name. The second clause restricts
    nothing: the engine never reaches `beforeValue` with an empty name (`<a =` is an error context), but `Rel` does
    not record that, and `actionStep_same` needs the name to apply `C04_positions` to the unquoted value;
    `Layer3Typed.Inv` proves it along an accepted template. -/
def SimpleAll (v : Validators) : Ctx → List Piece → Prop
  | _, [] => True
  | c, .text s :: ps =>
    (∃ js out se, Simple js c.elemName c.state c.delim s out se ∧
      (memKey specialElements c.elemName = true → InTagState c.state → ∀ x ∈ s, x ≠ 60) ∧
      (js = true → isJsTemplateBalanced s = true)) ∧
    SimpleAll v (scanD c s).1 ps
  | c, .action :: ps =>
    (c.state = .beforeValue → c.attrName ≠ []) ∧
    match actionStep v c with
    | some (c', _) => SimpleAll v c' ps
    | none => True

/-! ### inversion of `analyse` and `exec` -/

theorem analyse_text {v : Validators} {c cf : Ctx} {s : Bytes} {ps : List Piece} {es : List EPiece}
    (h : analyse v c (.text s :: ps) = some (cf, es)) :
    ∃ c' out es', scan c s = some (c', out) ∧ (c'.state == .error) = false ∧
      analyse v c' ps = some (cf, es') ∧ es = .text out :: es' := by
  simp only [analyse] at h
  split at h
  · cases h
  next c' out hsc =>
  split at h
  · cases h
  next hne =>
  split at h
  · cases h
  next cf' es' hrec =>
  cases h
  exact ⟨c', out, es', hsc, by simpa using hne, hrec, rfl⟩

theorem analyse_action {v : Validators} {c cf : Ctx} {ps : List Piece} {es : List EPiece}
    (h : analyse v c (.action :: ps) = some (cf, es)) :
    ∃ c' ch es', actionStep v c = some (c', ch) ∧ analyse v c' ps = some (cf, es') ∧ es = .action ch :: es' := by
  simp only [analyse] at h
  split at h
  · cases h
  next c' ch hact =>
  split at h
  · cases h
  next cf' es' hrec =>
  cases h
  exact ⟨c', ch, es', hact, hrec, rfl⟩

theorem exec_text {o : Bytes} {es : List EPiece} {vs : List Value} {r : Bytes}
    (h : exec (.text o :: es) vs = some r) : ∃ r', exec es vs = some r' ∧ r = o ++ r' := by
  obtain ⟨r', h1, rfl⟩ := Option.map_eq_some_iff.1 h
  exact ⟨r', h1, rfl⟩

theorem exec_action {ch : List String} {es : List EPiece} {vs : List Value} {r : Bytes}
    (h : exec (.action ch :: es) vs = some r) :
    ∃ x vs' d r', vs = x :: vs' ∧ runChain ch x = .ok (.str d) ∧ exec es vs' = some r' ∧ r = d ++ r' := by
  cases vs with
  | nil => cases h
  | cons x vs' =>
    simp only [exec] at h
    split at h
    · next d hd =>
      obtain ⟨r', h1, rfl⟩ := Option.map_eq_some_iff.1 h
      exact ⟨x, vs', d, r', rfl, hd, h1, rfl⟩
    · cases h

/-! ### what an accepted action emits -/

/-- the sanitization contexts that occur as element content -/
def contentSC (sc : SC) : Bool := sc == .HTML || sc == .RCDATA || sc == .Script || sc == .StyleSheet

/-- the only fact used about the generated table `elementContent` -/
theorem elementContent_spec : elementContent.all (fun r => contentSC r.2.2) = true := by decide +kernel

theorem lookupSC_mem (tbl : List (Nat × List Nat × SC)) (k : Bytes) (sc : SC) (h : lookupSC tbl k = some sc) :
    ∃ r ∈ tbl, r.2.1 = k ∧ r.2.2 = sc := by
  unfold lookupSC at h
  split at h
  · next r hr =>
    exact ⟨r, List.mem_of_find?_eq_some hr, by simpa using List.find?_some hr, by simpa using h⟩
  · cases h

theorem content_sc (e : Bytes) (sc : SC) (h : sanitizationContextForElementContent e = some sc) :
    contentSC sc = true := by
  obtain ⟨r, hr, _, rfl⟩ := lookupSC_mem _ _ _ h
  exact (List.all_eq_true.1 elementContent_spec) r hr

theorem allSame_head (l : List (Option SC)) (sc : SC) (h : allSame l = some sc) : ∃ t, l = some sc :: t := by
  cases l with
  | nil => simp [allSame] at h
  | cons a t =>
    cases a with
    | none => simp [allSame] at h
    | some s =>
      simp only [allSame] at h
      split at h
      · cases h; exact ⟨t, rfl⟩
      · cases h

theorem content_sanitizer (c : Ctx) (s : String) (h : sanitizerForElementContent c = some s) :
    ∃ e, (c.elemNames = [] → e = c.elemName) ∧
      ((e = [] ∧ s = "_sanitizeHTML") ∨ ∃ sc, lookupSC elementContent e = some sc ∧ s = sc.sanitizerName) := by
  unfold sanitizerForElementContent at h
  simp only [] at h
  split at h
  · cases h
  next sc0 hs =>
  cases h
  obtain ⟨t, ht⟩ := allSame_head _ _ hs
  cases he : (if c.elemNames.isEmpty then [c.elemName] else c.elemNames) with
  | nil => rw [he] at ht; cases ht
  | cons e0 es =>
    rw [he] at ht
    refine ⟨e0, fun hn => ?_, ?_⟩
    · rw [hn] at he; cases he; rfl
    · have h0 := (List.cons.inj ht).1
      simp only [] at h0
      split at h0
      · next h1 => cases h0; exact Or.inl ⟨by simpa using h1, rfl⟩
      · exact Or.inr ⟨sc0, h0, rfl⟩

theorem content_chain (c : Ctx) (s : String) (h : sanitizerForElementContent c = some s) :
    s = "_sanitizeHTML" ∨ s = "_sanitizeRCDATA" ∨ s = "_sanitizeScript" ∨ s = "_sanitizeStyleSheet" := by
  obtain ⟨e, _, ⟨_, rfl⟩ | ⟨sc, hl, rfl⟩⟩ := content_sanitizer c s h
  · exact Or.inl rfl
  · have hc := content_sc e sc hl
    cases sc <;> simp [contentSC] at hc <;> simp [SC.sanitizerName]

theorem sanitizerForContext_cases {v : Validators} {c : Ctx} {ch : List String}
    (h : sanitizerForContext v c = some ch) :
    (c.state = .htmlCmt ∧ ch = [fnHTMLComment]) ∨
    (c.state = .text ∧ c.elemName = [] ∧ ch = [fnHTML]) ∨
    ((c.attrName ≠ [] ∨ c.attrNames ≠ []) ∧ (c.delim = .dq ∨ c.delim = .sq) ∧
      sanitizersForAttributeValue v c = some ch) ∨
    (c.attrName = [] ∧ c.attrNames = [] ∧ c.state ≠ .htmlCmt ∧ ∃ s, sanitizerForElementContent c = some s ∧
      ch = [s] ∧
      (s = "_sanitizeHTML" ∨ s = "_sanitizeRCDATA" ∨ s = "_sanitizeScript" ∨ s = "_sanitizeStyleSheet")) := by
  unfold sanitizerForContext at h
  split at h
  · cases h
  split at h
  · next hc => cases h; exact Or.inl ⟨by simpa using hc, rfl⟩
  rename_i hcmt
  split at h
  · next ht =>
    cases h
    simp only [Bool.and_eq_true, beq_iff_eq] at ht
    exact Or.inr (Or.inl ⟨ht.2, ht.1.2, rfl⟩)
  split at h
  · next hn =>
    split at h
    · cases h
    · next hd =>
      refine Or.inr (Or.inr (Or.inl ⟨?_, ?_, h⟩))
      · simpa [List.isEmpty_iff] using hn
      · simp only [Bool.and_eq_true, bne_iff_ne, ne_eq, not_and, Decidable.not_not] at hd
        exact Decidable.or_iff_not_imp_left.2 hd
  · next hn =>
    split at h
    · cases h
    · next s hs =>
      cases h
      have h4 := content_chain c s hs
      have hne : s ≠ "" := by rcases h4 with h | h | h | h <;> simp [h]
      simp only [Bool.or_eq_true, bne_iff_ne, ne_eq, Bool.not_eq_eq_eq_not, Bool.not_true, not_or,
        Decidable.not_not, List.isEmpty_eq_false_iff, Bool.not_eq_false] at hn
      exact Or.inr (Or.inr (Or.inr ⟨hn.1, hn.2, by simpa using hcmt, s, hs, by simp [appendIfNotEmpty, hne], h4⟩))

theorem runChain_single (f : String) (val : Value) : runChain [f] val = runFn f val := by
  simp only [runChain, bind, Except.bind]
  cases runFn f val <;> rfl

theorem content_fn_esc {s : String} {val w : Value}
    (hs : s = "_sanitizeHTML" ∨ s = "_sanitizeRCDATA" ∨ s = "_sanitizeScript" ∨ s = "_sanitizeStyleSheet")
    (h : runFn s val = .ok w) :
    (∃ x, w = .str x ∧ Esc x = true) ∨
      ∃ τ b, val.indirect = .safe τ b ∧ (Props.C03.allowedFn s).contains τ = true := by
  have typed : s ∈ ["_sanitizeHTMLValOnly", "_sanitizeIdentifier", "_sanitizeScript", "_sanitizeStyle",
      "_sanitizeStyleSheet", "_sanitizeTrustedResourceURL"] →
      ∃ τ b, val.indirect = .safe τ b ∧ (Props.C03.allowedFn s).contains τ = true := by
    intro hm
    rw [Props.C03.runFn_typedOnly s hm] at h
    unfold typedOnly at h
    split at h
    · next t b hi =>
      split at h
      · next hc => exact ⟨t, b, hi, hc⟩
      · cases h
    · cases h
  rcases hs with rfl | rfl | rfl | rfl
  · have str : (match stringify val with | some s => Except.ok (htmlEscaped s) | none => .error RunErr.unsupported).map
        Value.str = .ok w → ∃ x, w = .str x ∧ Esc x = true := by
      intro hr
      split at hr
      · cases hr; exact ⟨_, rfl, SafeHtml.Props.C10.C10_inert _⟩
      · cases hr
    rw [show runFn "_sanitizeHTML" val = _ from Props.C03.runFn_sanitizeHTML val] at h
    unfold typedOr at h
    split at h
    · next t b hi =>
      split at h
      · next hc => exact Or.inr ⟨t, b, hi, hc⟩
      · exact Or.inl (str h)
    · exact Or.inl (str h)
  · exact Or.inl (SafeHtml.Props.C01.C01_rcdata_inert val w h)
  · exact Or.inr (typed (by decide))
  · exact Or.inr (typed (by decide))

/-- every accepted action emits inert text, whatever the value, unless the value carries a safe type that the
    first function of the chain passes through; inside a quoted attribute value even then (a comment position
    emits the empty string) -/
theorem chain_esc_or {v : Validators} {c : Ctx} {ch : List String} {val o : Value}
    (h : sanitizerForContext v c = some ch) (hrun : runChain ch val = .ok o) :
    (∃ x, o = .str x ∧ Esc x = true) ∨
    ((c.state = .attr → c.attrName = []) ∧
      ∃ τ b f fs, val.indirect = .safe τ b ∧ ch = f :: fs ∧ (Props.C03.allowedFn f).contains τ = true) := by
  rcases sanitizerForContext_cases h with ⟨_, rfl⟩ | ⟨hst, _, rfl⟩ | ⟨_, _, hattr⟩ | ⟨han, _, _, s, _, rfl, hs⟩
  · rw [runChain_single, SafeHtml.Props.C02.C02_comment] at hrun
    cases hrun
    exact Or.inl ⟨[], rfl, by decide⟩
  · rw [runChain_single] at hrun
    refine (content_fn_esc (Or.inl rfl) hrun).imp_right fun ⟨τ, b, hi, hc⟩ => ⟨fun ha => ?_, τ, b, _, _, hi, rfl, hc⟩
    rw [hst] at ha; cases ha
  · exact Or.inl (SafeHtml.Props.C03.C03_attr_escaped v c ch val o hattr hrun)
  · rw [runChain_single] at hrun
    exact (content_fn_esc hs hrun).imp_right fun ⟨τ, b, hi, hc⟩ => ⟨fun _ => han, τ, b, _, _, hi, rfl, hc⟩

theorem esc_of_str {d : Bytes} (h : ∃ x, Value.str d = .str x ∧ Esc x = true) : Esc d = true := by
  obtain ⟨_, h1, he⟩ := h
  cases h1
  exact he

/-- for untrusted values: typed-only chains fail, everything else is escaped -/
theorem ctx_chain_esc {v : Validators} {c : Ctx} {ch : List String} {val : Value} {d : Bytes}
    (h : sanitizerForContext v c = some ch) (hu : Untrusted val) (hrun : runChain ch val = .ok (.str d)) :
    Esc d = true :=
  esc_of_str ((chain_esc_or h hrun).resolve_right fun ⟨_, τ, b, _, _, hi, _⟩ => hu τ b hi)

/-! ### inert positions -/

/-- the contexts in which an action can be accepted -/
def ActionState (s : State) : Prop := s = .text ∨ s = .specialBody ∨ s = .htmlCmt ∨ s = .attr

theorem rel_inert_sim {c : Ctx} {t : T} {x : Bytes} (hr : Rel c t) (hs : ActionState c.state) (hx : Esc x = true) :
    Sim t (run t x) := by
  have hn := Esc_no_special x hx
  rcases hs with hs | hs | hs | hs <;> simp only [Rel, hs] at hr
  · exact txt_sim t x (.inl hr.2.2) fun b hb => (hn b hb).1
  · refine txt_sim t x (.inr ?_) fun b hb => (hn b hb).1
    rw [hr.2.2.2]
    exact nextSt_special hr.2.1
  · exact txt_sim t x (.inl hr.2.2) fun b hb => (hn b hb).1
  · rcases hr.2.2 with ⟨_, h⟩ | ⟨_, h⟩
    · exact av_sim t x 34 (.inl ⟨h, rfl⟩) fun b hb => (hn b hb).2.2.1
    · exact av_sim t x 39 (.inr ⟨h, rfl⟩) fun b hb => (hn b hb).2.2.2.1

/-- the correspondence survives inert text at an action position: the engine's context after an action is the
    context before it (inside an attribute value it does not even record the value), the tokenizer only extends
    its pending text / attribute value -/
theorem rel_esc (c : Ctx) (t : T) (x : Bytes) (hr : Rel c t) (hs : ActionState c.state) (hx : Esc x = true) :
    Rel c (run t x) := by
  have hn := Esc_no_special x hx
  rcases hs with hs | hs | hs | hs
  · exact rel_text c t x hs hr (fun b hb => (hn b hb).1)
  · exact rel_body c t x hs hr (fun b hb => (hn b hb).1)
  · simp only [Rel, hs] at hr ⊢
    rw [run_data x t hr.2.2 (fun b hb => (hn b hb).1)]
    exact hr
  · refine rel_val c t x hs hr (fun b hb => ?_)
    simp only [Rel, hs] at hr
    rcases hr.2.2 with ⟨hd, _⟩ | ⟨hd, _⟩
    · rw [hd]; exact (hn b hb).2.2.1
    · rw [hd]; exact (hn b hb).2.2.2.1

theorem sim_esc {c : Ctx} {a b : T} {x y : Bytes} (ha : Rel c a) (hb : Rel c b) (hsim : Sim a b)
    (hs : ActionState c.state) (hx : Esc x = true) (hy : Esc y = true) :
    Rel c (run a x) ∧ Rel c (run b y) ∧ Sim (run a x) (run b y) :=
  ⟨rel_esc c a x ha hs hx, rel_esc c b y hb hs hy,
    (rel_inert_sim ha hs hx).symm.trans (hsim.trans (rel_inert_sim hb hs hy))⟩

/-! ### an accepted action -/

theorem actionStep_eq {v : Validators} {c c' : Ctx} {ch : List String} (h : actionStep v c = some (c', ch)) :
    ((nudge c).state == .error) = false ∧
    c' = (if (nudge c).state == .attrName || (nudge c).state == .tag then { nudge c with state := .attrName }
      else nudge c) ∧
    sanitizerForContext v c' = some ch := by
  unfold actionStep at h
  simp only [] at h
  split at h
  · cases h
  next hne =>
  split at h
  · cases h
  next s hs =>
  cases h
  exact ⟨by simpa using hne, rfl, hs⟩

theorem actionStep_chain (v : Validators) (c c' : Ctx) (ch : List String) (h : actionStep v c = some (c', ch)) :
    sanitizerForContext v c' = some ch :=
  (actionStep_eq h).2.2

/-- an accepted action leaves the context as it is, except directly after `=` (unquoted value): `nudge` sends `tag`
    and `afterName` to `attrName`, where every action is refused, and `beforeValue` to the unquoted `attr`; the other
    states it leaves alone -/
theorem actionStep_cases (v : Validators) (c c' : Ctx) (ch : List String) (h : actionStep v c = some (c', ch)) :
    (c' = c ∧ ActionState c.state) ∨
    (c.state = .beforeValue ∧ c' = { c with state := .attr, delim := .spaceOrTagEnd }) := by
  have refused : ∀ d : Ctx, d.state = .attrName → sanitizerForContext v d = none := fun d hd =>
    Props.C04.C04_positions v d (Or.inr (Or.inl hd))
  obtain ⟨hne, rfl, hch⟩ := actionStep_eq h
  cases hs : c.state <;> simp [nudge, hs, refused, ActionState] at hne hch ⊢

/-- an accepted action: the context is unchanged, it is an action position, and the chain is the one of the
    context (`C04_positions`: no action in a tag or attribute name, nor in an unquoted value) -/
theorem actionStep_same (v : Validators) (c c' : Ctx) (ch : List String)
    (hbv : c.state = .beforeValue → c.attrName ≠ []) (h : actionStep v c = some (c', ch)) :
    c' = c ∧ ActionState c.state ∧ sanitizerForContext v c = some ch := by
  have hch := actionStep_chain v c c' ch h
  rcases actionStep_cases v c c' ch h with ⟨rfl, hs⟩ | ⟨hs, rfl⟩
  · exact ⟨rfl, hs, hch⟩
  · have := Props.C04.C04_positions v { c with state := .attr, delim := .spaceOrTagEnd } (Or.inr (Or.inr (Or.inr
      ⟨rfl, Or.inl (hbv hs), by simp, by simp, by simp⟩)))
    rw [this] at hch
    cases hch

/-! ### one step of two executions side by side -/

theorem scanD_of_scan {c c' : Ctx} {s out : Bytes} (h : scan c s = some (c', out)) : scanD c s = (c', out) := by
  simp [scanD, h]

theorem sim_text {c c' : Ctx} {a b : T} {s out : Bytes} (ha : Rel c a) (hb : Rel c b) (hsim : Sim a b)
    (hs : ∃ js out se, Simple js c.elemName c.state c.delim s out se ∧
      (memKey specialElements c.elemName = true → InTagState c.state → ∀ x ∈ s, x ≠ 60) ∧
      (js = true → isJsTemplateBalanced s = true))
    (hsc : scan c s = some (c', out)) :
    Rel c' (run a out) ∧ Rel c' (run b out) ∧ Sim (run a out) (run b out) := by
  obtain ⟨js, out', se, hsimple, hlt, hjs⟩ := hs
  obtain ⟨c1, h1, _, hra⟩ := layer3_simple js c a s out' se ha hsimple hlt hjs
  obtain ⟨c2, h2, _, hrb⟩ := layer3_simple js c b s out' se hb hsimple hlt hjs
  rw [hsc] at h1 h2
  cases h1
  cases h2
  exact ⟨hra, hrb, run_sim _ a b hsim⟩

theorem sim_action {v : Validators} {c c' : Ctx} {ch : List String} {a b : T} {x y : Value} {dx dy : Bytes}
    (ha : Rel c a) (hb : Rel c b) (hsim : Sim a b) (hbv : c.state = .beforeValue → c.attrName ≠ [])
    (hact : actionStep v c = some (c', ch)) (hx : Untrusted x) (hy : Untrusted y)
    (hrx : runChain ch x = .ok (.str dx)) (hry : runChain ch y = .ok (.str dy)) :
    c' = c ∧ Rel c' (run a dx) ∧ Rel c' (run b dy) ∧ Sim (run a dx) (run b dy) := by
  obtain ⟨rfl, hst, hch⟩ := actionStep_same v c c' ch hbv hact
  exact ⟨rfl, sim_esc ha hb hsim hst (ctx_chain_esc hch hx hrx) (ctx_chain_esc hch hy hry)⟩

theorem C01_of_sim {cf : Ctx} {o1 o2 : Bytes} (hr1 : Rel cf (run {} o1)) (hr2 : Rel cf (run {} o2))
    (hsim : Sim (run {} o1) (run {} o2)) :
    skeleton (HtmlTok.tokenize o1).tokens = skeleton (HtmlTok.tokenize o2).tokens ∧
    (HtmlTok.tokenize o1).final = (HtmlTok.tokenize o2).final ∧
    (cf.state = .text → (HtmlTok.tokenize o1).final = .data ∧ (HtmlTok.tokenize o2).final = .data) := by
  simp only [tokenize_tokens, tokenize_final]
  exact rel_sim_finish hr1 hr2 hsim

/-! ### the end-to-end statement -/

/-- every chain of the execution that succeeds on its value emits inert text -/
def EscOut : List EPiece → List Value → Prop
  | .text _ :: es, vs => EscOut es vs
  | .action ch :: es, x :: vs => (∀ d, runChain ch x = .ok (.str d) → Esc d = true) ∧ EscOut es vs
  | _, _ => True

/-- the invariant along a straight-line template, for two executions side by side: all that is used about the
    values is that the chains emit inert text on them -/
theorem straight_line_sim {v : Validators} {ps : List Piece} {c cf : Ctx} {a b : T} {es : List EPiece}
    {vs ws : List Value} {o1 o2 : Bytes} (ha : Rel c a) (hb : Rel c b) (hsim : Sim a b) (hall : SimpleAll v c ps)
    (han : analyse v c ps = some (cf, es)) (hu : EscOut es vs) (hw : EscOut es ws)
    (h1 : exec es vs = some o1) (h2 : exec es ws = some o2) :
    Rel cf (run a o1) ∧ Rel cf (run b o2) ∧ Sim (run a o1) (run b o2) := by
  induction ps generalizing c a b es vs ws o1 o2 with
  | nil =>
    cases han
    cases vs <;> cases ws <;> simp [exec] at h1 h2
    subst h1 h2
    exact ⟨ha, hb, hsim⟩
  | cons p ps ih =>
    cases p with
    | text s =>
      obtain ⟨c1, out, es', hsc, _, hrec, rfl⟩ := analyse_text han
      obtain ⟨r1, e1, rfl⟩ := exec_text h1
      obtain ⟨r2, e2, rfl⟩ := exec_text h2
      obtain ⟨hra, hrb, hs'⟩ := sim_text ha hb hsim hall.1 hsc
      have hrest := hall.2
      rw [scanD_of_scan hsc] at hrest
      rw [run_append, run_append]
      exact ih hra hrb hs' hrest hrec hu hw e1 e2
    | action =>
      obtain ⟨c', ch, es', hact, hrec, rfl⟩ := analyse_action han
      obtain ⟨hbv, hrest⟩ := hall
      simp only [hact] at hrest
      obtain ⟨x, vs', dx, r1, rfl, hx, e1, rfl⟩ := exec_action h1
      obtain ⟨y, ws', dy, r2, rfl, hy, e2, rfl⟩ := exec_action h2
      obtain ⟨rfl, hst, _⟩ := actionStep_same v c c' ch hbv hact
      obtain ⟨hra, hrb, hs'⟩ := sim_esc ha hb hsim hst (hu.1 dx hx) (hw.1 dy hy)
      rw [run_append, run_append]
      exact ih hra hrb hs' hrest hrec hu.2 hw.2 e1 e2

theorem escOut_of_untrusted {v : Validators} {ps : List Piece} {c cf : Ctx} {es : List EPiece} {vs : List Value}
    (han : analyse v c ps = some (cf, es)) (hu : ∀ x ∈ vs, Untrusted x) : EscOut es vs := by
  induction ps generalizing c es vs with
  | nil => cases han; trivial
  | cons p ps ih =>
    cases p with
    | text s =>
      obtain ⟨c1, out, es', _, _, hrec, rfl⟩ := analyse_text han
      exact (ih hrec hu : EscOut es' vs)
    | action =>
      obtain ⟨c', ch, es', hact, hrec, rfl⟩ := analyse_action han
      cases vs with
      | nil => trivial
      | cons x vs =>
        exact ⟨fun d hd => ctx_chain_esc (actionStep_chain v c c' ch hact) (hu x (by simp)) hd,
          ih hrec (fun z hz => hu z (by simp [hz]))⟩

/-- C01 for straight-line templates, end to end: if every static text of the template is simple for the
    context the engine scans it in, the analysis accepts the template, and two executions with untrusted values
    both succeed, then the two outputs have the same token skeleton (tags, attribute names, comments, doctype) and
    leave the HTML tokenizer in the same final state; that state is `data` when the template ends in the text
    context (as every accepted template does, `C01_end_context`). -/
theorem C01_straight_line (v : Validators) (ps : List Piece) (cf : Ctx) (es : List EPiece)
    (vs ws : List Value) (o1 o2 : Bytes)
    (hs : SimpleAll v {} ps) (ha : analyse v {} ps = some (cf, es))
    (hu : ∀ x ∈ vs, Untrusted x) (hw : ∀ x ∈ ws, Untrusted x)
    (h1 : exec es vs = some o1) (h2 : exec es ws = some o2) :
    skeleton (HtmlTok.tokenize o1).tokens = skeleton (HtmlTok.tokenize o2).tokens ∧
    (HtmlTok.tokenize o1).final = (HtmlTok.tokenize o2).final ∧
    (cf.state = .text → (HtmlTok.tokenize o1).final = .data ∧ (HtmlTok.tokenize o2).final = .data) := by
  obtain ⟨hr1, hr2, hsim⟩ := straight_line_sim rel_init rel_init (Sim.refl _) hs ha
    (escOut_of_untrusted ha hu) (escOut_of_untrusted ha hw) h1 h2
  exact C01_of_sim hr1 hr2 hsim

/-! ### refinement: the model's `escapeList` on the node list of a straight-line template -/

/-- the pipeline `{{.}}` -/
def dotPipe : Pipe := { cmds := [{ args := [.dot] }] }

/-- the parse-tree nodes of a straight-line template, with node ids `i, i+1, …` -/
def toNodes : Nat → List Piece → List Node
  | _, [] => []
  | i, .text s :: ps => .text i s :: toNodes (i + 1) ps
  | i, .action :: ps => .action i dotPipe :: toNodes (i + 1) ps

/-- the text edit recorded for a text node (only when the text is rewritten) -/
def addText (tn : String) (id : Nat) (c : Ctx) (s : Bytes) (te : List (EditKey × Bytes)) : List (EditKey × Bytes) :=
  match escapeText false c s with
  | .done _ (some nb) => te ++ [((tn, id), nb)]
  | _ => te

/-- the escaper state after the analysis: the pending edits of the pieces are appended -/
def editsOf (v : Validators) (tn : String) : Nat → Ctx → List Piece → Esc → Esc
  | _, _, [], e => e
  | i, c, .text s :: ps, e =>
    editsOf v tn (i + 1) (scanD c s).1 ps { e with textEdits := addText tn i c s e.textEdits }
  | i, c, .action :: ps, e =>
    match actionStep v c with
    | some (c', ch) => editsOf v tn (i + 1) c' ps { e with actionEdits := e.actionEdits ++ [((tn, i), ch)] }
    | none => e

/-- no pending edit for the node ids `≥ i` of template `tn` (node ids are unique in a parse tree) -/
def Fresh (tn : String) (i : Nat) (e : Esc) : Prop :=
  ∀ k, i ≤ k → e.actionEdits.any (fun p => p.1 == (tn, k)) = false ∧ e.textEdits.any (fun p => p.1 == (tn, k)) = false

theorem Fresh_mono {tn : String} {i j : Nat} {e : Esc} (h : Fresh tn i e) (hij : i ≤ j) : Fresh tn j e :=
  fun k hk => h k (by omega)

theorem Fresh_addText (tn : String) (i : Nat) (c : Ctx) (s : Bytes) (e : Esc) (h : Fresh tn i e) :
    Fresh tn (i + 1) { e with textEdits := addText tn i c s e.textEdits } := by
  intro k hk
  refine ⟨(h k (by omega)).1, ?_⟩
  simp only [addText]
  split
  · simp only [List.any_append, (h k (by omega)).2, List.any_cons, List.any_nil, Bool.or_false, Bool.false_or]
    simp; omega
  · exact (h k (by omega)).2

theorem Fresh_addAction (tn : String) (i : Nat) (ch : List String) (e : Esc) (h : Fresh tn i e) :
    Fresh tn (i + 1) { e with actionEdits := e.actionEdits ++ [((tn, i), ch)] } := by
  intro k hk
  refine ⟨?_, (h k (by omega)).2⟩
  simp only [List.any_append, (h k (by omega)).1, List.any_cons, List.any_nil, Bool.or_false, Bool.false_or]
  simp; omega

theorem escapeTextNode_scan (env : Env) (hcsp : env.csp = false) (tn : String) (e : Esc) (c c' : Ctx) (i : Nat)
    (s out : Bytes) (hsc : scan c s = some (c', out)) (hk : e.textEdits.any (fun p => p.1 == (tn, i)) = false) :
    escapeTextNode env tn e c i s = .ok ({ e with textEdits := addText tn i c s e.textEdits }, c') := by
  simp only [escapeTextNode, hcsp, addText]
  simp only [scan] at hsc
  cases het : escapeText false c s with
  | panic => simp [het] at hsc
  | done c2 nt =>
    cases nt with
    | none =>
      simp only [het, Option.some.injEq, Prod.mk.injEq] at hsc
      obtain ⟨rfl, _⟩ := hsc
      rfl
    | some nb =>
      simp only [het, Option.some.injEq, Prod.mk.injEq] at hsc
      obtain ⟨rfl, _⟩ := hsc
      simp only [bind, Out.bind, Esc.editText, hk, Bool.false_eq_true, if_false, pure]

theorem escapeAction_step (env : Env) (tn : String) (e : Esc) (c c' : Ctx) (ch : List String) (i : Nat) (p : Pipe)
    (hd : p.decl.isEmpty = true) (hp : ∀ d, predefinedCheck d p.cmds = some false)
    (hact : actionStep env.v c = some (c', ch)) (hk : e.actionEdits.any (fun p => p.1 == (tn, i)) = false) :
    escapeAction env tn e c i p = .ok ({ e with actionEdits := e.actionEdits ++ [((tn, i), ch)] }, c') := by
  obtain ⟨hne, rfl, hs⟩ := actionStep_eq hact
  simp only [escapeAction, hd, Bool.not_true, Bool.false_eq_true, if_false, hp, hne, hs, bind, Out.bind,
    Esc.editAction, hk, pure]

theorem escapeList_refines (env : Env) (hcsp : env.csp = false) (tn : String) :
    ∀ (ps : List Piece) (i : Nat) (c cf : Ctx) (e : Esc) (es : List EPiece) (f : Nat),
      analyse env.v c ps = some (cf, es) → Fresh tn i e → ps.length + 1 ≤ f →
      escapeList env f tn e c (NodeList.ofList (toNodes i ps)) = .ok (editsOf env.v tn i c ps e, cf)
  | [], i, c, cf, e, es, f, ha, _, hf => by
    obtain ⟨f', rfl⟩ : ∃ f', f = f' + 1 := ⟨f - 1, by omega⟩
    cases ha
    rfl
  | .text s :: ps, i, c, cf, e, es, f, ha, hfr, hf => by
    obtain ⟨f', rfl⟩ : ∃ f', f = f' + 2 := ⟨f - 2, by simp at hf; omega⟩
    obtain ⟨c', out, es', hsc, _, hrec, _⟩ := analyse_text ha
    simp only [toNodes, NodeList.ofList, escapeList, escapeNode, editsOf, scanD_of_scan hsc,
      escapeTextNode_scan env hcsp tn e c c' i s out hsc (hfr i (Nat.le_refl _)).2, bind, Out.bind]
    exact escapeList_refines env hcsp tn ps (i + 1) c' cf _ es' (f' + 1) hrec (Fresh_addText tn i c s e hfr)
      (by simp at hf ⊢; omega)
  | .action :: ps, i, c, cf, e, es, f, ha, hfr, hf => by
    obtain ⟨f', rfl⟩ : ∃ f', f = f' + 2 := ⟨f - 2, by simp at hf; omega⟩
    obtain ⟨c', ch, es', hact, hrec, _⟩ := analyse_action ha
    simp only [toNodes, NodeList.ofList, escapeList, escapeNode, editsOf, hact,
      escapeAction_step env tn e c c' ch i dotPipe rfl (fun _ => rfl) hact (hfr i (Nat.le_refl _)).1, bind, Out.bind]
    exact escapeList_refines env hcsp tn ps (i + 1) c' cf _ es' (f' + 1) hrec (Fresh_addAction tn i ch e hfr)
      (by simp at hf ⊢; omega)


/-- `C01_straight_line` phrased with the model's analysis function: the node list of the template is analysed by
    `escapeList` to the context `cf` with exactly the edits `editsOf`, and the two renderings agree -/
theorem C01_straight_line_model (env : Env) (hcsp : env.csp = false) (tn : String) (ps : List Piece) (cf : Ctx)
    (es : List EPiece) (vs ws : List Value) (o1 o2 : Bytes)
    (hs : SimpleAll env.v {} ps) (ha : analyse env.v {} ps = some (cf, es))
    (hu : ∀ x ∈ vs, Untrusted x) (hw : ∀ x ∈ ws, Untrusted x)
    (h1 : exec es vs = some o1) (h2 : exec es ws = some o2) :
    escapeList env (ps.length + 1) tn {} {} (NodeList.ofList (toNodes 0 ps)) =
      .ok (editsOf env.v tn 0 {} ps {}, cf) ∧
    skeleton (HtmlTok.tokenize o1).tokens = skeleton (HtmlTok.tokenize o2).tokens ∧
    (HtmlTok.tokenize o1).final = (HtmlTok.tokenize o2).final ∧
    (cf.state = .text → (HtmlTok.tokenize o1).final = .data ∧ (HtmlTok.tokenize o2).final = .data) :=
  ⟨escapeList_refines env hcsp tn ps 0 {} cf {} es _ ha (fun _ _ => ⟨rfl, rfl⟩) (Nat.le_refl _),
   C01_straight_line env.v ps cf es vs ws o1 o2 hs ha hu hw h1 h2⟩

/-! ### non-vacuity: `<p title="{{.}}">{{.}}</p>` -/

def v0 : Validators := ⟨fun _ => true, fun _ => true, fun _ => false⟩

def t0 : Bytes := [60, 112, 32, 116, 105, 116, 108, 101, 61, 34]      -- `<p title="`
def t1 : Bytes := [34, 62]                                           -- `">`
def t2 : Bytes := [60, 47, 112, 62]                                  -- `</p>`
example : B "<p title=\"" = t0 ∧ B "\">" = t1 ∧ B "</p>" = t2 := by decide +kernel

def exTemplate : List Piece := [.text t0, .action, .text t1, .action, .text t2]

def cAttr : Ctx := { state := .attr, delim := .dq, elemName := [112], attrName := [116, 105, 116, 108, 101] }
def cText : Ctx := { state := .text, elemName := [112] }

def exOut : List EPiece :=
  [.text t0, .action ["_evalArgs", "_sanitizeHTML"], .text t1, .action ["_sanitizeHTML"], .text t2]

theorem ex_analyse : analyse v0 {} exTemplate = some ({}, exOut) := by decide +kernel

theorem ex_scan0 : scanD {} t0 = (cAttr, t0) := by decide +kernel
theorem ex_scan1 : scanD cAttr t1 = (cText, t1) := by decide +kernel
theorem ex_act0 : actionStep v0 cAttr = some (cAttr, ["_evalArgs", "_sanitizeHTML"]) := by decide +kernel
theorem ex_act1 : actionStep v0 cText = some (cText, ["_sanitizeHTML"]) := by decide +kernel

theorem ex_simple0 : Simple false [] .text .none t0 t0 .attr :=
  Simple.openTag [] [] 112 [] _ _ (by decide) (by decide) (by decide) (by decide) (by decide)
    (Simple.attrNm _ [32] [116, 105, 116, 108, 101] _ _ (by decide) (by decide) (by decide) (by decide) (by decide)
      (Simple.eq _ [] _ _ (by decide) (Simple.quote _ .dq [] [] [] (Or.inl rfl) (by decide) (Simple.nil _ _ _))))

theorem ex_simple1 : Simple false [112] .attr .dq t1 t1 .text :=
  Simple.closeQ _ .dq [] _ _ (Or.inl rfl) (by decide)
    (Simple.tagEnd _ [] [] [] [] (by decide) (fun h => absurd h (by decide)) (Simple.nil _ _ _))

theorem ex_simple2 : Simple false [112] .text .none t2 t2 .text :=
  Simple.closeTag _ [] 112 [] _ _ (by decide) (by decide) (by decide)
    (Simple.tagEnd _ [] [] [] [] (by decide) (fun h => absurd h (by decide)) (Simple.nil _ _ _))

theorem ex_simpleAll : SimpleAll v0 {} exTemplate := by
  simp only [exTemplate, SimpleAll, ex_scan0, ex_act0, ex_scan1, ex_act1]
  refine ⟨⟨false, t0, .attr, ex_simple0, fun h => absurd h (by decide), fun h => by simp at h⟩, ?_, ?_⟩
  · intro h; cases h
  · refine ⟨⟨false, t1, .text, ex_simple1, fun h => absurd h (by decide), fun h => by simp at h⟩, ?_, ?_⟩
    · intro h; cases h
    · exact ⟨⟨false, t2, .text, ex_simple2, fun h => absurd h (by decide), fun h => by simp at h⟩, trivial⟩

/-- for every pair of untrusted values in the attribute and every pair in the element content, the two renderings
    of `<p title="{{.}}">{{.}}</p>` have the same markup structure and end in the data state -/
theorem ex_C01 (x1 x2 y1 y2 : Value) (hx1 : Untrusted x1) (hx2 : Untrusted x2) (hy1 : Untrusted y1)
    (hy2 : Untrusted y2) (o1 o2 : Bytes) (h1 : exec exOut [x1, x2] = some o1) (h2 : exec exOut [y1, y2] = some o2) :
    skeleton (HtmlTok.tokenize o1).tokens = skeleton (HtmlTok.tokenize o2).tokens ∧
    (HtmlTok.tokenize o1).final = .data ∧ (HtmlTok.tokenize o2).final = .data := by
  have := C01_straight_line v0 exTemplate {} exOut [x1, x2] [y1, y2] o1 o2 ex_simpleAll ex_analyse
    (by intro z hz; simp at hz; rcases hz with rfl | rfl <;> assumption)
    (by intro z hz; simp at hz; rcases hz with rfl | rfl <;> assumption) h1 h2
  exact ⟨this.1, this.2.2 rfl⟩

/-- the executions do succeed, e.g. for strings full of markup characters -/
example : (exec exOut [.str (B "\"><script>"), .str (B "<b>&")]).isSome = true := by decide +kernel


/-- the model's `escapeList` on the parse tree of this template computes the same context and records the chains -/
example (env : Env) (hv : env.v = v0) (hcsp : env.csp = false) :
    escapeList env 6 "t" {} {} (NodeList.ofList (toNodes 0 exTemplate)) =
      .ok (editsOf v0 "t" 0 {} exTemplate {}, {}) := by
  have := escapeList_refines env hcsp "t" exTemplate 0 {} {} {} exOut 6 (by rw [hv]; exact ex_analyse)
    (fun _ _ => ⟨rfl, rfl⟩) (by decide)
  rwa [hv] at this

end SafeHtml.Proofs.Layer3E2E
