/-
C13 helper lemmas: the model's QueryEscapeURL (driven by the regenerated urlProc* tables) is the
spec's "percent-encode everything but unreserved"; consequences for delimiters and dots.
-/
import SafeHtml.Model.Tru
import SafeHtml.Spec.TruUrl
import SafeHtml.Proofs.UrlProc
namespace SafeHtml.Proofs.C13
open SafeHtml SafeHtml.Model SafeHtml.Spec.Rfc3986 SafeHtml.Spec.TruUrl

/-- table obligation: with norm = false, urlProcessor keeps exactly the RFC 3986 unreserved bytes
    (breaks when the `case` lists of urlProcessor are edited) -/
theorem urlKeeps_false_eq (c : Nat) (rest : Bytes) : urlKeeps false c rest = isUnreserved c := by
  rw [Bool.eq_iff_iff]
  refine ⟨fun h => (UrlProc.keeps_query c rest h).1, fun h => ?_⟩
  simp only [isUnreserved, Bool.or_eq_true, beq_iff_eq] at h
  rcases h with (((h | rfl) | rfl) | rfl) | rfl
  · exact UrlProc.keeps_alnum false c rest h
  all_goals rw [UrlProc.keeps_indep false _ rest [] (by decide)]; decide

theorem queryEscapeURL_eq (s : Bytes) : queryEscapeURL s = pctEncodeAll s := by
  unfold queryEscapeURL
  induction s with
  | nil => rfl
  | cons c t ih =>
    simp only [urlProcessor, pctEncodeAll, urlKeeps_false_eq, pctEncode, ih]

theorem pctEncodeAll_append (a b : Bytes) : pctEncodeAll (a ++ b) = pctEncodeAll a ++ pctEncodeAll b := by
  induction a with
  | nil => rfl
  | cons c t ih => simp only [List.cons_append, pctEncodeAll, ih, List.append_assoc]

theorem isUnreserved_ne37 (c : Nat) (h : isUnreserved c = true) : c ≠ 37 := by
  intro hc
  subst hc
  revert h
  decide

theorem hexValB_hexDigitLower (n : Nat) (h : n < 16) : hexValB (hexDigitLower n) = n := by
  rcases hexDigitLower_cases n h with ⟨h1, e⟩ | ⟨h1, e⟩
  · rw [e, hexValB, if_pos (by simp [isDigit]; omega)]; omega
  · rw [e, hexValB, if_neg (by simp [isDigit]; omega), if_pos (by simp; omega)]; omega

theorem isUnreservedOrPct_unres (c : Nat) (t : Bytes) (h : isUnreserved c = true) :
    isUnreservedOrPct (c :: t) = isUnreservedOrPct t := by
  have hc := isUnreserved_ne37 c h
  rw [isUnreservedOrPct.eq_3 c t (fun _ _ _ h37 _ => hc h37), h, Bool.true_and]

theorem pctEncodeAll_unreservedOrPct (s : Bytes) : isUnreservedOrPct (pctEncodeAll s) = true := by
  induction s with
  | nil => rfl
  | cons c t ih =>
    simp only [pctEncodeAll]
    split
    · rename_i h
      simp only [List.singleton_append]
      rw [isUnreservedOrPct_unres c _ h]
      exact ih
    · simp only [List.cons_append, List.nil_append, isUnreservedOrPct]
      rw [UrlProc.hexDigitLower_isHex _ (Nat.mod_lt _ (by decide)),
        UrlProc.hexDigitLower_isHex _ (Nat.mod_lt _ (by decide)), ih]
      rfl

theorem pctEncodeAll_bytes (s : Bytes) : ∀ b ∈ pctEncodeAll s, isUnreserved b = true ∨ b = 37 := by
  rw [← queryEscapeURL_eq]; exact UrlProc.query_bytes s

theorem isDelim_of_unres_or_pct (b : Nat) (h : isUnreserved b = true ∨ b = 37) :
    isDelim b = false := by
  rcases h with h | h
  · simp [isUnreserved, isAlnum, isAlpha, isDigit, isLowerAlpha, isUpperAlpha] at h
    simp [isDelim]
    omega
  · subst h
    decide

theorem pctEncodeAll_no_delim (s : Bytes) : ∀ b ∈ pctEncodeAll s, isDelim b = false := by
  intro b hb
  exact isDelim_of_unres_or_pct b (pctEncodeAll_bytes s b hb)

theorem skeleton_pctEncodeAll (s : Bytes) : skeleton (pctEncodeAll s) = [] := by
  unfold skeleton
  rw [List.filter_eq_nil_iff]
  intro b hb
  simp [pctEncodeAll_no_delim s b hb]

theorem pctDecode_unres (c : Nat) (t : Bytes) (h : isUnreserved c = true) :
    pctDecode (c :: t) = c :: pctDecode t :=
  pctDecode.eq_3 c t (fun _ _ _ h37 _ => isUnreserved_ne37 c h h37)

theorem pctDecode_pctEncodeAll (s : Bytes) (h : Bytes.wf s) : pctDecode (pctEncodeAll s) = s := by
  induction s with
  | nil => rfl
  | cons c t ih =>
    have hc : c < 256 := h c (List.mem_cons_self ..)
    have ht : Bytes.wf t := fun b hb => h b (List.mem_cons_of_mem _ hb)
    simp only [pctEncodeAll]
    split
    · rename_i hu
      simp only [List.singleton_append]
      rw [pctDecode_unres c _ hu, ih ht]
    · simp only [List.cons_append, List.nil_append, pctDecode]
      rw [UrlProc.hexDigitLower_isHex _ (Nat.mod_lt _ (by decide)),
        UrlProc.hexDigitLower_isHex _ (Nat.mod_lt _ (by decide)),
        hexValB_hexDigitLower _ (Nat.mod_lt _ (by decide)),
        hexValB_hexDigitLower _ (Nat.mod_lt _ (by decide)), ih ht]
      simp only [Bool.and_self, if_true]
      congr 1
      omega

theorem pctEncodeAll_head (s : Bytes) : ∀ b t, pctEncodeAll s = b :: t → b ≠ 47 ∧ b ≠ 92 := by
  intro b t hs
  have hb : b ∈ pctEncodeAll s := by rw [hs]; exact List.mem_cons_self ..
  have hd := pctEncodeAll_no_delim s b hb
  constructor
  · intro h; subst h; revert hd; decide
  · intro h; subst h; revert hd; decide

end SafeHtml.Proofs.C13
