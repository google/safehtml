/-
Lemmas for C11: what a `javascript` verdict of the WHATWG scheme states says about the input
(`whatwg_js_shape`), the rejection lemma for such inputs (`reject`), the two acceptance lemmas.
-/
import SafeHtml.Spec.UrlScheme
import SafeHtml.Proofs.UrlRx
namespace SafeHtml.UrlSchemeFacts
open SafeHtml SafeHtml.Model SafeHtml.UrlRx SafeHtml.Spec.UrlScheme SafeHtml.Proofs.UrlSet

/-! ### spec side -/

theorem schemeState_some : ∀ (x buf r : List Nat), schemeState buf x = some r →
    ∃ a b, x = a ++ 58 :: b ∧ (∀ c ∈ a, isSchemeChar c = true) ∧ r = buf.reverse ++ a.map asciiLower := by
  intro x
  induction x with
  | nil => intro buf r h; simp [schemeState] at h
  | cons c t ih =>
    intro buf r h
    simp only [schemeState] at h
    by_cases hc : isSchemeChar c = true
    · simp only [hc, if_true] at h
      obtain ⟨a, b, ht, ha, hr⟩ := ih _ _ h
      refine ⟨c :: a, b, by rw [ht]; rfl, ?_, ?_⟩
      · intro y hy
        rcases List.mem_cons.1 hy with rfl | hy
        · exact hc
        · exact ha y hy
      · rw [hr]; simp
    · simp only [hc] at h
      by_cases h58 : (c == 58) = true
      · simp only [h58, if_true] at h
        have : c = 58 := by simpa using h58
        subst this
        refine ⟨[], t, rfl, by simp, ?_⟩
        simp at h ⊢; exact h.symm
      · simp [h58] at h

theorem schemeStart_some (x r : List Nat) (h : schemeStart x = some r) :
    ∃ a b, x = a ++ 58 :: b ∧ (∀ c ∈ a, isSchemeChar c = true) ∧ r = a.map asciiLower := by
  cases x with
  | nil => simp [schemeStart] at h
  | cons c t =>
    simp only [schemeStart] at h
    by_cases hc : isAlpha c = true
    · simp only [hc, if_true] at h
      obtain ⟨a, b, ht, ha, hr⟩ := schemeState_some _ _ _ h
      refine ⟨c :: a, b, by rw [ht]; rfl, ?_, by rw [hr]; simp⟩
      intro y hy
      rcases List.mem_cons.1 hy with rfl | hy
      · simp [isSchemeChar, isAlnum, hc]
      · exact ha y hy
    · simp [hc] at h

theorem filter_first {α} (f : α → Bool) (c : α) (hf : f c = true) : ∀ (v a b : List α),
    v.filter f = a ++ c :: b → c ∉ a →
    ∃ p q, v = p ++ c :: q ∧ c ∉ p ∧ p.filter f = a := by
  intro v
  induction v with
  | nil => intro a b h; simp at h
  | cons h v ih =>
    intro a b hv ha
    by_cases h58 : h = c
    · subst h58
      refine ⟨[], v, rfl, by simp, ?_⟩
      simp only [List.filter_cons, hf, if_true] at hv
      cases a with
      | nil => rfl
      | cons x a' =>
        simp only [List.cons_append, List.cons.injEq] at hv
        exact absurd (by simp [hv.1]) ha
    · by_cases hfh : f h = true
      · simp only [List.filter_cons, hfh, if_true] at hv
        cases a with
        | nil => simp only [List.nil_append, List.cons.injEq] at hv; exact absurd hv.1 h58
        | cons x a' =>
          simp only [List.cons_append, List.cons.injEq] at hv
          obtain ⟨p, q, hpq, hp, hfa⟩ := ih a' b hv.2 (by intro hm; exact ha (by simp [hm]))
          refine ⟨h :: p, q, by rw [hpq]; rfl, ?_, ?_⟩
          · intro hm
            rcases List.mem_cons.1 hm with e | e
            · exact h58 e.symm
            · exact hp e
          · rw [← hv.1]; simp [hfh, hfa]
      · simp only [List.filter_cons, hfh] at hv
        obtain ⟨p, q, hpq, hp, hfa⟩ := ih a b (by simpa using hv) ha
        refine ⟨h :: p, q, by rw [hpq]; rfl, ?_, ?_⟩
        · intro hm
          rcases List.mem_cons.1 hm with e | e
          · exact h58 e.symm
          · exact hp e
        · simp [hfh, hfa]

theorem stripTrailing_prefix (u : List Nat) : ∃ w, u = stripTrailing u ++ w := by
  refine ⟨(u.reverse.takeWhile isC0OrSpace).reverse, ?_⟩
  unfold stripTrailing
  rw [← List.reverse_append, List.takeWhile_append_dropWhile, List.reverse_reverse]

theorem lower_in_js_alpha (c : Nat) (h : asciiLower c ∈ javascript) : isAlpha c = true := by
  simp only [javascript, List.mem_cons, List.not_mem_nil, or_false] at h
  unfold asciiLower at h
  simp only [isAlpha, isLowerAlpha, isUpperAlpha, Bool.or_eq_true, Bool.and_eq_true, decide_eq_true_eq] at h ⊢
  split at h <;> omega

/-- If the WHATWG scheme states find `javascript` in `y`, then `y` is: bytes that are C0/space or
    ASCII letters, then ':'; and when no C0/space occurs before the colon, the letters spell
    `javascript` (any case). -/
theorem whatwg_js_shape (y : List Nat) (h : whatwgScheme y = some javascript) :
    ∃ pfx q, y = pfx ++ 58 :: q ∧ (∀ b ∈ pfx, b ≤ 32 ∨ isAlpha b = true) ∧
      ((∀ b ∈ pfx, isAlpha b = true) → pfx.map asciiLower = javascript) := by
  unfold whatwgScheme at h
  obtain ⟨a, b, hpre, ha, hr⟩ := schemeStart_some _ _ h
  have ha_alpha : ∀ c ∈ a, isAlpha c = true := by
    intro c hc
    apply lower_in_js_alpha
    rw [hr]; exact List.mem_map.2 ⟨c, hc, rfl⟩
  have h58a : 58 ∉ a := by
    intro hm; have := ha_alpha 58 hm; simp [isAlpha, isLowerAlpha, isUpperAlpha] at this
  unfold preprocess at hpre
  obtain ⟨p, q, hv, hp58, hpf⟩ := filter_first (fun c => !isTabOrNewline c) 58 (by decide) _ a b hpre h58a
  obtain ⟨w, hw⟩ := stripTrailing_prefix (stripLeading y)
  obtain ⟨ws0, u, hy, _, hu, hws0, _⟩ := span_split isC0OrSpace y
  have hu' : stripLeading y = u := hu
  rw [hu'] at hv hw
  rw [hv] at hw
  refine ⟨ws0 ++ p, q ++ w, by rw [hy, hw]; simp, ?_, ?_⟩
  · intro x hx
    rcases List.mem_append.1 hx with hx | hx
    · left; simpa [isC0OrSpace] using hws0 x hx
    · by_cases ht : isTabOrNewline x = true
      · left
        simp only [isTabOrNewline, Bool.or_eq_true, beq_iff_eq] at ht
        omega
      · right
        apply ha_alpha
        rw [← hpf]
        exact List.mem_filter.2 ⟨hx, by simpa using ht⟩
  · intro hall
    have hws_nil : ws0 = [] := by
      cases ws0 with
      | nil => rfl
      | cons x l =>
        have h1 := hws0 x (by simp)
        have h2 := hall x (by simp)
        simp only [isC0OrSpace, decide_eq_true_eq] at h1
        simp only [isAlpha, isLowerAlpha, isUpperAlpha, Bool.or_eq_true, Bool.and_eq_true, decide_eq_true_eq] at h2
        omega
    subst hws_nil
    have hpid : p.filter (fun c => !isTabOrNewline c) = p := by
      apply List.filter_eq_self.2
      intro x hx
      have h2 := hall x (by simp [hx])
      simp only [isAlpha, isLowerAlpha, isUpperAlpha, Bool.or_eq_true, Bool.and_eq_true, decide_eq_true_eq] at h2
      simp only [isTabOrNewline, Bool.not_eq_true', Bool.or_eq_false_iff, beq_eq_false_iff_ne]
      omega
    rw [List.nil_append, hr, ← hpf, hpid]

/-! ### model side -/

/-- `asciiLower` in the arithmetic form `omega` can use -/
theorem asciiLower_cases (x : Nat) :
    (65 ≤ x ∧ x ≤ 90 ∧ asciiLower x = x + 32) ∨ (¬ (65 ≤ x ∧ x ≤ 90) ∧ asciiLower x = x) := by
  unfold asciiLower isUpperAlpha; split <;> simp_all

theorem asciiLower_lt (b : Nat) (h : b < 128) : asciiLower b < 128 := by
  rcases asciiLower_cases b with ⟨_, _, e⟩ | ⟨_, e⟩ <;> omega

theorem asciiLower_self (x : Nat) (h : x < 65 ∨ 90 < x) : asciiLower x = x := by
  rcases asciiLower_cases x with ⟨_, _, e⟩ | ⟨_, e⟩ <;> omega

theorem isNegB_asciiLower (x : Nat) : isNegB (asciiLower x) = isNegB x := by
  rcases asciiLower_cases x with ⟨_, _, e⟩ | ⟨_, e⟩ <;> rw [e]
  rw [Bool.eq_iff_iff]
  simp only [isNegB, Bool.not_eq_true', Bool.or_eq_false_iff, beq_eq_false_iff_ne]
  omega

theorem isSchemeLower_asciiLower (x : Nat) (h : isAsciiSchemeByte x = true) :
    isSchemeLower (asciiLower x) = true := by
  simp only [isAsciiSchemeByte, isAlnum, isAlpha, isLowerAlpha, isUpperAlpha, isDigit, Bool.or_eq_true,
    Bool.and_eq_true, decide_eq_true_eq, beq_iff_eq] at h
  simp only [isSchemeLower, isLowerAlpha, isDigit, Bool.or_eq_true, Bool.and_eq_true, decide_eq_true_eq, beq_iff_eq]
  rcases asciiLower_cases x with ⟨_, _, e⟩ | ⟨_, e⟩ <;> omega

theorem isAlpha_schemeByte (x : Nat) (h : isAlpha x = true) : isAsciiSchemeByte x = true := by
  simp [isAsciiSchemeByte, isAlnum, h]

theorem handCaps_empty (t : Bytes) (hta : t.takeWhile isSchemeLower = []) :
    handCaps t = handCaps2 t := by
  unfold handCaps; rw [hta]

/-- rejection: letters and C0/space, then ':' or '&' — unless the letters alone spell something
    other than javascript before a ':' -/
theorem reject (pfx rest : Bytes) (c : Nat) (hc : c = 58 ∨ c = 38)
    (hpfx : ∀ b ∈ pfx, b ≤ 32 ∨ isAlpha b = true)
    (hjs : c = 58 → (∀ b ∈ pfx, isAlpha b = true) → pfx.map asciiLower = javascript) :
    isSafeURL (pfx ++ c :: rest) = false := by
  have hascii : ∀ b ∈ pfx, b < 128 := by
    intro b hb
    rcases hpfx b hb with h | h
    · omega
    · simp only [isAlpha, isLowerAlpha, isUpperAlpha, Bool.or_eq_true, Bool.and_eq_true, decide_eq_true_eq] at h
      omega
  have ht : toLowerForScheme (pfx ++ c :: rest) = pfx.map asciiLower ++ c :: toLowerForScheme rest := by
    rw [toLower_ascii_append _ _ hascii, toLower_cons_ascii c rest (by omega), asciiLower_self c (by omega)]
  rw [isSafeURL_eq, ht]
  -- the second alternative never matches: it stops at `c`
  have hneg : ∀ b ∈ pfx.map asciiLower, isNegB b = true := by
    intro b hb
    obtain ⟨x, hx, rfl⟩ := List.mem_map.1 hb
    rw [isNegB_asciiLower]
    simp only [isNegB, Bool.not_eq_true', Bool.or_eq_false_iff, beq_eq_false_iff_ne]
    rcases hpfx x hx with h | h
    · omega
    · simp only [isAlpha, isLowerAlpha, isUpperAlpha, Bool.or_eq_true, Bool.and_eq_true, decide_eq_true_eq] at h
      omega
  have h2 : handCaps2 (pfx.map asciiLower ++ c :: toLowerForScheme rest) = none := by
    rw [handCaps2_span _ _ hneg (stops_cons _ _ _ (by rcases hc with rfl | rfl <;> rfl))]
    rcases hc with rfl | rfl <;> rfl
  -- the first alternative stops at the first non-letter of the prefix, or at `c`
  obtain ⟨a0, r0, hp0, _, _, ha0, hr0⟩ := span_split isAlpha pfx
  have hlow : ∀ b ∈ a0.map asciiLower, isSchemeLower b = true := by
    intro b hb
    obtain ⟨x, hx, rfl⟩ := List.mem_map.1 hb
    exact isSchemeLower_asciiLower x (isAlpha_schemeByte x (ha0 x hx))
  rcases stops_cases hr0 with rfl | ⟨d, r0', rfl, hd⟩
  · rw [List.append_nil] at hp0
    subst hp0
    rw [handCaps_span _ _ hlow (stops_cons _ _ _ (by rcases hc with rfl | rfl <;> rfl))]
    rcases hc with rfl | rfl
    · rw [hjs rfl ha0]; rfl
    · simp [h2]
  · have hd32 : d ≤ 32 := by
      rcases hpfx d (by rw [hp0]; simp) with h | h
      · exact h
      · rw [h] at hd; simp at hd
    have hnd : isSchemeLower d = false := by
      simp only [isSchemeLower, isLowerAlpha, isDigit, Bool.or_eq_false_iff, Bool.and_eq_false_iff,
        decide_eq_false_iff_not, beq_eq_false_iff_ne]
      omega
    have hform : pfx.map asciiLower ++ c :: toLowerForScheme rest =
        a0.map asciiLower ++ d :: (r0'.map asciiLower ++ c :: toLowerForScheme rest) := by
      rw [hp0]; simp [asciiLower_self d (by omega)]
    rw [hform] at h2 ⊢
    rw [handCaps_span _ _ hlow (stops_cons _ _ _ hnd), if_neg (by simp; omega), h2]

theorem accept_scheme (sch rest : Bytes) (c0 : Nat) (hs : ∀ b ∈ c0 :: sch, isAsciiSchemeByte b = true)
    (hne : (c0 :: sch).map asciiLower ≠ javascript) :
    isSafeURL ((c0 :: sch) ++ 58 :: rest) = true := by
  have hascii : ∀ b ∈ c0 :: sch, b < 128 := by
    intro b hb
    have := hs b hb
    simp only [isAsciiSchemeByte, isAlnum, isAlpha, isLowerAlpha, isUpperAlpha, isDigit, Bool.or_eq_true,
      Bool.and_eq_true, decide_eq_true_eq, beq_iff_eq] at this
    omega
  have hlow : ∀ b ∈ (c0 :: sch).map asciiLower, isSchemeLower b = true := by
    intro b hb
    obtain ⟨x, hx, rfl⟩ := List.mem_map.1 hb
    exact isSchemeLower_asciiLower x (hs x hx)
  rw [isSafeURL_eq, toLower_ascii_append _ _ hascii, toLower_cons_ascii 58 rest (by omega),
    handCaps_span _ _ hlow (stops_cons _ _ _ rfl)]
  simpa [jsScheme, javascript, show asciiLower 58 = 58 from rfl] using hne

theorem isDelimB_facts (d : Nat) (h : isDelimB d = true) :
    isNegB d = false ∧ isSchemeLower d = false ∧ d ≠ 58 := by
  simp only [isDelimB, Bool.or_eq_true, beq_iff_eq] at h
  rcases h with (rfl | rfl) | rfl <;> decide

theorem accept_relative (s : Bytes) (h : noColonAmpBeforeFirstDelim s = true) : isSafeURL s = true := by
  unfold noColonAmpBeforeFirstDelim at h
  obtain ⟨p, r, hs, hta, _, hp, hr⟩ := span_split (fun c => !isDelim c) s
  rw [hta] at h
  have hpneg : ∀ b ∈ toLowerForScheme p, isNegB b = true := by
    intro b' hb'
    rcases toLower_bytes p b' hb' with h1 | h1 | h1 | ⟨b, hb, hlt, rfl⟩
    · simp only [isNegB, Bool.not_eq_true', Bool.or_eq_false_iff, beq_eq_false_iff_ne]; omega
    · subst h1; decide
    · subst h1; decide
    · have h1 := hp b hb
      have h2 := List.all_eq_true.1 h b hb
      simp only [isDelim, Bool.not_eq_true', Bool.or_eq_false_iff, beq_eq_false_iff_ne] at h1
      simp only [Bool.and_eq_true, bne_iff_ne, ne_eq] at h2
      rw [isNegB_asciiLower]
      simp only [isNegB, Bool.not_eq_true', Bool.or_eq_false_iff, beq_eq_false_iff_ne]
      omega
  -- the lowered string: lowered p, then nothing or a delimiter
  obtain ⟨r2, htl, hr2⟩ : ∃ r2, toLowerForScheme s = toLowerForScheme p ++ r2 ∧
      ∀ d ∈ r2.head?, isDelimB d = true := by
    rcases stops_cases hr with rfl | ⟨d, r', rfl, hd⟩
    · exact ⟨[], by rw [hs]; simp, by simp⟩
    · have hdd : d = 47 ∨ d = 63 ∨ d = 35 := by
        simp only [isDelim, Bool.not_eq_false', Bool.or_eq_true, beq_iff_eq] at hd; omega
      refine ⟨d :: toLowerForScheme r', ?_, ?_⟩
      · rw [hs, toLower_append_ascii p d r' (by omega), asciiLower_self d (by omega)]
      · simp [isDelimB]; omega
  rw [isSafeURL_eq, htl]
  have hr2n : Stops isNegB r2 := fun d hd => (isDelimB_facts d (hr2 d hd)).1
  have h2 : handCaps2 (toLowerForScheme p ++ r2) = some none := by
    rw [handCaps2_span _ _ hpneg hr2n]
    cases hh : r2.head? with
    | none => rfl
    | some d => simp [hr2 d (by simp [hh])]
  -- the first alternative stops at a byte of lowered `p` that is not ':', or at the delimiter
  obtain ⟨a1, r1, hL, _, _, ha1, hr1⟩ := span_split isSchemeLower (toLowerForScheme p)
  have hstop : Stops isSchemeLower (r1 ++ r2) ∧ (r1 ++ r2).head? ≠ some 58 := by
    rcases stops_cases hr1 with rfl | ⟨x, r1', rfl, hx⟩
    · exact ⟨fun d hd => (isDelimB_facts d (hr2 d hd)).2.1, fun e => (isDelimB_facts 58 (hr2 58 (by simpa using e))).2.2 rfl⟩
    · have := hpneg x (by rw [hL]; simp)
      exact ⟨stops_cons _ _ _ hx, by intro e; simp at e; subst e; simp [isNegB] at this⟩
  rw [hL, List.append_assoc] at h2 ⊢
  rw [handCaps_span _ _ ha1 hstop.1, if_neg (fun e => hstop.2 e.2), h2]

end SafeHtml.UrlSchemeFacts
