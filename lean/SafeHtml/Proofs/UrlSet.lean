/-
For C12 (`URLSetSanitized`, /repo/urlset.go): the sanitizer is `render ∘ filterMap keep ∘ scan`, and what it writes
is read back as the same (url, metadata) pairs both by the Go scanner (`scan_render`) and by the WHATWG srcset
candidate collection (`candidates_render`). The URL check `safe` and `strconv.ParseFloat` (`pf`) stay opaque;
`SafeStable` and `PfAlphabet` are all that is assumed of them.
-/
import SafeHtml.Model.UrlSet
import SafeHtml.Spec.Srcset
import SafeHtml.Proofs.Bytes
namespace SafeHtml.Proofs.UrlSet
open SafeHtml SafeHtml.Model.UrlSet SafeHtml.Spec.Srcset

/-! ### the regenerated byte tables mean what the standard says -/

theorem table_asciiWhitespace (b : Nat) : inTable asciiWhitespace b = isAsciiWhitespace b := by
  rw [Bool.eq_iff_iff]
  simp [inTable, asciiWhitespace, Generated.Tables.asciiWhitespace, isAsciiWhitespace, Bool.or_assoc]

/-- whitespace-or-comma: the complement of what a descriptor / metadata run may contain -/
def isMeta (c : Nat) : Bool := isAsciiWhitespace c || c == 44

theorem table_srcsetMetachars (b : Nat) : inTable srcsetMetachars b = isMeta b := by
  rw [Bool.eq_iff_iff]
  simp [inTable, srcsetMetachars, Generated.Tables.srcsetMetachars, isMeta, isAsciiWhitespace, Bool.or_assoc]

theorem consumeCandidate_eq (s : Bytes) :
    consumeCandidate s =
      let s1 := s.dropWhile isAsciiWhitespace
      let url := s1.takeWhile (fun c => !isAsciiWhitespace c)
      let s2 := (s1.dropWhile (fun c => !isAsciiWhitespace c)).dropWhile isAsciiWhitespace
      let md := s2.takeWhile (fun c => !isMeta c)
      let s3 := (s2.dropWhile (fun c => !isMeta c)).dropWhile isAsciiWhitespace
      (url, md, s3) := by
  have hw : inTable asciiWhitespace = isAsciiWhitespace := funext table_asciiWhitespace
  have hm : inTable srcsetMetachars = isMeta := funext table_srcsetMetachars
  simp [consumeCandidate, consumeIn, consumeNotIn, hw, hm]

/-! ### the sanitizer as `render ∘ filterMap keep ∘ scan` -/

/-- a (url, metadata) pair -/
abbrev Seg := Bytes × Bytes

/-- the Go scanner's segmentation of the input: one (url, metadata) pair per loop iteration -/
def scan : Nat → Bytes → List Seg
  | 0, _ => []
  | fuel + 1, str =>
    if str = [] then [] else
    match consumeCandidate str with
    | (url, metadata, []) => [(url, metadata)]
    | (url, metadata, c :: rest) => if c = 44 then (url, metadata) :: scan fuel rest else [(url, metadata)]

/-- the loop body's filter: a pair is kept iff the URL is non-empty and safe and the metadata is well formed;
    the URL is written through `appendURLToSet` -/
def keep (safe pf : Bytes → Bool) (seg : Seg) : Option Seg :=
  if seg.1 ≠ [] ∧ safe seg.1 = true ∧ metadataWellFormedWith pf seg.2 = true then
    some (appendURLToSet seg.1, seg.2)
  else none

/-- one written candidate: `url` or `url SP metadata` -/
def item (x : Seg) : Bytes := x.1 ++ (if x.2 = [] then [] else 32 :: x.2)

def addItem (buf : Bytes) (x : Seg) : Bytes := (if buf = [] then buf else buf ++ separator) ++ item x

def render (xs : List Seg) : Bytes := xs.foldl addItem []

theorem appendCandidate_eq (safe pf : Bytes → Bool) (buf u m : Bytes) :
    appendCandidate safe pf buf u m =
      match keep safe pf (u, m) with
      | some x => addItem buf x
      | none => buf := by
  unfold appendCandidate keep
  by_cases h : u ≠ [] ∧ safe u = true ∧ metadataWellFormedWith pf m = true
  · rw [if_pos h, if_pos h]
    simp only [addItem, item]
    by_cases hb : buf = [] <;> by_cases hm : m = [] <;> simp [hb, hm]
  · rw [if_neg h, if_neg h]

theorem sanitizeLoop_eq (safe pf : Bytes → Bool) :
    ∀ (fuel : Nat) (s buf : Bytes),
      sanitizeLoop safe pf fuel s buf = ((scan fuel s).filterMap (keep safe pf)).foldl addItem buf := by
  intro fuel
  induction fuel with
  | zero => intro s buf; simp [sanitizeLoop, scan]
  | succ f ih =>
    intro s buf
    unfold sanitizeLoop scan
    by_cases hs : s = []
    · simp [hs]
    · simp only [hs, if_false]
      rcases hcc : consumeCandidate s with ⟨url, md, rest⟩
      simp only [appendCandidate_eq]
      cases rest with
      | nil => cases hk : keep safe pf (url, md) <;> simp [hk]
      | cons c t =>
        by_cases hc : c = 44
        · simp only [hc, if_true, ih]
          cases hk : keep safe pf (url, md) <;> simp [hk]
        · simp only [hc, if_false]
          cases hk : keep safe pf (url, md) <;> simp [hk]

/-! ### the shape of what the sanitizer writes -/

/-- everything after the first written candidate -/
def tailStr (r : List Seg) : Bytes := r.flatMap (fun y => separator ++ item y)

theorem tailStr_nil : tailStr [] = [] := rfl
theorem tailStr_cons (y : Seg) (r : List Seg) : tailStr (y :: r) = 32 :: 44 :: 32 :: (item y ++ tailStr r) := by
  simp [tailStr, separator]

theorem foldl_addItem (r : List Seg) : ∀ (buf : Bytes), buf ≠ [] → r.foldl addItem buf = buf ++ tailStr r := by
  induction r with
  | nil => intro buf _; simp [tailStr]
  | cons y r ih =>
    intro buf hb
    have h1 : addItem buf y = buf ++ separator ++ item y := by simp [addItem, hb]
    have h2 : addItem buf y ≠ [] := by rw [h1]; simp [hb]
    rw [List.foldl_cons, ih _ h2, h1]
    simp [tailStr]

theorem render_cons (x : Seg) (r : List Seg) (hx : x.1 ≠ []) : render (x :: r) = item x ++ tailStr r := by
  have h0 : addItem [] x = item x := by simp [addItem]
  have h1 : item x ≠ [] := by simp [item, hx]
  rw [render, List.foldl_cons, h0, foldl_addItem r _ h1]

theorem render_nil : render [] = [] := rfl

/-- a written candidate: the URL is non-empty, free of whitespace and has no comma at either end; the metadata is
    free of whitespace and commas. That the metadata has no `(` either, which the WHATWG tokenizer also needs, is
    deliberately left out: it is the separate hypothesis `∀ b ∈ y.2, b ≠ 40` of `candidates_render`, discharged
    through `PfAlphabet`. -/
structure Good (x : Seg) : Prop where
  url_ne : x.1 ≠ []
  url_nows : ∀ b ∈ x.1, isAsciiWhitespace b = false
  url_head : x.1.head? ≠ some 44
  url_last : x.1.getLast? ≠ some 44
  meta_clean : ∀ b ∈ x.2, isMeta b = false

theorem tailStr_length (r : List Seg) : r.length ≤ (tailStr r).length := by
  induction r with
  | nil => simp
  | cons y r ih => rw [tailStr_cons]; simp; omega

theorem good_head (x : Seg) (g : Good x) : ∃ c t, x.1 = c :: t ∧ isAsciiWhitespace c = false ∧ c ≠ 44 := by
  have h1 := g.url_ne
  cases hx : x.1 with
  | nil => exact absurd hx h1
  | cons c t =>
    refine ⟨c, t, rfl, ?_, ?_⟩
    · exact g.url_nows c (by simp [hx])
    · have := g.url_head; rw [hx] at this; simpa using this

theorem ws32 : isAsciiWhitespace 32 = true := by decide
theorem ws44 : isAsciiWhitespace 44 = false := by decide
theorem meta32 : isMeta 32 = true := by decide
theorem meta44 : isMeta 44 = true := by decide

theorem isMeta_false {b : Nat} (h : isMeta b = false) : isAsciiWhitespace b = false ∧ b ≠ 44 := by
  simp [isMeta] at h; exact h

def metaPart (x : Seg) : Bytes := if x.2 = [] then [] else 32 :: x.2

theorem item_eq (x : Seg) : item x = x.1 ++ metaPart x := rfl

def IsTail (T : Bytes) : Prop := T = [] ∨ ∃ t, T = 32 :: 44 :: 32 :: t

theorem isTail_tailStr (r : List Seg) : IsTail (tailStr r) := by
  cases r with
  | nil => exact .inl rfl
  | cons y r => exact .inr ⟨_, tailStr_cons y r⟩

theorem stops_nonws_metaPart_tail (x : Seg) (T : Bytes) (hT : IsTail T) :
    Stops (fun c => !isAsciiWhitespace c) (metaPart x ++ T) := by
  unfold metaPart
  by_cases hm : x.2 = []
  · simp only [hm, if_true, List.nil_append]
    rcases hT with h | ⟨t, h⟩ <;> subst h
    · exact stops_nil _
    · exact stops_cons _ _ _ (by simp [ws32])
  · simp only [hm, if_false, List.cons_append]
    exact stops_cons _ _ _ (by simp [ws32])

/-- Both scanners first skip a run `w` of bytes that cannot start a URL and then read the URL up to
    the next whitespace: on `w ++ item x ++ T` that leaves `metaPart x ++ T`. -/
theorem skip_to_item (p : Nat → Bool) (w : Bytes) (x : Seg) (T : Bytes) (hw : ∀ b ∈ w, p b = true)
    (hp : ∀ c, isAsciiWhitespace c = false → c ≠ 44 → p c = false) (g : Good x) (hT : IsTail T) :
    (w ++ (item x ++ T)).dropWhile p = x.1 ++ (metaPart x ++ T) ∧
    (x.1 ++ (metaPart x ++ T)).takeWhile (fun c => !isAsciiWhitespace c) = x.1 ∧
    (x.1 ++ (metaPart x ++ T)).dropWhile (fun c => !isAsciiWhitespace c) = metaPart x ++ T := by
  obtain ⟨c, t, hx, hc, hc44⟩ := good_head x g
  have hnw : ∀ b ∈ x.1, (!isAsciiWhitespace b) = true := fun b hb => by simp [g.url_nows b hb]
  have hs := stops_nonws_metaPart_tail x T hT
  refine ⟨?_, takeWhile_span _ _ _ hnw hs, dropWhile_span _ _ _ hnw hs⟩
  rw [dropWhile_span _ _ _ hw, item_eq, List.append_assoc]
  rw [item_eq, hx]; exact stops_cons _ _ _ (hp c hc hc44)

theorem dropWhile_ws_meta (x : Seg) (g : Good x) (hm : x.2 ≠ []) (T : Bytes) :
    (32 :: (x.2 ++ T)).dropWhile isAsciiWhitespace = x.2 ++ T := by
  rw [List.dropWhile_cons_of_pos ws32]
  apply dropWhile_stops
  apply stops_append _ _ _ hm
  cases hx2 : x.2 with
  | nil => exact absurd hx2 hm
  | cons d t2 => exact stops_cons _ _ _ (isMeta_false (g.meta_clean d (by simp [hx2]))).1

theorem consumeCandidate_shape (w : Bytes) (x : Seg) (T : Bytes)
    (hw : ∀ b ∈ w, isAsciiWhitespace b = true) (g : Good x) (hT : IsTail T) :
    consumeCandidate (w ++ (item x ++ T)) = (x.1, x.2, T.dropWhile isAsciiWhitespace) := by
  obtain ⟨e1, e2, e3⟩ := skip_to_item isAsciiWhitespace w x T hw (fun _ h _ => h) g hT
  rw [consumeCandidate_eq]
  simp only [e1, e2, e3]
  -- the tail after skipping whitespace: empty or starts with the comma
  have hT' : Stops (fun c => !isMeta c) (T.dropWhile isAsciiWhitespace) ∧
      Stops isAsciiWhitespace (T.dropWhile isAsciiWhitespace) := by
    rcases hT with h | ⟨t, h⟩ <;> subst h
    · exact ⟨stops_nil _, stops_nil _⟩
    · simp only [List.dropWhile, ws32, ws44]
      exact ⟨stops_cons _ _ _ (by simp [meta44]), stops_cons _ _ _ ws44⟩
  have hTm : Stops (fun c => !isMeta c) T := by
    rcases hT with h | ⟨t, h⟩ <;> subst h
    · exact stops_nil _
    · exact stops_cons _ _ _ (by simp [meta32])
  by_cases hm : x.2 = []
  · simp only [metaPart, hm, if_true, List.nil_append]
    rw [takeWhile_stops _ _ hT'.1, dropWhile_stops _ _ hT'.1, dropWhile_stops _ _ hT'.2]
  · simp only [metaPart, hm, if_false, List.cons_append]
    have hclean : ∀ b ∈ x.2, (!isMeta b) = true := by
      intro b hb; simp [g.meta_clean b hb]
    rw [dropWhile_ws_meta x g hm, takeWhile_span _ _ _ hclean hTm, dropWhile_span _ _ _ hclean hTm]

theorem item_ne (x : Seg) (g : Good x) : item x ≠ [] := by simp [item, g.url_ne]

theorem scan_shape : ∀ (r : List Seg) (x : Seg) (w : Bytes) (fuel : Nat),
    (∀ b ∈ w, isAsciiWhitespace b = true) → Good x → (∀ y ∈ r, Good y) → r.length < fuel →
    scan fuel (w ++ (item x ++ tailStr r)) = x :: r := by
  intro r
  induction r with
  | nil =>
    intro x w fuel hw g _ hf
    cases fuel with
    | zero => omega
    | succ f =>
      have hne : w ++ (item x ++ tailStr []) ≠ [] := by simp [item_ne x g]
      unfold scan
      rw [if_neg hne, consumeCandidate_shape w x _ hw g (isTail_tailStr [])]
      simp [tailStr]
  | cons y r ih =>
    intro x w fuel hw g hr hf
    cases fuel with
    | zero => omega
    | succ f =>
      have hne : w ++ (item x ++ tailStr (y :: r)) ≠ [] := by simp [item_ne x g]
      unfold scan
      rw [if_neg hne, consumeCandidate_shape w x _ hw g (isTail_tailStr _), tailStr_cons]
      simp only [List.dropWhile, ws32, ws44, if_true]
      have := ih y [32] f (by simp [ws32]) (hr y (by simp)) (fun z hz => hr z (by simp [hz]))
        (by simp at hf; omega)
      simp only [List.singleton_append] at this
      rw [this]

/-! ### the WHATWG candidate collection on what the sanitizer writes -/

def descOf (m : Bytes) : List Bytes := if m = [] then [] else [m]

theorem tokenize_run : ∀ (m cur : Bytes) (ds : List Bytes) (T : Bytes),
    (∀ b ∈ m, isMeta b = false ∧ b ≠ 40) →
    tokenize .inDescriptor cur ds (m ++ T) = tokenize .inDescriptor (cur ++ m) ds T := by
  intro m
  induction m with
  | nil => intro cur ds T _; simp
  | cons c t ih =>
    intro cur ds T h
    have hc := h c (by simp)
    have h1 := (isMeta_false hc.1).1
    have h2 : (c == 44) = false := by simp [(isMeta_false hc.1).2]
    have h3 : (c == 40) = false := by simp [hc.2]
    rw [List.cons_append, tokenize]
    simp only [h1, h2, h3, Bool.false_eq_true, if_false]
    rw [ih _ _ _ (fun b hb => h b (by simp [hb]))]
    simp

theorem splittingLoop_nil (fuel : Nat) : splittingLoop fuel [] = [] := by
  cases fuel <;> simp [splittingLoop, collect]

theorem tokenize_after_item (x : Seg) (T : Bytes) (g : Good x) (hp : ∀ b ∈ x.2, b ≠ 40) (hT : IsTail T) :
    tokenize .inDescriptor [] [] (skipWhitespace (metaPart x ++ T)) =
      (descOf x.2, (T.dropWhile isAsciiWhitespace).drop 1) := by
  unfold skipWhitespace collect
  by_cases hm : x.2 = []
  · simp only [metaPart, descOf, hm, if_true, List.nil_append]
    rcases hT with h | ⟨t, h⟩ <;> subst h
    · simp [tokenize, pushNonEmpty]
    · simp [List.dropWhile, ws32, ws44, tokenize, pushNonEmpty]
  · simp only [metaPart, descOf, hm, if_false, List.cons_append]
    rw [dropWhile_ws_meta x g hm, tokenize_run _ _ _ _ (fun b hb => ⟨g.meta_clean b hb, hp b hb⟩)]
    rcases hT with h | ⟨t, h⟩ <;> subst h
    · simp [tokenize, pushNonEmpty, hm]
    · simp [List.dropWhile, ws32, ws44, tokenize, pushNonEmpty, hm]

theorem splittingLoop_step (w : Bytes) (x : Seg) (T : Bytes) (fuel : Nat)
    (hw : ∀ b ∈ w, isMeta b = true) (g : Good x) (hp : ∀ b ∈ x.2, b ≠ 40) (hT : IsTail T) :
    splittingLoop (fuel + 1) (w ++ (item x ++ T)) =
      (x.1, descOf x.2) :: splittingLoop fuel ((T.dropWhile isAsciiWhitespace).drop 1) := by
  obtain ⟨e1, e2, e3⟩ := skip_to_item (fun c => isAsciiWhitespace c || c == 44) w x T hw
    (fun c h h44 => by simp [h, h44]) g hT
  have hne : (x.1 ++ (metaPart x ++ T)).isEmpty = false := by simp [g.url_ne]
  have hlast : (x.1.getLast? == some 44) = false := by
    have := g.url_last
    cases h : x.1.getLast? with
    | none => rfl
    | some v => rw [h] at this; simp at this; simp [this]
  conv => lhs; unfold splittingLoop
  simp only [collect, e1, e2, e3, hne, hlast, Bool.false_eq_true, if_false, tokenize_after_item x T g hp hT]

/-- what the WHATWG algorithm collects from a written pair -/
def candOf (y : Seg) : Candidate := (y.1, descOf y.2)

theorem splittingLoop_shape : ∀ (r : List Seg) (x : Seg) (w : Bytes) (fuel : Nat),
    (∀ b ∈ w, isMeta b = true) → Good x → (∀ b ∈ x.2, b ≠ 40) →
    (∀ y ∈ r, Good y ∧ ∀ b ∈ y.2, b ≠ 40) → r.length < fuel →
    splittingLoop fuel (w ++ (item x ++ tailStr r)) = candOf x :: r.map candOf := by
  intro r
  induction r with
  | nil =>
    intro x w fuel hw g hp _ hf
    cases fuel with
    | zero => omega
    | succ f =>
      rw [splittingLoop_step w x _ f hw g hp (isTail_tailStr [])]
      simp [tailStr, splittingLoop_nil, candOf]
  | cons y r ih =>
    intro x w fuel hw g hp hr hf
    cases fuel with
    | zero => omega
    | succ f =>
      rw [splittingLoop_step w x _ f hw g hp (isTail_tailStr _), tailStr_cons]
      simp only [List.dropWhile, ws32, ws44, List.drop_succ_cons, List.drop_zero]
      have := ih y [32] f (by simp [meta32]) (hr y (by simp)).1 (hr y (by simp)).2
        (fun z hz => hr z (by simp [hz])) (by simp at hf; omega)
      simp only [List.singleton_append] at this
      rw [this]
      simp [candOf]

/-- on what the sanitizer writes, the WHATWG candidate collection finds exactly the written pairs -/
theorem candidates_render (l : List Seg) (hg : ∀ y ∈ l, Good y ∧ ∀ b ∈ y.2, b ≠ 40) :
    candidates (render l) = l.map candOf := by
  cases l with
  | nil => simp [render, candidates, splittingLoop, collect]
  | cons x r =>
    have gx := hg x (by simp)
    rw [render_cons x r gx.1.url_ne, candidates]
    have := splittingLoop_shape r x [] ((item x ++ tailStr r).length + 1) (by simp) gx.1 gx.2
      (fun z hz => hg z (by simp [hz])) (by have := tailStr_length r; simp; omega)
    simpa using this

theorem scan_render (x : Seg) (r : List Seg) (hg : ∀ y ∈ x :: r, Good y) :
    scan ((render (x :: r)).length + 1) (render (x :: r)) = x :: r := by
  have gx := hg x (by simp)
  rw [render_cons x r gx.url_ne]
  have := scan_shape r x [] ((item x ++ tailStr r).length + 1) (by simp) gx
    (fun z hz => hg z (by simp [hz])) (by have := tailStr_length r; simp; omega)
  simpa using this

/-! ### appendURLToSet -/

theorem dropLast_last (l : List Nat) (a : Nat) (h : l.getLast? = some a) : l.dropLast ++ [a] = l := by
  obtain ⟨ys, rfl⟩ := List.getLast?_eq_some_iff.mp h
  simp

theorem getLast?_append_ne (a b : Bytes) (hb : b ≠ []) : (a ++ b).getLast? = b.getLast? := by
  cases h : b.getLast? with
  | none => simp at h; exact absurd h hb
  | some v => simp [List.getLast?_append, h]

def encComma (e : Bytes) : Bytes := if e = [] then [] else pct2c

@[simp] theorem encComma_nil : encComma [] = [] := rfl
@[simp] theorem encComma_comma : encComma [44] = pct2c := rfl

/-- `appendURLToSet` replaces a leading and/or trailing comma by `%2c` and copies the rest -/
theorem appendURLToSet_spec (u : Bytes) (hu : u ≠ []) :
    ∃ lead core trail, u = lead ++ core ++ trail ∧ (lead = [] ∨ lead = [44]) ∧ (trail = [] ∨ trail = [44]) ∧
      appendURLToSet u = encComma lead ++ core ++ encComma trail ∧
      (lead = [] → core.head? ≠ some 44) ∧ (trail = [] → core.getLast? ≠ some 44 ∨ core = []) := by
  cases u with
  | nil => exact absurd rfl hu
  | cons c t =>
    unfold appendURLToSet
    by_cases hc : c = 44
    · subst hc
      simp only [if_true]
      by_cases ht : t ≠ [] ∧ t.getLast? = some 44
      · rw [if_pos ht]
        refine ⟨[44], t.dropLast, [44], ?_, Or.inr rfl, Or.inr rfl, by simp [encComma], by simp, by simp⟩
        have := dropLast_last t 44 ht.2
        simp [this]
      · rw [if_neg ht]
        refine ⟨[44], t, [], by simp, Or.inr rfl, Or.inl rfl, by simp [encComma], by simp, ?_⟩
        intro _
        by_cases h : t = []
        · right; exact h
        · left; intro h2; exact ht ⟨h, h2⟩
    · simp only [hc, if_false]
      by_cases ht : c :: t ≠ [] ∧ (c :: t).getLast? = some 44
      · rw [if_pos ht]
        refine ⟨[], (c :: t).dropLast, [44], ?_, Or.inl rfl, Or.inr rfl, by simp [encComma], ?_, by simp⟩
        · have := dropLast_last (c :: t) 44 ht.2
          simp [this]
        · intro _
          cases t with
          | nil => simp at ht; exact absurd ht hc
          | cons d t' => simp [List.dropLast, hc]
      · rw [if_neg ht]
        refine ⟨[], c :: t, [], by simp, Or.inl rfl, Or.inl rfl, by simp [encComma], by simp [hc], ?_⟩
        intro _; left; intro h2; exact ht ⟨by simp, h2⟩

theorem appendURLToSet_props (u : Bytes) (hu : u ≠ []) :
    appendURLToSet u ≠ [] ∧ (∀ b ∈ appendURLToSet u, b ∈ u ∨ b ∈ pct2c) ∧
    (appendURLToSet u).head? ≠ some 44 ∧ (appendURLToSet u).getLast? ≠ some 44 := by
  obtain ⟨lead, core, trail, hdec, hl, ht, hres, hh, hlast⟩ := appendURLToSet_spec u hu
  rw [hres]
  rcases hl with rfl | rfl <;> rcases ht with rfl | rfl
  · simp only [encComma_nil, List.nil_append, List.append_nil] at hdec ⊢
    subst hdec
    refine ⟨hu, fun b hb => Or.inl hb, hh rfl, ?_⟩
    rcases hlast rfl with h | h
    · exact h
    · exact absurd h hu
  · simp only [encComma_nil, encComma_comma, List.nil_append] at hdec ⊢
    refine ⟨by simp [pct2c], ?_, ?_, by simp [pct2c]⟩
    · intro b hb; subst hdec; simp at hb ⊢; rcases hb with h | h
      · left; left; exact h
      · right; simpa [pct2c] using h
    · cases core with
      | nil => simp [pct2c]
      | cons d t => have := hh rfl; simpa using this
  · simp only [encComma_nil, encComma_comma, List.append_nil] at hdec ⊢
    refine ⟨by simp [pct2c], ?_, by simp [pct2c], ?_⟩
    · intro b hb; subst hdec; simp at hb ⊢; rcases hb with h | h
      · right; simpa [pct2c] using h
      · left; right; exact h
    · rcases hlast rfl with h | h
      · by_cases hc : core = []
        · subst hc; simp [pct2c]
        · rw [getLast?_append_ne _ _ hc]; exact h
      · subst h; simp [pct2c]
  · simp only [encComma_comma] at hdec ⊢
    refine ⟨by simp [pct2c], ?_, by simp [pct2c], by rw [getLast?_append_ne _ _ (by simp [pct2c])]; simp [pct2c]⟩
    intro b hb; subst hdec; simp at hb ⊢; rcases hb with h | h | h
    · right; simpa [pct2c] using h
    · left; right; left; exact h
    · right; simpa [pct2c] using h

theorem appendURLToSet_fixed (v : Bytes) (h1 : v.head? ≠ some 44) (h2 : v.getLast? ≠ some 44) :
    appendURLToSet v = v := by
  cases v with
  | nil => rfl
  | cons c t =>
    have hc : c ≠ 44 := by simpa using h1
    unfold appendURLToSet
    simp only [hc, if_false, List.nil_append]
    rw [if_neg]
    intro h; exact h2 h.2

/-! ### the scanner's segmentation, declaratively (for "copied, in order, from s") -/

/-- One iteration of the Go scanner read off the input: `s = ws* url ws* metadata ws* rest`, where `url` is a maximal
    whitespace-free run, `metadata` a maximal run free of whitespace and commas, and `rest` does not start with
    whitespace. -/
structure Step (s url md rest : Bytes) : Prop where
  split : ∃ w1 w2 w3 : Bytes, s = w1 ++ url ++ w2 ++ md ++ w3 ++ rest ∧
    (∀ b ∈ w1, isAsciiWhitespace b = true) ∧ (∀ b ∈ w2, isAsciiWhitespace b = true) ∧
    (∀ b ∈ w3, isAsciiWhitespace b = true) ∧
    Stops (fun c => !isAsciiWhitespace c) (w2 ++ md ++ w3 ++ rest) ∧
    Stops (fun c => !isMeta c) (w3 ++ rest)
  url_nows : ∀ b ∈ url, isAsciiWhitespace b = false
  md_clean : ∀ b ∈ md, isMeta b = false
  rest_nows : Stops isAsciiWhitespace rest

theorem consumeCandidate_step (s url md rest : Bytes) (h : consumeCandidate s = (url, md, rest)) :
    Step s url md rest := by
  rw [consumeCandidate_eq] at h
  simp only [Prod.mk.injEq] at h
  obtain ⟨h1, h2, h3⟩ := h
  refine ⟨?_, fun b hb => Bool.not_eq_true' _ ▸ mem_takeWhile_imp _ _ _ (h1 ▸ hb),
    fun b hb => Bool.not_eq_true' _ ▸ mem_takeWhile_imp _ _ _ (h2 ▸ hb), ?_⟩
  · refine ⟨s.takeWhile isAsciiWhitespace,
      ((s.dropWhile isAsciiWhitespace).dropWhile (fun c => !isAsciiWhitespace c)).takeWhile isAsciiWhitespace,
      ((((s.dropWhile isAsciiWhitespace).dropWhile (fun c => !isAsciiWhitespace c)).dropWhile
        isAsciiWhitespace).dropWhile (fun c => !isMeta c)).takeWhile isAsciiWhitespace, ?_, ?_, ?_, ?_, ?_, ?_⟩
    · subst h1 h2 h3
      simp only [List.append_assoc, List.takeWhile_append_dropWhile]
    · intro b hb; exact mem_takeWhile_imp _ _ _ hb
    · intro b hb; exact mem_takeWhile_imp _ _ _ hb
    · intro b hb; exact mem_takeWhile_imp _ _ _ hb
    · subst h2 h3
      simp only [List.append_assoc, List.takeWhile_append_dropWhile]
      exact stops_dropWhile _ _
    · subst h3
      simp only [List.takeWhile_append_dropWhile]
      exact stops_dropWhile _ _
  · subst h3; exact stops_dropWhile _ _

/-- The Go scanner's segmentation of `s` into (url, metadata) pairs: after each pair a comma continues the scan,
    anything else (or the end) stops it and the remaining input is ignored. -/
inductive Segmentation : Bytes → List Seg → Prop
  | empty : Segmentation [] []
  | last (s url md rest : Bytes) : s ≠ [] → Step s url md rest → rest.head? ≠ some 44 →
      Segmentation s [(url, md)]
  | more (s url md rest : Bytes) (segs : List Seg) : s ≠ [] → Step s url md (44 :: rest) →
      Segmentation rest segs → Segmentation s ((url, md) :: segs)

theorem step_length (s url md rest : Bytes) (h : Step s url md rest) : rest.length ≤ s.length := by
  obtain ⟨w1, w2, w3, hs, _⟩ := h.split
  rw [hs]; simp only [List.length_append]; omega

theorem scan_segmentation : ∀ (fuel : Nat) (s : Bytes), s.length < fuel → Segmentation s (scan fuel s) := by
  intro fuel
  induction fuel with
  | zero => intro s h; omega
  | succ f ih =>
    intro s hf
    unfold scan
    by_cases hs : s = []
    · subst hs; simp; exact Segmentation.empty
    · rw [if_neg hs]
      rcases hcc : consumeCandidate s with ⟨url, md, rest⟩
      have hstep := consumeCandidate_step s url md rest hcc
      cases rest with
      | nil => exact Segmentation.last s url md [] hs hstep (by simp)
      | cons c t =>
        by_cases hc : c = 44
        · subst hc
          simp only [if_true]
          have hl := step_length _ _ _ _ hstep
          exact Segmentation.more s url md t _ hs hstep (ih t (by simp at hl; omega))
        · simp only [hc, if_false]
          exact Segmentation.last s url md (c :: t) hs hstep (by simp [hc])

theorem segmentation_props {s : Bytes} {segs : List Seg} (h : Segmentation s segs) : ∀ seg ∈ segs,
    (∀ b ∈ seg.1, isAsciiWhitespace b = false) ∧ (∀ b ∈ seg.2, isMeta b = false) := by
  induction h with
  | empty => simp
  | last s url md rest _ hstep _ => exact List.forall_mem_singleton.2 ⟨hstep.url_nows, hstep.md_clean⟩
  | more s url md rest segs _ hstep _ ih => exact List.forall_mem_cons.2 ⟨⟨hstep.url_nows, hstep.md_clean⟩, ih⟩

/-! ### what the scanner and the filter produce -/

theorem pct2c_nows : ∀ b ∈ pct2c, isAsciiWhitespace b = false := by decide

theorem keep_good (safe pf : Bytes → Bool) (seg x : Seg) (h : keep safe pf seg = some x)
    (h1 : ∀ b ∈ seg.1, isAsciiWhitespace b = false) (h2 : ∀ b ∈ seg.2, isMeta b = false) : Good x := by
  unfold keep at h
  split at h
  · rename_i hc
    cases h
    obtain ⟨a1, a2, a3, a4⟩ := appendURLToSet_props seg.1 hc.1
    refine ⟨a1, ?_, a3, a4, h2⟩
    intro b hb
    rcases a2 b hb with h | h
    · exact h1 b h
    · exact pct2c_nows b h
  · cases h

theorem keep_eq_some (safe pf : Bytes → Bool) (seg x : Seg) (h : keep safe pf seg = some x) :
    x = (appendURLToSet seg.1, seg.2) ∧ seg.1 ≠ [] ∧ safe seg.1 = true ∧ metadataWellFormedWith pf seg.2 = true := by
  unfold keep at h
  split at h
  · rename_i hc; cases h; exact ⟨rfl, hc⟩
  · cases h

def kept (safe pf : Bytes → Bool) (s : Bytes) : List Seg := (scan (s.length + 1) s).filterMap (keep safe pf)

theorem kept_good (safe pf : Bytes → Bool) (s : Bytes) : ∀ x ∈ kept safe pf s, Good x := by
  intro x hx
  obtain ⟨seg, hseg, hk⟩ := List.mem_filterMap.mp hx
  have := segmentation_props (scan_segmentation _ s (Nat.lt_succ_self _)) seg hseg
  exact keep_good safe pf seg x hk this.1 this.2

/-! ### the sanitizer's result -/

def output (kept : List Seg) : Bytes := if kept = [] then Generated.Tables.innocuousURL else render kept

theorem render_ne_nil (l : List Seg) (hl : l ≠ []) (hg : ∀ y ∈ l, Good y) : render l ≠ [] := by
  cases l with
  | nil => exact absurd rfl hl
  | cons x r =>
    have gx := hg x (by simp)
    rw [render_cons x r gx.url_ne]
    simp [item_ne x gx]

theorem urlSetSanitizedWith_eq (safe pf : Bytes → Bool) (s : Bytes) :
    urlSetSanitizedWith safe pf s = output (kept safe pf s) := by
  unfold urlSetSanitizedWith output
  rw [sanitizeLoop_eq]
  show (if render (kept safe pf s) = [] then _ else render (kept safe pf s)) = _
  by_cases hk : kept safe pf s = []
  · simp [hk, render]
  · have := render_ne_nil _ hk (kept_good safe pf s)
    simp [hk, this]

/-! ### the metadata check -/

/-- the only fact used about `strconv.ParseFloat`: accepted strings are over `[0-9A-Za-z+-._]` -/
def PfAlphabet (pf : Bytes → Bool) : Prop := ∀ p, pf p = true → ∀ b ∈ p, floatByte b = true

/-- "a number followed by at most one ASCII letter" (`pf` = is a number) -/
def MetaOk (pf : Bytes → Bool) (m : Bytes) : Prop :=
  pf m = true ∨ ∃ p l, m = p ++ [l] ∧ isAlpha l = true ∧ pf p = true

theorem orBit5_letter (l : Nat) : (97 ≤ orBit5 l ∧ orBit5 l ≤ 122) ↔ isAlpha l = true := by
  unfold orBit5
  simp only [isAlpha, isLowerAlpha, isUpperAlpha, Bool.or_eq_true, Bool.and_eq_true, decide_eq_true_eq]
  split <;> omega

theorem metadataWellFormed_spec (pf : Bytes → Bool) (m : Bytes) (hm : m ≠ [])
    (h : metadataWellFormedWith pf m = true) : MetaOk pf m := by
  unfold metadataWellFormedWith at h
  cases hl : m.getLast? with
  | none => simp at hl; exact absurd hl hm
  | some last =>
    rw [hl] at h
    simp only at h
    by_cases hc : 97 ≤ orBit5 last ∧ orBit5 last ≤ 122
    · rw [if_pos hc] at h
      right
      exact ⟨m.dropLast, last, (dropLast_last m last hl).symm, (orBit5_letter last).mp hc, h⟩
    · rw [if_neg hc] at h
      left; exact h

theorem floatByte_noparen (b : Nat) (h : floatByte b = true) : b ≠ 40 := by
  intro hb; subst hb; revert h; decide

theorem isAlpha_noparen (b : Nat) (h : isAlpha b = true) : b ≠ 40 := by
  intro hb; subst hb; revert h; decide

theorem metadataWellFormed_noparen (pf : Bytes → Bool) (hpf : PfAlphabet pf) (m : Bytes)
    (h : metadataWellFormedWith pf m = true) : ∀ b ∈ m, b ≠ 40 := by
  by_cases hm : m = []
  · subst hm; simp
  · intro b hb
    rcases metadataWellFormed_spec pf m hm h with h1 | ⟨p, l, hml, hl, hp⟩
    · exact floatByte_noparen b (hpf m h1 b hb)
    · subst hml
      simp at hb
      rcases hb with hb | hb
      · exact floatByte_noparen b (hpf p hp b hb)
      · subst hb; exact isAlpha_noparen b hl

/-! ### the C12 clauses safe, idempotent and sublist for opaque `safe`, `pf` -/

/-- `safe` is stable under writing an edge comma as `%2c` -/
def SafeStable (safe : Bytes → Bool) : Prop := ∀ u, u ≠ [] → safe u = true → safe (appendURLToSet u) = true

theorem kept_facts (safe pf : Bytes → Bool) (s : Bytes) (x : Seg) (hx : x ∈ kept safe pf s) :
    Good x ∧ ∃ u, u ≠ [] ∧ safe u = true ∧ x.1 = appendURLToSet u ∧ metadataWellFormedWith pf x.2 = true := by
  refine ⟨kept_good safe pf s x hx, ?_⟩
  obtain ⟨seg, _, hk⟩ := List.mem_filterMap.mp hx
  obtain ⟨h1, h2, h3, h4⟩ := keep_eq_some safe pf seg x hk
  exact ⟨seg.1, h2, h3, by rw [h1], by rw [h1]; exact h4⟩

def innocuous : Bytes := Generated.Tables.innocuousURL

theorem innocuous_good : Good (innocuous, []) := by
  refine ⟨by decide, by decide, by decide, by decide, by simp⟩

theorem innocuous_render : render [(innocuous, [])] = innocuous := by
  simp [render, addItem, item]

theorem safe_generic (safe pf : Bytes → Bool) (hI : safe innocuous = true) (hS : SafeStable safe)
    (hpf : PfAlphabet pf) (s : Bytes) :
    ∀ c ∈ candidates (urlSetSanitizedWith safe pf s),
      safe c.1 = true ∧ (c.2 = [] ∨ ∃ m, c.2 = [m] ∧ m ≠ [] ∧ MetaOk pf m) := by
  rw [urlSetSanitizedWith_eq]
  unfold output
  by_cases hk : kept safe pf s = []
  · rw [if_pos hk]
    intro c
    show c ∈ candidates innocuous → _
    intro hc
    have : candidates innocuous = [(innocuous, [])] := by
      have := candidates_render [(innocuous, [])] (by intro y hy; simp at hy; subst hy; exact ⟨innocuous_good, by simp⟩)
      rw [innocuous_render] at this
      simpa [candOf, descOf] using this
    rw [this] at hc
    simp at hc; subst hc
    exact ⟨hI, Or.inl rfl⟩
  · rw [if_neg hk]
    have hg : ∀ y ∈ kept safe pf s, Good y ∧ ∀ b ∈ y.2, b ≠ 40 := by
      intro y hy
      obtain ⟨g, u, _, _, _, hm⟩ := kept_facts safe pf s y hy
      exact ⟨g, metadataWellFormed_noparen pf hpf y.2 hm⟩
    rw [candidates_render _ hg]
    intro c hc
    obtain ⟨y, hy, rfl⟩ := List.mem_map.mp hc
    obtain ⟨_, u, hu, hsu, hyu, hm⟩ := kept_facts safe pf s y hy
    refine ⟨by simp only [candOf]; rw [hyu]; exact hS u hu hsu, ?_⟩
    simp only [candOf, descOf]
    by_cases hm0 : y.2 = []
    · left; simp [hm0]
    · right; exact ⟨y.2, by simp [hm0], hm0, metadataWellFormed_spec pf y.2 hm0 hm⟩

theorem filterMap_id_of {α : Type} (f : α → Option α) (l : List α) (h : ∀ y ∈ l, f y = some y) :
    l.filterMap f = l := by
  induction l with
  | nil => rfl
  | cons a t ih =>
    rw [List.filterMap_cons, h a (by simp)]
    simp [ih (fun y hy => h y (by simp [hy]))]

theorem sanitize_render (safe pf : Bytes → Bool) (l : List Seg) (hl : l ≠ []) (hg : ∀ y ∈ l, Good y)
    (hk : ∀ y ∈ l, keep safe pf y = some y) :
    urlSetSanitizedWith safe pf (render l) = render l := by
  rw [urlSetSanitizedWith_eq]
  have : kept safe pf (render l) = l := by
    unfold kept
    cases l with
    | nil => exact absurd rfl hl
    | cons x r => rw [scan_render x r hg, filterMap_id_of _ _ hk]
  rw [this, output, if_neg hl]

theorem idempotent_generic (safe pf : Bytes → Bool) (hI : safe innocuous = true) (hS : SafeStable safe) (s : Bytes) :
    urlSetSanitizedWith safe pf (urlSetSanitizedWith safe pf s) = urlSetSanitizedWith safe pf s := by
  rw [urlSetSanitizedWith_eq safe pf s]
  unfold output
  by_cases hk : kept safe pf s = []
  · rw [if_pos hk]
    have := sanitize_render safe pf [(innocuous, [])] (by simp)
      (by intro y hy; simp at hy; subst hy; exact innocuous_good)
      (by
        intro y hy; simp at hy; subst hy
        have hfix : appendURLToSet innocuous = innocuous := appendURLToSet_fixed _ (by decide) (by decide)
        simp [keep, hI, hfix, metadataWellFormedWith]
        decide)
    rw [innocuous_render] at this
    exact this
  · rw [if_neg hk]
    apply sanitize_render safe pf _ hk (kept_good safe pf s)
    intro y hy
    obtain ⟨g, u, hu, hsu, hyu, hm⟩ := kept_facts safe pf s y hy
    have hfix : appendURLToSet y.1 = y.1 := appendURLToSet_fixed _ g.url_head g.url_last
    have hsafe : safe y.1 = true := by rw [hyu]; exact hS u hu hsu
    unfold keep
    rw [if_pos ⟨g.url_ne, hsafe, hm⟩, hfix]

theorem sublist_generic (safe pf : Bytes → Bool) (s : Bytes) :
    ∃ segs, Segmentation s segs ∧ urlSetSanitizedWith safe pf s = output (segs.filterMap (keep safe pf)) :=
  ⟨scan (s.length + 1) s, scan_segmentation _ s (by omega), urlSetSanitizedWith_eq safe pf s⟩

end SafeHtml.Proofs.UrlSet
