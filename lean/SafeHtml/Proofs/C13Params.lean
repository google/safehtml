/-
C13 helper lemmas for TrustedResourceURLWithParams: `sort.Strings` as the unique sorted
permutation (so the result does not depend on the order of the parameter list), and the effect on
the RFC 3986 components (only the query changes).
-/
import SafeHtml.Proofs.C13Escape
namespace SafeHtml.Proofs.C13
open SafeHtml SafeHtml.Model SafeHtml.Spec.Rfc3986 SafeHtml.Spec.TruUrl

theorem bytesLe_total (a b : Bytes) : bytesLe a b = true ∨ bytesLe b a = true := by
  induction a generalizing b with
  | nil => simp [bytesLe]
  | cons x s ih =>
    cases b with
    | nil => simp [bytesLe]
    | cons y t =>
      simp only [bytesLe, Bool.or_eq_true, Bool.and_eq_true, decide_eq_true_eq, beq_iff_eq]
      rcases Nat.lt_trichotomy x y with h | h | h
      · exact Or.inl (Or.inl h)
      · rcases ih t with h' | h'
        · exact Or.inl (Or.inr ⟨h, h'⟩)
        · exact Or.inr (Or.inr ⟨h.symm, h'⟩)
      · exact Or.inr (Or.inl h)

theorem bytesLe_trans (a b c : Bytes) (h1 : bytesLe a b = true) (h2 : bytesLe b c = true) :
    bytesLe a c = true := by
  induction a generalizing b c with
  | nil => simp [bytesLe]
  | cons x s ih =>
    cases b with
    | nil => simp [bytesLe] at h1
    | cons y t =>
      cases c with
      | nil => simp [bytesLe] at h2
      | cons z u =>
        simp only [bytesLe, Bool.or_eq_true, Bool.and_eq_true, decide_eq_true_eq, beq_iff_eq] at *
        rcases h1 with h1 | ⟨h1, h1'⟩
        · rcases h2 with h2 | ⟨h2, h2'⟩
          · exact Or.inl (by omega)
          · exact Or.inl (by omega)
        · rcases h2 with h2 | ⟨h2, h2'⟩
          · exact Or.inl (by omega)
          · exact Or.inr ⟨by omega, ih t u h1' h2'⟩

theorem bytesLe_antisymm (a b : Bytes) (h1 : bytesLe a b = true) (h2 : bytesLe b a = true) : a = b := by
  induction a generalizing b with
  | nil => cases b with
    | nil => rfl
    | cons y t => simp [bytesLe] at h2
  | cons x s ih =>
    cases b with
    | nil => simp [bytesLe] at h1
    | cons y t =>
      simp only [bytesLe, Bool.or_eq_true, Bool.and_eq_true, decide_eq_true_eq, beq_iff_eq] at *
      rcases h1 with h1 | ⟨h1, h1'⟩
      · rcases h2 with h2 | ⟨h2, h2'⟩ <;> omega
      · rcases h2 with h2 | ⟨h2, h2'⟩
        · omega
        · rw [h1, ih t h1' h2']

theorem insertSorted_perm (x : Bytes) (l : List Bytes) : (insertSorted x l).Perm (x :: l) := by
  induction l with
  | nil => simp [insertSorted]
  | cons y ys ih =>
    simp only [insertSorted]
    split
    · exact List.Perm.refl _
    · exact ((List.perm_cons y).2 ih).trans (List.Perm.swap x y ys)

theorem sortStrings_perm (l : List Bytes) : (sortStrings l).Perm l := by
  induction l with
  | nil => simp [sortStrings]
  | cons x l ih =>
    show (insertSorted x (sortStrings l)).Perm (x :: l)
    exact (insertSorted_perm x _).trans ((List.perm_cons x).2 ih)

theorem insertSorted_sorted (x : Bytes) (l : List Bytes)
    (h : l.Pairwise (fun a b => bytesLe a b = true)) :
    (insertSorted x l).Pairwise (fun a b => bytesLe a b = true) := by
  induction l with
  | nil => simp [insertSorted]
  | cons y ys ih =>
    simp only [insertSorted]
    rw [List.pairwise_cons] at h
    split
    · rename_i hxy
      rw [List.pairwise_cons]
      refine ⟨?_, List.pairwise_cons.2 h⟩
      intro a ha
      rcases List.mem_cons.1 ha with rfl | ha
      · exact hxy
      · exact bytesLe_trans _ _ _ hxy (h.1 a ha)
    · rename_i hxy
      rw [List.pairwise_cons]
      refine ⟨?_, ih h.2⟩
      intro a ha
      rcases List.mem_cons.1 ((insertSorted_perm x ys).mem_iff.1 ha) with rfl | ha
      · rcases bytesLe_total a y with h' | h'
        · exact absurd h' hxy
        · exact h'
      · exact h.1 a ha

theorem sortStrings_sorted (l : List Bytes) :
    (sortStrings l).Pairwise (fun a b => bytesLe a b = true) := by
  induction l with
  | nil => simp [sortStrings]
  | cons x l ih => exact insertSorted_sorted x _ ih

theorem sortStrings_perm_eq (l₁ l₂ : List Bytes) (h : l₁.Perm l₂) : sortStrings l₁ = sortStrings l₂ :=
  List.Perm.eq_of_pairwise (fun a b _ _ h1 h2 => bytesLe_antisymm a b h1 h2)
    (sortStrings_sorted l₁) (sortStrings_sorted l₂)
    ((sortStrings_perm l₁).trans (h.trans (sortStrings_perm l₂).symm))

theorem encodeParams_perm (p₁ p₂ : Args) (h : p₁.Perm p₂) : (encodeParams p₁).Perm (encodeParams p₂) :=
  List.Perm.filterMap _ h

/-- the result does not depend on the order in which the parameters are listed (Go: map iteration order) -/
theorem withParams_perm (t : Bytes) (p₁ p₂ : Args) (h : p₁.Perm p₂) :
    trustedResourceURLWithParams t p₁ = trustedResourceURLWithParams t p₂ := by
  unfold trustedResourceURLWithParams
  rw [sortStrings_perm_eq _ _ (encodeParams_perm p₁ p₂ h)]

def addedQuery (ps : Args) : Bytes := joinAmp (sortStrings (encodeParams ps))

theorem joinAmp_bytes (l : List Bytes) : ∀ b ∈ joinAmp l, b = 38 ∨ ∃ x ∈ l, b ∈ x := by
  induction l with
  | nil => simp [joinAmp]
  | cons x l ih =>
    cases l with
    | nil => intro b hb; simp [joinAmp] at hb; exact Or.inr ⟨x, by simp, hb⟩
    | cons y t =>
      intro b hb
      simp only [joinAmp, List.mem_append, List.mem_cons] at hb
      rcases hb with hb | hb | hb
      · exact Or.inr ⟨x, by simp, hb⟩
      · exact Or.inl hb
      · rcases ih b hb with h | ⟨z, hz, hbz⟩
        · exact Or.inl h
        · exact Or.inr ⟨z, List.mem_cons_of_mem _ hz, hbz⟩

theorem addedQuery_bytes (ps : Args) :
    ∀ b ∈ addedQuery ps, isUnreserved b = true ∨ b = 37 ∨ b = 61 ∨ b = 38 := by
  intro b hb
  rcases joinAmp_bytes _ b hb with h | ⟨x, hx, hbx⟩
  · exact Or.inr (Or.inr (Or.inr h))
  · have hx' := (sortStrings_perm _).mem_iff.1 hx
    simp only [encodeParams, List.mem_filterMap] at hx'
    obtain ⟨kv, _, hkv⟩ := hx'
    split at hkv
    · cases hkv
    · cases hkv
      simp only [List.mem_append, List.mem_cons, queryEscapeURL_eq] at hbx
      have enc : ∀ v, b ∈ pctEncodeAll v → isUnreserved b = true ∨ b = 37 ∨ b = 61 ∨ b = 38 :=
        fun v h => (pctEncodeAll_bytes v b h).elim .inl (.inr ∘ .inl)
      rcases hbx with h | h | h
      · exact enc _ h
      · exact Or.inr (Or.inr (Or.inl h))
      · exact enc _ h

theorem cutAt_append (c : Nat) (t : Bytes) : (cutAt c t).1 ++ (cutAt c t).2 = t := by
  induction t with
  | nil => rfl
  | cons b t ih =>
    simp only [cutAt]
    split
    · rfl
    · simp [ih]

theorem withParams_nothing (t : Bytes) (ps : Args) (h : encodeParams ps = []) :
    trustedResourceURLWithParams t ps = t := by
  simp [trustedResourceURLWithParams, h, sortStrings, cutAt_append]


theorem cut_fst_eq (c : Nat) (s : Bytes) : (cut c s).1 = (cutAt c s).1 := by
  induction s with
  | nil => rfl
  | cons b t ih =>
    simp only [cut, cutAt]
    split <;> simp [ih]

theorem cutAt_snd_eq (c : Nat) (s : Bytes) :
    (cutAt c s).2 = match (cut c s).2 with | none => [] | some a => c :: a := by
  induction s with
  | nil => rfl
  | cons b t ih =>
    simp only [cut, cutAt]
    split
    · rename_i hb
      simp only [beq_iff_eq] at hb
      simp [hb]
    · simpa using ih

theorem cutAt_fst_not_mem (c : Nat) (s : Bytes) : c ∉ (cutAt c s).1 := by
  induction s with
  | nil => simp [cutAt]
  | cons b t ih =>
    simp only [cutAt]
    split
    · simp
    · rename_i hb
      simp only [beq_iff_eq] at hb
      simp only [List.mem_cons, not_or]
      exact ⟨fun h => hb h.symm, ih⟩

theorem cut_append_of_not_mem (c : Nat) (p q : Bytes) (h : c ∉ p) :
    cut c (p ++ q) = (p ++ (cut c q).1, (cut c q).2) := by
  induction p with
  | nil => simp
  | cons b p ih =>
    simp only [List.mem_cons, not_or] at h
    have hb : (b == c) = false := by simp; exact fun e => h.1 e.symm
    simp [cut, hb, ih h.2]

theorem cut_append_of_some (c : Nat) (p q a : Bytes) (h : (cut c p).2 = some a) :
    cut c (p ++ q) = ((cut c p).1, some (a ++ q)) := by
  induction p with
  | nil => simp [cut] at h
  | cons b p ih =>
    simp only [cut] at h ⊢
    simp only [List.cons_append, cut]
    split
    · rename_i hb
      simp only [hb, if_true] at h
      simp only [Option.some.injEq] at h
      simp [h]
    · rename_i hb
      simp only [hb] at h
      simp [ih h]

theorem cut_snd_none (c : Nat) (p : Bytes) (h : (cut c p).2 = none) : c ∉ p ∧ (cut c p).1 = p := by
  induction p with
  | nil => simp [cut]
  | cons b p ih =>
    simp only [cut] at h ⊢
    split
    · rename_i hb; simp [hb] at h
    · rename_i hb
      simp only [hb] at h
      simp only [beq_iff_eq] at hb
      have := ih h
      simp only [List.mem_cons, not_or]
      exact ⟨⟨fun e => hb e.symm, this.1⟩, by simp [this.2]⟩

theorem cut_cutAt_snd (c : Nat) (s : Bytes) : cut c (cutAt c s).2 = ([], (cut c s).2) := by
  induction s with
  | nil => rfl
  | cons b t ih =>
    simp only [cutAt]
    split
    · rename_i hb; simp [cut, hb]
    · rename_i hb; simp [cut, hb, ih]

theorem split_of (s P B : Bytes) (F Q : Option Bytes) (h1 : cut 35 s = (P, F)) (h2 : cut 63 P = (B, Q)) :
    split s = { scheme := (splitScheme B).1, authority := (splitAuthority (splitScheme B).2).1,
                path := (splitAuthority (splitScheme B).2).2, query := Q, fragment := F } := by
  simp [split, h1, h2]

theorem sortStrings_ne_nil (l : List Bytes) (h : l ≠ []) : sortStrings l ≠ [] := by
  intro e
  have := (sortStrings_perm l).length_eq
  rw [e] at this
  exact h (List.eq_nil_of_length_eq_zero this.symm)

theorem withParams_eq (t : Bytes) (ps : Args) (h : encodeParams ps ≠ []) :
    trustedResourceURLWithParams t ps =
      ((cutAt 35 t).1 ++ (match (cutAt 63 (cutAt 35 t).1).2 with
          | [] => [63] | [_] => [] | _ => [38]) ++ addedQuery ps) ++ (cutAt 35 t).2 := by
  have := sortStrings_ne_nil _ h
  simp only [trustedResourceURLWithParams, addedQuery]
  cases hs : sortStrings (encodeParams ps) with
  | nil => exact absurd hs this
  | cons x l => simp; rfl

theorem addedQuery_no_hash (ps : Args) : 35 ∉ addedQuery ps := by
  intro h
  have := addedQuery_bytes ps 35 h
  revert this
  decide

theorem withParams_split (t : Bytes) (ps : Args) (h : encodeParams ps ≠ []) :
    (split (trustedResourceURLWithParams t ps)).scheme = (split t).scheme ∧
    (split (trustedResourceURLWithParams t ps)).authority = (split t).authority ∧
    (split (trustedResourceURLWithParams t ps)).path = (split t).path ∧
    (split (trustedResourceURLWithParams t ps)).fragment = (split t).fragment ∧
    (split (trustedResourceURLWithParams t ps)).query =
      some (match (split t).query with
        | none => addedQuery ps
        | some [] => addedQuery ps
        | some (c :: q) => (c :: q) ++ 38 :: addedQuery ps) := by
  rw [withParams_eq t ps h]
  generalize hurl : (cutAt 35 t).1 = url
  have hnu : 35 ∉ url := hurl ▸ cutAt_fst_not_mem 35 t
  have hct : cut 35 t = (url, (cut 35 t).2) := Prod.ext (by rw [← hurl, cut_fst_eq]) rfl
  have hA := addedQuery_no_hash ps
  generalize addedQuery ps = added at hA ⊢
  have hcr : ∀ sep, 35 ∉ sep →
      cut 35 (url ++ sep ++ added ++ (cutAt 35 t).2) = (url ++ sep ++ added, (cut 35 t).2) := by
    intro sep hs
    rw [cut_append_of_not_mem 35 _ _ (by simp [hnu, hA, hs]), cut_cutAt_snd]; simp
  cases hq : (cut 63 url).2 with
  | none =>
    obtain ⟨hn, h1⟩ := cut_snd_none 63 url hq
    have hcu : cut 63 url = (url, none) := Prod.ext h1 hq
    have hsep : (cutAt 63 url).2 = [] := by rw [cutAt_snd_eq, hq]
    rw [hsep]
    have hcP : cut 63 (url ++ [63] ++ added) = (url, some added) := by
      rw [List.append_assoc, cut_append_of_not_mem 63 _ _ hn]; simp [cut]
    rw [split_of _ _ _ _ _ (hcr [63] (by decide)) hcP, split_of _ _ _ _ _ hct hcu]
    simp
  | some q =>
    have hcu : cut 63 url = ((cut 63 url).1, some q) := Prod.ext rfl hq
    have hsep : (cutAt 63 url).2 = 63 :: q := by rw [cutAt_snd_eq, hq]
    rw [hsep]
    cases q with
    | nil =>
      have hcP : cut 63 (url ++ [] ++ added) = ((cut 63 url).1, some added) := by
        rw [List.append_nil, cut_append_of_some 63 _ _ _ hq]; simp
      rw [split_of _ _ _ _ _ (hcr [] (by decide)) hcP, split_of _ _ _ _ _ hct hcu]
      simp
    | cons c q =>
      have hcP : cut 63 (url ++ [38] ++ added) = ((cut 63 url).1, some (c :: q ++ 38 :: added)) := by
        rw [List.append_assoc, cut_append_of_some 63 _ _ _ hq]; simp
      rw [split_of _ _ _ _ _ (hcr [38] (by decide)) hcP, split_of _ _ _ _ _ hct hcu]
      simp

end SafeHtml.Proofs.C13
