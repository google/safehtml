/-
A greedy class star followed by a continuation that cannot start with a class member only ever tries the
longest run (`star_cls_then`); with it, the shape `\A(?:(C+)D|N*(?:E|\z))` (safeURLPattern) is an explicit
function of two spans, capture included (`find_schemeAlt`).
-/
import SafeHtml.Rx.Thm
namespace SafeHtml
namespace Rx

theorem tryDown_only_top (k : MSt → List Sym → Option α) (st : MSt) (s : List Sym) (n : Nat)
    (h : ∀ j, j < n → k (adv st j) (s.drop j) = none) :
    tryDown k st s n = k (adv st n) (s.drop n) := by
  induction n with
  | zero => simp [tryDown]
  | succ n ih =>
    simp only [tryDown]
    cases hk : k (adv st (n+1)) (s.drop (n+1)) with
    | some r => rfl
    | none =>
      simp only []
      rw [ih (fun j hj => h j (by omega))]
      exact h n (by omega)

theorem spanCls_drop_lt (C : List (Nat × Nat)) : ∀ (s : List Sym) (j : Nat), j < spanCls C s →
    ∃ x r, s.drop j = x :: r ∧ inCls C x.rune = true := by
  intro s
  induction s with
  | nil => intro j h; simp [spanCls] at h
  | cons c t ih =>
    intro j h
    simp only [spanCls] at h
    by_cases hc : inCls C c.rune = true
    · simp only [hc, if_true] at h
      cases j with
      | zero => exact ⟨c, t, rfl, hc⟩
      | succ j => simpa using ih j (by omega)
    · simp [hc] at h

theorem spanCls_drop_eq (C : List (Nat × Nat)) : ∀ (s : List Sym),
    s.drop (spanCls C s) = [] ∨ ∃ x r, s.drop (spanCls C s) = x :: r ∧ inCls C x.rune = false := by
  intro s
  induction s with
  | nil => left; simp [spanCls]
  | cons c t ih =>
    simp only [spanCls]
    by_cases hc : inCls C c.rune = true
    · simp only [hc, if_true, List.drop_succ_cons]; exact ih
    · right; refine ⟨c, t, by simp [hc], by simpa using hc⟩

theorem star_cls_then (C : List (Nat × Nat)) (k : MSt → List Sym → Option α)
    (hk : ∀ st x r, inCls C x.rune = true → k st (x :: r) = none)
    (s : List Sym) (f : Nat) (st : MSt) (hf : s.length < f) :
    m (.star (.cls C) true) f st s k = k (adv st (spanCls C s)) (s.drop (spanCls C s)) := by
  rw [star_cls_greedy C k s f st hf]
  apply tryDown_only_top
  intro j hj
  obtain ⟨x, r, hx, hc⟩ := spanCls_drop_lt C s j hj
  rw [hx]; exact hk _ x r hc

/-- `\A(?:(C+)D|N*(?:E|\z))` -/
def schemeAltRe (C D N E : List (Nat × Nat)) : Re :=
  .cat .bot (.alt (.cat (.cap 1 (Re.plus (.cls C) true)) (.cls D))
                  (.cat (.star (.cls N) true) (.alt (.cls E) .eot)))

def schemeAltFind (C D N E : List (Nat × Nat)) (syms : List Sym) : Option Match :=
  let n := spanCls C syms
  match n, syms.drop n with
  | n'+1, x :: _ =>
    if inCls D x.rune then some ⟨0, n'+2, [(1, 0, n'+1)]⟩ else schemeAltFind2 syms
  | _, _ => schemeAltFind2 syms
where
  schemeAltFind2 (syms : List Sym) : Option Match :=
    let k := spanCls N syms
    match syms.drop k with
    | [] => some ⟨0, k, []⟩
    | x :: _ => if inCls E x.rune then some ⟨0, k+1, []⟩ else none

theorem m_schemeAlt_second (N E : List (Nat × Nat)) (hNE : ∀ c, inCls N c = true → inCls E c = false)
    (s : List Sym) (f : Nat) (hf : s.length < f) :
    m (.cat (.star (.cls N) true) (.alt (.cls E) .eot)) f ⟨0, []⟩ s K0 =
      schemeAltFind.schemeAltFind2 N E s := by
  rw [m_cat]
  rw [star_cls_then N _ _ s f _ hf]
  · unfold schemeAltFind.schemeAltFind2
    simp only []
    cases hd : s.drop (spanCls N s) with
    | nil => simp [m_alt, m_cls_nil, m_eot, K0, adv]
    | cons x r =>
      simp only [m_alt, m_cls_cons, m_eot]
      by_cases hx : inCls E x.rune = true
      · simp [hx, K0, adv]
      · simp [hx]
  · intro st x r hx
    simp [m_alt, m_cls_cons, m_eot, hNE _ hx]

theorem find_schemeAlt (C D N E : List (Nat × Nat))
    (hCD : ∀ c, inCls C c = true → inCls D c = false)
    (hNE : ∀ c, inCls N c = true → inCls E c = false) (syms : List Sym) :
    find (schemeAltRe C D N E) syms = schemeAltFind C D N E syms := by
  unfold schemeAltRe
  rw [find_bot, m_alt, m_schemeAlt_second N E hNE syms _ (by omega)]
  have h1 : m (.cat (.cap 1 (Re.plus (.cls C) true)) (.cls D)) (syms.length + 1) ⟨0, []⟩ syms K0 =
      match spanCls C syms, syms.drop (spanCls C syms) with
      | n'+1, x :: _ => if inCls D x.rune then some ⟨0, n'+2, [(1, 0, n'+1)]⟩ else none
      | _, _ => none := by
    rw [m_cat, m_cap]
    unfold Re.plus
    rw [m_cat]
    cases syms with
    | nil => simp [m_cls_nil, spanCls]
    | cons c t =>
      rw [m_cls_cons]
      by_cases hc : inCls C c.rune = true
      · simp only [hc, if_true, spanCls, List.drop_succ_cons]
        rw [star_cls_then C _ _ t _ _ (by simp only [List.length_cons]; omega)]
        · cases hd : t.drop (spanCls C t) with
          | nil => simp [m_cls_nil]
          | cons x r =>
            simp only [m_cls_cons]
            by_cases hx : inCls D x.rune = true
            · simp [hx, K0, adv]; omega
            · simp [hx]
        · intro st x r hx
          simp [m_cls_cons, hCD _ hx]
      · simp [hc, spanCls]
  rw [h1]
  unfold schemeAltFind
  simp only []
  generalize spanCls C syms = n
  generalize syms.drop n = d
  cases n with
  | zero => rfl
  | succ n' =>
    cases d with
    | nil => rfl
    | cons x r =>
      simp only []
      by_cases hx : inCls D x.rune = true <;> simp [hx]

end Rx
end SafeHtml
