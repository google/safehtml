/-
Inertness of the model of encoding/json (HTML-escaping mode): the output of `enc` never contains
`<`, `>`, `&` nor the byte sequences E2 80 A8 / E2 80 A9 — for strings (`appendString`), for
Marshaler / RawMessage bytes passed through `compact` (scanner-state invariant), and for trees.
-/
import SafeHtml.Model.GoJson
import SafeHtml.Spec.Json
import SafeHtml.Proofs.Utf8
import SafeHtml.Proofs.Bytes
namespace SafeHtml.Model.GoJson
open SafeHtml

/-- no `<`, `>`, `&`, and no E2 80 A8 / E2 80 A9 -/
def inertB : Bytes → Bool
  | [] => true
  | c :: t => c != 60 && c != 62 && c != 38 && !(c == 226 && (lsTail t).isSome) && inertB t

def asciiHead : Bytes → Bool
  | [] => true
  | c :: _ => c < 128

/-- a byte that can neither be forbidden nor start a forbidden sequence -/
def safeByte (c : Nat) : Bool := c != 60 && c != 62 && c != 38 && c != 226

theorem inertB_cons (c : Nat) (t : Bytes) :
    inertB (c :: t) = (c != 60 && c != 62 && c != 38 && !(c == 226 && (lsTail t).isSome) && inertB t) := rfl

theorem inertB_cons_safe (c : Nat) (t : Bytes) (h : safeByte c = true) : inertB (c :: t) = inertB t := by
  simp only [safeByte, Bool.and_eq_true, bne_iff_ne, ne_eq] at h
  obtain ⟨⟨⟨h1, h2⟩, h3⟩, h4⟩ := h
  simp [inertB, h1, h2, h3, h4]

theorem inertB_append_safe (a b : Bytes) (h : a.all safeByte = true) : inertB (a ++ b) = inertB b := by
  induction a with
  | nil => rfl
  | cons c t ih =>
    simp only [List.all_cons, Bool.and_eq_true] at h
    rw [List.cons_append, inertB_cons_safe _ _ h.1, ih h.2]

theorem lsTail_isSome_iff (b : Bytes) :
    (lsTail b).isSome = true ↔ ∃ d r, b = 128 :: d :: r ∧ (d = 168 ∨ d = 169) := by
  match b with
  | [] | [_] => simp [lsTail]
  | x :: d :: r =>
    simp only [lsTail, List.cons.injEq]
    constructor
    · intro h
      split at h
      · rename_i hc
        simp only [Bool.and_eq_true, beq_iff_eq, Bool.or_eq_true] at hc
        exact ⟨d, r, ⟨hc.1, rfl, rfl⟩, hc.2⟩
      · cases h
    · rintro ⟨_, _, ⟨rfl, rfl, rfl⟩, rfl | rfl⟩ <;> rfl

/-- `80 A8|A9` cannot straddle the boundary to a text that starts with an ASCII byte -/
theorem lsTail_append (a b : Bytes) (hb : asciiHead b = true) (h : (lsTail (a ++ b)).isSome = true) :
    (lsTail a).isSome = true := by
  rw [lsTail_isSome_iff] at h ⊢
  obtain ⟨d, r, e, hd⟩ := h
  match a, b with
  | [], x :: _ =>
    simp only [asciiHead, decide_eq_true_eq, List.nil_append, List.cons.injEq] at hb e; omega
  | [_], x :: _ =>
    simp only [asciiHead, decide_eq_true_eq, List.cons_append, List.nil_append, List.cons.injEq] at hb e; omega
  | [], [] | [_], [] => simp at e
  | x :: y :: a', _ =>
    simp only [List.cons_append, List.cons.injEq] at e
    exact ⟨d, a', by rw [e.1, e.2.1], hd⟩

theorem inertB_append (a b : Bytes) (ha : inertB a = true) (hb : inertB b = true) (hh : asciiHead b = true) :
    inertB (a ++ b) = true := by
  induction a with
  | nil => exact hb
  | cons c t ih =>
    simp only [inertB, Bool.and_eq_true] at ha
    obtain ⟨⟨h1, h2⟩, h3⟩ := ha
    simp only [List.cons_append, inertB, Bool.and_eq_true]
    refine ⟨⟨h1, ?_⟩, ih h3⟩
    cases hl : (lsTail (t ++ b)).isSome with
    | false => simp
    | true => simpa [lsTail_append t b hh hl] using h2

/-! ### strings -/

theorem hexDigitLower_safe (n : Nat) (hn : n < 16) : safeByte (hexDigitLower n) = true := by
  simp only [safeByte, Bool.and_eq_true, bne_iff_ne, ne_eq]
  rcases hexDigitLower_cases n hn with ⟨_, e⟩ | ⟨_, e⟩ <;> omega

theorem u00_safe (b : Nat) : (u00 b).all safeByte = true := by
  simp only [u00, List.all_cons, List.all_nil, hexDigitLower_safe _ (Nat.mod_lt _ (by decide : 0 < 16))]; decide

theorem u202_safe (b : Nat) : (u202 b).all safeByte = true := by
  simp only [u202, List.all_cons, List.all_nil, hexDigitLower_safe _ (Nat.mod_lt _ (by decide : 0 < 16))]; decide

theorem of_ite {α} {P : α → Prop} {c : Prop} [Decidable c] {x y : α} (hx : c → P x) (hy : ¬ c → P y) :
    P (if c then x else y) := by
  split
  · exact hx ‹_›
  · exact hy ‹_›

/-- the four shapes of `appendString`'s output for one ASCII byte: `\"` or `\\`, a short escape, `\u00XY`,
    the byte itself. (Walking the `if` chain by `of_ite` is far cheaper to check than `split`.) -/
theorem escByte_elim {P : Bytes → Prop} (b : Nat)
    (quote : b = 92 ∨ b = 34 → P [92, b])
    (short : ∀ c, (b, c) ∈ [(8, 98), (12, 102), (10, 110), (13, 114), (9, 116)] → P [92, c])
    (hex : b < 32 ∨ b = 60 ∨ b = 62 ∨ b = 38 → P (u00 b))
    (plain : 32 ≤ b ∧ b ≠ 34 ∧ b ≠ 92 ∧ b ≠ 60 ∧ b ≠ 62 ∧ b ≠ 38 → P [b]) : P (escByte b) := by
  have sh : ∀ {k c : Nat}, (k, c) ∈ [(8, 98), (12, 102), (10, 110), (13, 114), (9, 116)] →
      (b == k) = true → P [92, c] :=
    fun hm h => short _ (beq_iff_eq.1 h ▸ hm)
  refine of_ite (fun h => quote (by simpa using h)) fun n1 =>
    of_ite (sh (by simp)) fun _ => of_ite (sh (by simp)) fun _ => of_ite (sh (by simp)) fun _ =>
    of_ite (sh (by simp)) fun _ => of_ite (sh (by simp)) fun _ =>
    of_ite (fun h => hex (by simpa [or_assoc] using h)) fun n2 => plain ?_
  simp only [Bool.or_eq_true, beq_iff_eq, decide_eq_true_eq, not_or] at n1 n2
  omega

theorem escByte_safe (b : Nat) (hb : b < 128) : (escByte b).all safeByte = true := by
  refine escByte_elim (P := fun x => x.all safeByte = true) b ?_ ?_ (fun _ => u00_safe b) ?_
  · rintro (rfl | rfl) <;> rfl
  · intro c h
    simp only [List.mem_cons, Prod.mk.injEq, List.not_mem_nil, or_false] at h
    rcases h with ⟨_, rfl⟩ | ⟨_, rfl⟩ | ⟨_, rfl⟩ | ⟨_, rfl⟩ | ⟨_, rfl⟩ <;> rfl
  · intro h
    simp only [List.all_cons, List.all_nil, Bool.and_true, safeByte, Bool.and_eq_true, bne_iff_ne, ne_eq]; omega

theorem inertB_cons_of (c : Nat) (t : Bytes) (hc : c ≠ 60 ∧ c ≠ 62 ∧ c ≠ 38)
    (h : c = 226 → (lsTail t).isSome = false) : inertB (c :: t) = inertB t := by
  by_cases h226 : c = 226
  · have e : (c != 60 && c != 62 && c != 38) = true := by
      simp only [Bool.and_eq_true, bne_iff_ne, ne_eq]; omega
    rw [inertB_cons, e, h h226]; simp
  · exact inertB_cons_safe c t (by simp only [safeByte, Bool.and_eq_true, bne_iff_ne, ne_eq]; omega)

/-- a well-formed multi-byte sequence other than U+2028/9 is copied; it adds nothing forbidden:
    its continuation bytes are below `E2`, and a lead `E2` is not followed by `80 A8|A9` -/
theorem multi_inert {b : Nat} {p : Bytes} {r : Nat} (hm : Utf8.Multi b p r) (h2 : r ≠ 0x2028) (h3 : r ≠ 0x2029)
    (rest : Bytes) : inertB (b :: p ++ rest) = inertB rest := by
  have hp : p.all safeByte = true := by
    cases hm <;> simp [safeByte] <;> omega
  have hl : b = 226 → (lsTail (p ++ rest)).isSome = false := by
    cases hm <;> intro hb <;> simp [lsTail] <;> omega
  rw [List.cons_append, inertB_cons_of b _ (by have := hm.facts.1; omega) hl, inertB_append_safe p rest hp]

end SafeHtml.Model.GoJson

namespace SafeHtml.Utf8

/-- the three kinds of symbol the decoder produces: an ASCII byte, an invalid byte (read as U+FFFD),
    a well-formed multi-byte sequence -/
inductive SymKind : Sym → Prop
  | ascii (b : Nat) : b < 128 → SymKind ⟨b, [b]⟩
  | bad (b : Nat) : 128 ≤ b → SymKind ⟨runeError, [b]⟩
  | multi {b : Nat} {p : Bytes} {r : Nat} : Multi b p r → SymKind ⟨r, b :: p⟩

theorem decodeSyms_kinds (s : Bytes) : ∀ x ∈ decodeSyms s, SymKind x := by
  induction s using decode_induction with
  | hnil => simp [decodeSyms_nil]
  | hcons b t ih =>
    rw [decodeSyms_cons]
    intro x hx
    rcases List.mem_cons.1 hx with rfl | hx
    · rcases decode1_cases b t with ⟨hb, e⟩ | ⟨hb, e⟩ | ⟨p, u, r, rfl, hm⟩
      · rw [e]; exact .ascii b hb
      · rw [e]; exact .bad b hb
      · rw [decode1_multi hm u]; simpa using SymKind.multi hm
    · exact ih x hx

end SafeHtml.Utf8

namespace SafeHtml.Model.GoJson
open SafeHtml

theorem encSym_ascii (b : Nat) (h : b < 128) : encSym ⟨b, [b]⟩ = escByte b := if_pos h

theorem encSym_bad (b : Nat) : encSym ⟨Utf8.runeError, [b]⟩ = uFFFD := by simp [encSym, Utf8.runeError]

theorem encSym_multi {b : Nat} {p : Bytes} {r : Nat} (hm : Utf8.Multi b p r) :
    encSym ⟨r, b :: p⟩ = if r = 0x2028 ∨ r = 0x2029 then u202 r else b :: p := by
  obtain ⟨_, hp, _, hr, _⟩ := hm.facts
  have hl : ((b :: p).length == 1) = false := by
    cases p with
    | nil => exact absurd rfl hp
    | cons _ _ => rfl
  simp only [encSym, if_neg (Nat.not_lt.2 hr), hl, Bool.and_false, Bool.false_eq_true, if_false, Bool.or_eq_true,
    beq_iff_eq]

theorem encSym_inert {x : Sym} (hk : Utf8.SymKind x) (rest : Bytes) : inertB (encSym x ++ rest) = inertB rest := by
  cases hk with
  | ascii b hb => rw [encSym_ascii b hb, inertB_append_safe _ _ (escByte_safe b hb)]
  | bad b _ => rw [encSym_bad, inertB_append_safe _ _ (by decide)]
  | multi hm =>
    rw [encSym_multi hm]
    split
    · exact inertB_append_safe _ _ (u202_safe _)
    · rename_i h; exact multi_inert hm (fun e => h (.inl e)) (fun e => h (.inr e)) rest

theorem encSyms_inert (s rest : Bytes) : inertB ((Utf8.decodeSyms s).flatMap encSym ++ rest) = inertB rest := by
  have hk := Utf8.decodeSyms_kinds s
  generalize Utf8.decodeSyms s = xs at hk ⊢
  induction xs with
  | nil => rfl
  | cons x xs ih =>
    rw [List.flatMap_cons, List.append_assoc, encSym_inert (hk x (by simp)), ih fun y hy => hk y (by simp [hy])]

theorem encodeString_inert (s : Bytes) : inertB (encodeString s) = true := by
  unfold encodeString
  rw [List.append_assoc, List.singleton_append, inertB_cons_safe _ _ (by decide), encSyms_inert]
  decide

theorem encodeString_asciiHead (s rest : Bytes) : asciiHead (encodeString s ++ rest) = true := by
  simp [encodeString, asciiHead]

/-! ### compact -/

/-- a byte ≥ 128 is an "uninteresting byte" for the scanner only inside a string literal, and leaves it there -/
theorem step_nonascii (st : Scan) (c : Nat) (hc : 128 ≤ c) (h : (step st c).2 = .cont) :
    st.fn = .inString ∧ step st c = (st, .cont) := by
  obtain ⟨fn, stack⟩ := st
  have ne : ∀ k, k < 128 → (c == k) = false := fun k hk => by simp only [beq_eq_false_iff_ne]; omega
  have e1 : isSpace c = false := by simp [isSpace, ne]
  have e2 : isDigit c = false := by simp [isDigit]; omega
  have e3 : isHex c = false := by simp [isHex]; omega
  have e4 : ¬ c ≤ 57 := by omega
  have e5 : ¬ c < 32 := by omega
  have hev : ∀ fn', (endValue ⟨fn', stack⟩ c).2 ≠ .cont := by
    intro fn'
    unfold endValue
    cases stack with
    | nil => simp [endTopStep, e1]
    | cons ps rest => cases ps <;> simp [e1, Scan.err, ne]
  cases fn <;>
    simp [step, beginValue, beginString, state0, stateESign, lit1, endTopStep, Scan.err,
      ne, e1, e2, e3, e4, e5, hev] at h ⊢

theorem step_inString (st : Scan) (c : Nat) (h : st.fn = .inString) :
    (step st c).2 = .cont ∨ (step st c).2 = .error := by
  obtain ⟨fn, stack⟩ := st
  simp only at h; subst h
  simp only [step, Scan.go, Scan.err]
  -- the arms of `.inString`: closing quote, backslash, control byte (the only error), any other byte
  split
  · exact Or.inl rfl
  split
  · exact Or.inl rfl
  split
  · exact Or.inr rfl
  · exact Or.inl rfl

theorem Code.cont_of (c : Code) (h1 : (c == .error) = false) (h2 : (c == .skip || c == .fin) = false) : c = .cont := by
  cases c <;> simp_all

/-- What one round of the loop of `appendCompact` does in a run that succeeds: the byte is skipped (it was
    replaced before), replaced by an escape, dropped (white space outside strings), or copied. -/
theorem compactAux_cons_some {st : Scan} {skip c : Nat} {t out : Bytes}
    (h : compactAux st skip (c :: t) = some out) :
    (step st c).2 ≠ .error ∧
    ((0 < skip ∧ compactAux (step st c).1 (skip - 1) t = some out) ∨
     (∃ pre k b', out = 92 :: pre ++ b' ∧ pre.all safeByte = true ∧ compactAux (step st c).1 k t = some b') ∨
     ((step st c).2 ≠ .cont ∧ compactAux (step st c).1 0 t = some out) ∨
     (∃ b', out = c :: b' ∧ compactAux (step st c).1 0 t = some b' ∧ (step st c).2 = .cont ∧
       (c ≠ 60 ∧ c ≠ 62 ∧ c ≠ 38) ∧ (c = 226 → (lsTail t).isSome = false))) := by
  simp only [compactAux] at h
  split at h
  · cases h
  rename_i he
  refine ⟨by simpa using he, ?_⟩
  split at h
  · exact .inl ⟨‹_›, h⟩
  split at h
  · obtain ⟨b', hb', rfl⟩ := Option.map_eq_some_iff.1 h
    exact .inr (.inl ⟨_, _, b', rfl, (Bool.and_eq_true_iff.1 (u00_safe c)).2, hb'⟩)
  rename_i hesc
  split at h
  · obtain ⟨b', hb', rfl⟩ := Option.map_eq_some_iff.1 h
    exact .inr (.inl ⟨_, _, b', rfl, (Bool.and_eq_true_iff.1 (u202_safe _)).2, hb'⟩)
  rename_i hls
  split at h
  · rename_i hk
    exact .inr (.inr (.inl ⟨by rintro e; simp [e] at hk, h⟩))
  · rename_i hk
    obtain ⟨b', hb', rfl⟩ := Option.map_eq_some_iff.1 h
    refine .inr (.inr (.inr ⟨b', rfl, hb', Code.cont_of _ (by simpa using he) (by simpa using hk), ?_, ?_⟩))
    · simpa [and_assoc] using hesc
    · simpa using hls

theorem compact_inString_head (st : Scan) (x : Nat) (t b : Bytes) (hs : st.fn = .inString)
    (h : compactAux st 0 (x :: t) = some b) :
    (∃ b', b = 92 :: b') ∨
      (∃ b', b = x :: b' ∧ compactAux (step st x).1 0 t = some b' ∧ (step st x).2 = .cont) := by
  obtain ⟨he, h | ⟨_, _, _, rfl, _⟩ | ⟨hnc, _⟩ | ⟨b', rfl, hb', hc, _⟩⟩ := compactAux_cons_some h
  · exact absurd h.1 (Nat.lt_irrefl 0)
  · exact .inl ⟨_, rfl⟩
  · rcases step_inString st x hs with hc | hc <;> contradiction
  · exact .inr ⟨b', rfl, hb', hc⟩

theorem compact_inString_ls (st : Scan) (t b : Bytes) (hs : st.fn = .inString)
    (h : compactAux st 0 t = some b) (hl : (lsTail b).isSome = true) : (lsTail t).isSome = true := by
  rw [lsTail_isSome_iff] at hl ⊢
  obtain ⟨d, r, rfl, hd⟩ := hl
  match t with
  | [] => simp [compactAux] at h
  | [_] =>
    rcases compact_inString_head st _ [] _ hs h with ⟨_, hb⟩ | ⟨_, hb, h1, _⟩
    · cases hb
    · cases hb; simp [compactAux] at h1
  | x :: y :: t2 =>
    rcases compact_inString_head st x _ _ hs h with ⟨_, hb⟩ | ⟨_, hb, h1, hc⟩
    · cases hb
    · cases hb
      rw [(step_nonascii st 128 (by omega) hc).2] at h1
      rcases compact_inString_head st y t2 _ hs h1 with ⟨_, hb⟩ | ⟨_, hb, _⟩
      · rcases hd with rfl | rfl <;> cases hb
      · cases hb; exact ⟨_, _, rfl, hd⟩

/-- `appendCompact(…, escape=true)` never lets a forbidden byte or sequence through -/
theorem compactAux_inert : ∀ (src : Bytes) (st : Scan) (skip : Nat) (out : Bytes),
    compactAux st skip src = some out → inertB out = true := by
  intro src
  induction src with
  | nil =>
    intro st skip out h
    simp only [compactAux] at h
    split at h <;> cases h
    rfl
  | cons c t ih =>
    intro st skip out h
    obtain ⟨_, h | ⟨pre, k, b', rfl, hpre, hb'⟩ | ⟨_, h⟩ | ⟨b', rfl, hb', hcode, hc, hls⟩⟩ := compactAux_cons_some h
    · exact ih _ _ _ h.2
    · rw [List.cons_append, inertB_cons_safe _ _ (by decide), inertB_append_safe _ _ hpre]
      exact ih _ _ _ hb'
    · exact ih _ _ _ h
    · -- a copied `E2` is inside a string literal, where the output continues as the source does
      rw [inertB_cons_of c b' hc, ih _ _ _ hb']
      rintro rfl
      obtain ⟨hs, hst⟩ := step_nonascii st 226 (by omega) hcode
      rw [hst] at hb'
      cases hl : (lsTail b').isSome with
      | false => rfl
      | true => rw [compact_inString_ls st t b' hs hb' hl] at hls; exact absurd (hls rfl) (by simp)

theorem compact_inert (src out : Bytes) (h : compact src = some out) : inertB out = true :=
  compactAux_inert src _ _ out h

/-! ### value trees -/

theorem JVal.induct {P : JVal → Prop} {PL : List JVal → Prop} {PM : List (Bytes × JVal) → Prop}
    (null : P .null) (bool : ∀ b, P (.bool b)) (num : ∀ l, P (.num l)) (str : ∀ s, P (.str s))
    (arr : ∀ xs, PL xs → P (.arr xs)) (obj : ∀ m kvs, PM kvs → P (.obj m kvs))
    (raw : ∀ b, P (.raw b)) (text : ∀ b, P (.text b)) (bad : P .bad)
    (nilL : PL []) (consL : ∀ x t, P x → PL t → PL (x :: t))
    (nilM : PM []) (consM : ∀ k x t, P x → PM t → PM ((k, x) :: t)) : ∀ v, P v :=
  fun v => JVal.rec (motive_1 := P) (motive_2 := PL) (motive_3 := PM) (motive_4 := fun p => P p.2)
    null bool num str arr obj raw text bad nilL consL nilM
    (fun head tail h4 h3 => by cases head; exact consM _ _ _ h4 h3) (fun _ _ h => h) v

mutual
/-- every number literal in the tree is a JSON number (true of whatever strconv prints for a finite number) -/
def wfNum : JVal → Bool
  | .num lit => Spec.Json.isNumber lit
  | .arr xs => wfNumL xs
  | .obj _ kvs => wfNumM kvs
  | _ => true
def wfNumL : List JVal → Bool
  | [] => true
  | x :: t => wfNum x && wfNumL t
def wfNumM : List (Bytes × JVal) → Bool
  | [] => true
  | (_, x) :: t => wfNum x && wfNumM t
end

open Spec.Json in
theorem dropDigits_numch (s : Bytes) (h : (dropDigits s).all isNumCh = true) : s.all isNumCh = true := by
  induction s with
  | nil => rfl
  | cons c t ih =>
    simp only [dropDigits] at h
    split at h
    · rename_i hd; simp [isNumCh, hd, ih h]
    · exact h

open Spec.Json in
theorem digits1_numch (s r : Bytes) (h : digits1 s = some r) (hr : r.all isNumCh = true) : s.all isNumCh = true := by
  cases s with
  | nil => cases h
  | cons c t =>
    simp only [digits1] at h
    split at h <;> cases h
    rename_i hd
    simp [isNumCh, hd, dropDigits_numch t hr]

open Spec.Json in
theorem numExp_numch (s : Bytes) (h : numExp s = true) : s.all isNumCh = true := by
  have d : ∀ t : Bytes, (digits1 t == some []) = true → t.all isNumCh = true :=
    fun t ht => digits1_numch t [] (by simpa using ht) rfl
  match s with
  | [] => rfl
  | [c] => simp [numExp] at h
  | c :: s' :: t' =>
    simp only [numExp] at h
    split at h
    · rename_i hc
      have hcn : isNumCh c = true := by
        simp only [Bool.or_eq_true, beq_iff_eq] at hc
        rcases hc with rfl | rfl <;> rfl
      split at h
      · rename_i hs
        have hsn : isNumCh s' = true := by
          simp only [Bool.or_eq_true, beq_iff_eq] at hs
          rcases hs with rfl | rfl <;> rfl
        simp [hcn, hsn, d t' h]
      · simpa [hcn] using d (s' :: t') h
    · cases h

open Spec.Json in
theorem numFrac_numch (s : Bytes) (h : numFrac s = true) : s.all isNumCh = true := by
  cases s with
  | nil => rfl
  | cons c t =>
    simp only [numFrac] at h
    split at h
    · rename_i hc
      rw [beq_iff_eq] at hc; subst hc
      split at h
      · rename_i r hr
        simpa [isNumCh] using digits1_numch t r hr (numExp_numch r h)
      · cases h
    · exact numExp_numch _ h

open Spec.Json in
theorem numInt_numch (s : Bytes) (h : numInt s = true) : s.all isNumCh = true ∧ ∃ c t, s = c :: t ∧ isDigit c = true := by
  cases s with
  | nil => simp [numInt] at h
  | cons c t =>
    simp only [numInt] at h
    split at h
    · rename_i hc
      simp only [beq_iff_eq] at hc; subst hc
      exact ⟨by simp [numFrac_numch t h]; decide, _, _, rfl, by decide⟩
    · split at h
      · rename_i hc
        have hd : isDigit c = true := by
          simp only [Bool.and_eq_true, decide_eq_true_eq] at hc
          simp [isDigit]; omega
        exact ⟨by simp [isNumCh, hd, dropDigits_numch t (numFrac_numch _ h)], _, _, rfl, hd⟩
      · simp at h

theorem isNumber_numch (s : Bytes) (h : Spec.Json.isNumber s = true) :
    s.all Spec.Json.isNumCh = true ∧ ∃ c t, s = c :: t ∧ (c = 45 ∨ isDigit c = true) := by
  cases s with
  | nil => simp [Spec.Json.isNumber] at h
  | cons c t =>
    simp only [Spec.Json.isNumber] at h
    split at h
    · rename_i hc
      simp only [beq_iff_eq] at hc; subst hc
      exact ⟨by simp [(numInt_numch t h).1]; decide, _, _, rfl, Or.inl rfl⟩
    · obtain ⟨h1, c', t', he, hd⟩ := numInt_numch _ h
      simp only [List.cons.injEq] at he
      exact ⟨h1, _, _, rfl, Or.inr (he.1 ▸ hd)⟩

theorem numch_safe_ascii (c : Nat) (h : Spec.Json.isNumCh c = true) : safeByte c = true ∧ c < 128 := by
  simp only [Spec.Json.isNumCh, isDigit, Bool.or_eq_true, Bool.and_eq_true, decide_eq_true_eq, beq_iff_eq] at h
  simp only [safeByte, Bool.and_eq_true, bne_iff_ne, ne_eq]
  omega

theorem number_inert (s : Bytes) (h : Spec.Json.isNumber s = true) : inertB s = true := by
  have h1 := (isNumber_numch s h).1
  have : s.all safeByte = true := by
    simp only [List.all_eq_true] at h1 ⊢
    exact fun x hx => (numch_safe_ascii x (h1 x hx)).1
  have := inertB_append_safe s [] this
  simpa [inertB] using this

theorem joinComma_inert (es : List Bytes) (h : ∀ e ∈ es, inertB e = true) (rest : Bytes)
    (hr : inertB rest = true) (ha : asciiHead rest = true) : inertB (joinComma es ++ rest) = true := by
  match es with
  | [] => simpa [joinComma] using hr
  | [a] => exact inertB_append a rest (h a (by simp)) hr ha
  | a :: b :: t =>
    have ih := joinComma_inert (b :: t) (fun e he => h e (by simp [he])) rest hr ha
    simp only [joinComma, List.append_assoc, List.singleton_append]
    apply inertB_append a _ (h a (by simp))
    · show inertB (44 :: (joinComma (b :: t) ++ rest)) = true
      rw [inertB_cons_safe _ _ (by decide)]; exact ih
    · rfl

theorem mem_insertKV {α} (kv x : Bytes × α) (l : List (Bytes × α)) : x ∈ insertKV kv l ↔ x = kv ∨ x ∈ l := by
  induction l with
  | nil => simp [insertKV]
  | cons y t ih => simp only [insertKV]; split <;> simp [ih, or_left_comm]

theorem mem_sortKV {α} (x : Bytes × α) (l : List (Bytes × α)) : x ∈ sortKV l ↔ x ∈ l := by
  induction l with
  | nil => simp [sortKV]
  | cons y t ih =>
    have : sortKV (y :: t) = insertKV y (sortKV t) := rfl
    rw [this, mem_insertKV, ih]; simp

theorem member_inert (p : Bytes × Bytes) (h : inertB p.2 = true) : inertB (member p) = true := by
  unfold member
  rw [List.append_assoc]
  apply inertB_append _ _ (encodeString_inert _)
  · rw [List.singleton_append, inertB_cons_safe _ _ (by decide)]; exact h
  · rfl

/-- inertness of the model of `json.Marshal`, for every value tree, including Marshaler / RawMessage bytes -/
theorem enc_inert : ∀ (v : JVal) (J : Bytes), wfNum v = true → enc v = some J → inertB J = true := by
  apply JVal.induct (P := fun v => ∀ J, wfNum v = true → enc v = some J → inertB J = true)
    (PL := fun xs => ∀ es, wfNumL xs = true → encL xs = some es → ∀ e ∈ es, inertB e = true)
    (PM := fun kvs => ∀ ps, wfNumM kvs = true → encM kvs = some ps → ∀ p ∈ ps, inertB p.2 = true)
  · intro J _ h; cases h; decide
  · intro b J _ h; cases h; cases b <;> decide
  · intro l J hw h; cases h; exact number_inert _ (by simpa [wfNum] using hw)
  · intro s J _ h; cases h; exact encodeString_inert s
  · intro xs ih J hw h
    obtain ⟨es, hes, rfl⟩ := Option.map_eq_some_iff.1 h
    rw [List.append_assoc, List.singleton_append, inertB_cons_safe _ _ (by decide)]
    exact joinComma_inert es (ih es (by simpa [wfNum] using hw) hes) _ (by decide) (by decide)
  · intro m kvs ih J hw h
    obtain ⟨ps, hps, rfl⟩ := Option.map_eq_some_iff.1 h
    rw [List.append_assoc, List.singleton_append, inertB_cons_safe _ _ (by decide)]
    refine joinComma_inert _ (fun e he => ?_) _ (by decide) (by decide)
    obtain ⟨p, hp, rfl⟩ := List.mem_map.1 he
    refine member_inert p (ih ps (by simpa [wfNum] using hw) hps p ?_)
    cases m
    · exact hp
    · exact (mem_sortKV p ps).1 hp
  · intro b J _ h; exact compact_inert b J h
  · intro s J _ h; cases h; exact encodeString_inert s
  · intro J _ h; cases h
  · intro es _ h e he; cases h; cases he
  · intro x t ihx iht es hw h e he
    simp only [wfNumL, Bool.and_eq_true] at hw
    simp only [encL] at h
    split at h <;> cases h
    rcases List.mem_cons.1 he with rfl | he
    · exact ihx _ hw.1 ‹_›
    · exact iht _ hw.2 ‹_› e he
  · intro ps _ h p hp; cases h; cases hp
  · intro k x t ihx iht ps hw h p hp
    simp only [wfNumM, Bool.and_eq_true] at hw
    simp only [encM] at h
    split at h <;> cases h
    rcases List.mem_cons.1 hp with rfl | hp
    · exact ihx _ hw.1 ‹_›
    · exact iht _ hw.2 ‹_› p hp

theorem lsTail_of_prefix {d : Nat} (hd : d = 168 ∨ d = 169) (t : Bytes) (h : [128, d].isPrefixOf t = true) :
    (lsTail t).isSome = true := by
  match t with
  | [] | [_] => simp [List.isPrefixOf] at h
  | x :: y :: r =>
    simp only [List.isPrefixOf, Bool.and_true, Bool.and_eq_true, beq_iff_eq] at h
    rw [lsTail_isSome_iff]
    exact ⟨y, r, by rw [h.1], h.2 ▸ hd⟩

theorem inertB_noSub {d : Nat} (hd : d = 168 ∨ d = 169) (J : Bytes) (h : inertB J = true) :
    containsSub [226, 128, d] J = false := by
  induction J with
  | nil => rfl
  | cons c t ih =>
    simp only [inertB, Bool.and_eq_true] at h
    rw [containsSub, ih h.2, Bool.or_false, List.isPrefixOf, Bool.and_eq_false_iff]
    cases hp : [128, d].isPrefixOf t with
    | false => exact .inr rfl
    | true => exact .inl (by rw [BEq.comm]; simpa [lsTail_of_prefix hd t hp] using h.1.2)

theorem inertB_spec (J : Bytes) (h : inertB J = true) :
    60 ∉ J ∧ 62 ∉ J ∧ 38 ∉ J ∧ containsSub [226, 128, 168] J = false ∧ containsSub [226, 128, 169] J = false := by
  refine ⟨?_, ?_, ?_, inertB_noSub (.inl rfl) J h, inertB_noSub (.inr rfl) J h⟩ <;>
  · induction J with
    | nil => simp
    | cons c t ih =>
      simp only [inertB, Bool.and_eq_true, bne_iff_ne, ne_eq] at h
      simp only [List.mem_cons, not_or]
      exact ⟨by omega, ih h.2⟩

end SafeHtml.Model.GoJson
