/-
More facts about the UTF-8 model: decoding never looks past / never swallows an ASCII byte,
shape of a decoded symbol, bytes of an encoded rune.
-/
import SafeHtml.Proofs.Utf8
namespace SafeHtml
namespace Utf8

def asciiSym (b : Nat) : Sym := ⟨b, [b]⟩

theorem decodeSyms_ascii_prefix (a rest : Bytes) (h : ∀ b ∈ a, b < 128) :
    decodeSyms (a ++ rest) = a.map asciiSym ++ decodeSyms rest := by
  induction a with
  | nil => rfl
  | cons b t ih =>
    rw [List.cons_append, decodeSyms_cons_ascii _ _ (h b (by simp)), ih (fun x hx => h x (by simp [hx]))]
    rfl

theorem symsBytes_map_asciiSym (p : Bytes) : symsBytes (p.map asciiSym) = p := by
  induction p with
  | nil => rfl
  | cons b p ih => simp only [symsBytes, List.map_cons, List.flatMap_cons] at *; rw [ih]; rfl

/-- an ASCII byte is never taken for a continuation byte -/
theorem decode1_append_ascii (b : Nat) (t : Bytes) (c : Nat) (rest : Bytes) (hc : c < 128) :
    decode1 b (t ++ c :: rest) = decode1 b t := by
  rcases lead_cases b with h | ⟨h, h'⟩ | ⟨h, h'⟩ | ⟨h, h'⟩ | ⟨h, h'⟩
  · rw [decode1_ascii _ _ h, decode1_ascii _ _ h]
  · rw [decode1_bad _ _ h h', decode1_bad _ _ h h']
  · rw [decode1_two _ _ h h', decode1_two _ _ h h']
    rcases t with _ | ⟨b1, u⟩
    · exact if_neg (by omega)
    · rfl
  · rw [decode1_three _ _ h h', decode1_three _ _ h h']
    rcases t with _ | ⟨b1, _ | ⟨b2, u⟩⟩
    · rcases rest with _ | ⟨d, r⟩
      · rfl
      · exact if_neg (by omega)
    · exact if_neg (by omega)
    · rfl
  · rw [decode1_four _ _ h h', decode1_four _ _ h h']
    rcases t with _ | ⟨b1, _ | ⟨b2, _ | ⟨b3, u⟩⟩⟩
    · rcases rest with _ | ⟨d, _ | ⟨e, r⟩⟩
      · rfl
      · rfl
      · exact if_neg (by omega)
    · rcases rest with _ | ⟨d, r⟩
      · rfl
      · exact if_neg (by omega)
    · exact if_neg (by omega)
    · rfl

theorem decodeSyms_append_ascii (c : Nat) (rest : Bytes) (hc : c < 128) :
    ∀ p : Bytes, decodeSyms (p ++ c :: rest) = decodeSyms p ++ decodeSyms (c :: rest) := by
  intro p
  induction p using decode_induction with
  | hnil => simp [decodeSyms_nil]
  | hcons b t ih =>
    have hw2 := decode1_width_le b t
    rw [List.cons_append, decodeSyms_cons, decode1_append_ascii b t c rest hc, decodeSyms_cons b t]
    rw [← List.cons_append, List.take_append_of_le_length hw2, List.drop_append_of_le_length hw2, ih]
    simp

def SymOK (x : Sym) : Prop :=
  (x.rune < 128 ∧ x.bytes = [x.rune]) ∨ Wide x.rune x.bytes

theorem decodeSyms_symOK (s : Bytes) : ∀ x ∈ decodeSyms s, SymOK x := by
  induction s using decode_chunks with
  | nil => simp [decodeSyms_nil]
  | ascii b t hb ih =>
    rw [decodeSyms_cons_ascii b t hb]
    exact List.forall_mem_cons.2 ⟨.inl ⟨hb, rfl⟩, ih⟩
  | wide r p u hw hd ih =>
    rw [hd]
    exact List.forall_mem_cons.2 ⟨.inr hw, ih⟩

theorem sym_bytes_subset (s : Bytes) (x : Sym) (hx : x ∈ decodeSyms s) : ∀ b ∈ x.bytes, b ∈ s := by
  intro b hb
  have : b ∈ symsBytes (decodeSyms s) := by
    simp only [symsBytes, List.mem_flatMap]; exact ⟨x, hx, hb⟩
  rwa [symsBytes_decodeSyms] at this

theorem encodeRune_nonascii (r : Nat) (h : 128 ≤ r) : ∀ b ∈ encodeRune r, 128 ≤ b := by
  unfold encodeRune
  rw [if_neg (by omega)]
  repeat' split
  all_goals simp; try omega

theorem encodeRune_ascii (r : Nat) (h : r < 128) : encodeRune r = [r] := by
  simp [encodeRune, h]

theorem runes_ascii_prefix : ∀ (a : List Nat), (∀ b ∈ a, b < 128) → ∀ (x : Bytes) (q : List Nat),
    decodeRunes x = a ++ q → ∃ x', x = a ++ x' := by
  intro a
  induction a with
  | nil => intro _ x q _; exact ⟨x, rfl⟩
  | cons c a ih =>
    intro ha x q hx
    cases x with
    | nil => simp [decodeRunes, decodeSyms_nil] at hx
    | cons b t =>
      unfold decodeRunes at hx
      rw [decodeSyms_cons] at hx
      simp only [List.map_cons, List.cons_append, List.cons.injEq] at hx
      have hc : c < 128 := ha c (by simp)
      have hb : b < 128 := by
        by_cases hb : b < 128
        · exact hb
        · have := decode1_nonascii b t (by omega); omega
      rw [decode1_ascii b t hb] at hx
      simp only [List.drop_succ_cons, List.drop_zero] at hx
      obtain ⟨x', hx'⟩ := ih (fun y hy => ha y (by simp [hy])) t q hx.2
      exact ⟨x', by rw [hx', ← hx.1]; rfl⟩

theorem encodeRune_ne_nil (r : Nat) : encodeRune r ≠ [] := by
  unfold encodeRune
  repeat' split
  all_goals simp

/-- Go never decodes a rune above U+10FFFF -/
theorem decodeSyms_rune_le (s : Bytes) : ∀ x ∈ decodeSyms s, x.rune ≤ 1114111 := by
  intro x hx
  rcases decodeSyms_symOK s x hx with ⟨h, _⟩ | ⟨_, _, _, h, _⟩ <;> omega

theorem runes_eq_of_all_ascii (s : Bytes) (h : (decodeSyms s).all (fun x => decide (x.rune < 128)) = true) :
    decodeRunes s = s := by
  induction s using decode_chunks with
  | nil => rfl
  | ascii b t hb ih =>
    simp only [decodeRunes, decodeSyms_cons_ascii b t hb, List.all_cons, Bool.and_eq_true] at h ih ⊢
    simp [ih h.2]
  | wide r p u hw hd _ =>
    have := hw.2.2.1
    simp only [hd, List.all_cons, Bool.and_eq_true, decide_eq_true_eq] at h
    omega

end Utf8
end SafeHtml
