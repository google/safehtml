/- Lemmas about the model of `urlProcessor` (internal/safehtmlutil), over the regenerated case lists. -/
import SafeHtml.Model.UrlUtil
import SafeHtml.Spec.UrlComponents
import SafeHtml.Proofs.Bytes
namespace SafeHtml.Proofs.UrlProc
open SafeHtml SafeHtml.Model SafeHtml.Generated.Tables SafeHtml.Spec.UrlComp

theorem hexDigitLower_isHex (n : Nat) (h : n < 16) : isHexDigit (hexDigitLower n) = true := by
  rcases hexDigitLower_cases n h with ⟨_, e⟩ | ⟨_, e⟩ <;> simp [e, isHexDigit, isDigit] <;> omega

theorem isHex_isAlnum (c : Nat) (h : isHexDigit c = true) : isAlnum c = true := by
  simp only [isHexDigit, isDigit, isAlnum, isAlpha, isLowerAlpha, isUpperAlpha, Bool.or_eq_true, Bool.and_eq_true,
    decide_eq_true_eq] at *
  omega

theorem hexDigitLower_isAlnum (n : Nat) (h : n < 16) : isAlnum (hexDigitLower n) = true :=
  isHex_isAlnum _ (hexDigitLower_isHex n h)

/-- table obligation: an alphanumeric byte is kept in both modes, whatever follows -/
theorem keeps_alnum (norm : Bool) (c : Nat) (r : Bytes) (h : isAlnum c = true) : urlKeeps norm c r = true := by
  simp only [isAlnum, isAlpha, isLowerAlpha, isUpperAlpha, isDigit, Bool.or_eq_true, Bool.and_eq_true,
    decide_eq_true_eq] at h
  have h1 : urlProcNormOnly.contains c = false := by
    simp only [urlProcNormOnly, List.contains_cons, List.contains_nil, Bool.or_false, Bool.or_eq_false_iff, beq_eq_false_iff_ne]
    omega
  have h2 : urlProcAlways.contains c = false := by
    simp only [urlProcAlways, List.contains_cons, List.contains_nil, Bool.or_false, Bool.or_eq_false_iff, beq_eq_false_iff_ne]
    omega
  have h3 : urlProcPercent.contains c = false := by
    simp only [urlProcPercent, List.contains_cons, List.contains_nil, Bool.or_false, beq_eq_false_iff_ne]
    omega
  simp only [urlKeeps, h1, h2, h3, Bool.false_eq_true, if_false, urlProcDefaultRanges, List.any_cons, List.any_nil,
    Bool.or_false, Bool.or_eq_true, Bool.and_eq_true, decide_eq_true_eq]
  omega

/-- table obligation: a kept byte is unreserved, or (when normalising only) one of the reserved
    bytes of `urlProcNormOnly` or a `%` -/
theorem keeps_cases (norm : Bool) (c : Nat) (r : Bytes) (h : urlKeeps norm c r = true) :
    isUnreserved c = true ∨ (norm = true ∧ (c ∈ urlProcNormOnly ∨ c = 37)) := by
  unfold urlKeeps at h
  split at h
  · exact .inr ⟨h, .inl (List.contains_iff_mem.1 ‹_›)⟩
  split at h
  · exact .inl ((by decide : ∀ c ∈ urlProcAlways, isUnreserved c = true) c (List.contains_iff_mem.1 ‹_›))
  split at h
  · exact .inr ⟨(Bool.and_eq_true _ _ ▸ h).1, .inr (by simpa [urlProcPercent] using ‹urlProcPercent.contains c = true›)⟩
  · left
    simp only [urlProcDefaultRanges, List.any_cons, List.any_nil, Bool.or_false, Bool.or_eq_true, Bool.and_eq_true,
      decide_eq_true_eq] at h
    simp only [isUnreserved, isAlnum, isAlpha, isLowerAlpha, isUpperAlpha, isDigit, Bool.or_eq_true, Bool.and_eq_true,
      decide_eq_true_eq, beq_iff_eq]
    omega

theorem keeps_query (c : Nat) (r : Bytes) (h : urlKeeps false c r = true) : isUnreserved c = true ∧ c ≠ 37 := by
  rcases keeps_cases false c r h with hu | ⟨hn, _⟩
  · exact ⟨hu, fun e => by subst e; exact absurd hu (by decide)⟩
  · exact absurd hn (by decide)

/-- the bytes `normalizeURL` may emit (property text: no quotes, backquotes, angle brackets, spaces, controls, backslashes, non-ASCII) -/
def normOk (c : Nat) : Bool :=
  32 < c && c < 127 && c != 34 && c != 39 && c != 60 && c != 62 && c != 92 && c != 96

theorem normOk_unreserved (c : Nat) (h : isUnreserved c = true) : normOk c = true := by
  simp only [isUnreserved, isAlnum, isAlpha, isLowerAlpha, isUpperAlpha, isDigit, Bool.or_eq_true, Bool.and_eq_true,
    decide_eq_true_eq, beq_iff_eq] at h
  simp only [normOk, Bool.and_eq_true, decide_eq_true_eq, bne_iff_ne]
  omega

theorem keeps_norm (c : Nat) (r : Bytes) (h : urlKeeps true c r = true) : normOk c = true := by
  rcases keeps_cases true c r h with hu | ⟨_, hm | rfl⟩
  · exact normOk_unreserved c hu
  · exact (by decide : ∀ c ∈ urlProcNormOnly, normOk c = true) c hm
  · decide

/-- table obligation: `%` is kept when normalising iff two hex digits follow -/
theorem keeps_pct (r : Bytes) :
    urlKeeps true 37 r = (match r with | a :: b :: _ => isHexDigit a && isHexDigit b | _ => false) := by
  rcases r with _ | ⟨a, _ | ⟨b, u⟩⟩ <;> simp [urlKeeps, urlProcNormOnly, urlProcAlways, urlProcPercent]

theorem keeps_indep (norm : Bool) (c : Nat) (r r' : Bytes) (h : c ≠ 37) : urlKeeps norm c r = urlKeeps norm c r' := by
  unfold urlKeeps
  have h3 : urlProcPercent.contains c = false := by
    simp only [urlProcPercent, List.contains_cons, List.contains_nil, Bool.or_false, beq_eq_false_iff_ne]; exact h
  simp only [h3, Bool.false_eq_true, if_false]

theorem proc_cons (norm : Bool) (c : Nat) (t : Bytes) :
    urlProcessor norm (c :: t) = (if urlKeeps norm c t then [c] else pctEncode c) ++ urlProcessor norm t := rfl

theorem pct_lt (c : Nat) : c / 16 % 16 < 16 ∧ c % 16 < 16 := by omega

/-! ### both modes -/

/-- every output byte is a kept input byte, a `%`, or a lower-case hex digit -/
theorem proc_bytes (norm : Bool) (P : Nat → Prop) (hk : ∀ c r, urlKeeps norm c r = true → P c) (h37 : P 37)
    (hx : ∀ n, n < 16 → P (hexDigitLower n)) : ∀ s, ∀ b ∈ urlProcessor norm s, P b := by
  intro s
  induction s with
  | nil => simp [urlProcessor]
  | cons c t ih =>
    intro b hb
    rw [proc_cons] at hb
    rcases List.mem_append.mp hb with hb | hb
    · split at hb
      · rw [List.mem_singleton.1 hb]; exact hk c t ‹_›
      · have := pct_lt c
        simp only [pctEncode, List.mem_cons, List.not_mem_nil, or_false] at hb
        rcases hb with rfl | rfl | rfl
        · exact h37
        · exact hx _ this.1
        · exact hx _ this.2
    · exact ih b hb

/-! ### queryEscapeURL -/

theorem query_bytes (s : Bytes) : ∀ b ∈ queryEscapeURL s, isUnreserved b = true ∨ b = 37 :=
  proc_bytes false _ (fun c r h => .inl (keeps_query c r h).1) (.inr rfl)
    (fun n h => .inl (by simp [isUnreserved, hexDigitLower_isAlnum n h])) s

theorem uop_cons_ne (c : Nat) (t : Bytes) (h : c ≠ 37) :
    unreservedOrPct (c :: t) = (isUnreserved c && unreservedOrPct t) := by
  conv => lhs; unfold unreservedOrPct
  simp [h]

theorem uop_pct (a b : Nat) (u : Bytes) :
    unreservedOrPct (37 :: a :: b :: u) = (isHexDigit a && isHexDigit b && unreservedOrPct u) := by
  conv => lhs; unfold unreservedOrPct
  simp

theorem query_unreservedOrPct (s : Bytes) : unreservedOrPct (queryEscapeURL s) = true := by
  unfold queryEscapeURL
  induction s with
  | nil => simp [urlProcessor, unreservedOrPct]
  | cons c t ih =>
    rw [proc_cons]
    by_cases hk : urlKeeps false c t = true
    · have := keeps_query c t hk
      simp only [hk, if_true, List.singleton_append]
      rw [uop_cons_ne c _ this.2, this.1, ih]; rfl
    · have hl := pct_lt c
      simp only [hk, Bool.false_eq_true, if_false, pctEncode, List.cons_append, List.nil_append]
      rw [uop_pct, hexDigitLower_isHex _ hl.1, hexDigitLower_isHex _ hl.2, ih]; rfl

/-! ### normalizeURL -/

theorem norm_bytes (s : Bytes) : ∀ b ∈ normalizeURL s, normOk b = true :=
  proc_bytes true _ keeps_norm (by decide)
    (fun n h => normOk_unreserved _ (by simp [isUnreserved, hexDigitLower_isAlnum n h])) s

theorem proc_hex2 (norm : Bool) (a b : Nat) (u : Bytes) (ha : isHexDigit a = true) (hb : isHexDigit b = true) :
    urlProcessor norm (a :: b :: u) = a :: b :: urlProcessor norm u := by
  rw [proc_cons, proc_cons, keeps_alnum norm a _ (isHex_isAlnum a ha), keeps_alnum norm b _ (isHex_isAlnum b hb)]
  rfl

theorem norm_keeps_escape (pre post : Bytes) (a b : Nat) (ha : isHexDigit a = true) (hb : isHexDigit b = true) :
    ∃ X, normalizeURL (pre ++ 37 :: a :: b :: post) = X ++ 37 :: a :: b :: normalizeURL post := by
  unfold normalizeURL
  induction pre with
  | nil =>
    refine ⟨[], ?_⟩
    rw [List.nil_append, proc_cons, keeps_pct]
    simp only [ha, hb, Bool.and_self, if_true, List.nil_append, List.singleton_append]
    rw [proc_hex2 true a b post ha hb]
  | cons c t ih =>
    obtain ⟨X, hX⟩ := ih
    rw [List.cons_append, proc_cons, hX]
    exact ⟨(if urlKeeps true c (t ++ 37 :: a :: b :: post) = true then [c] else pctEncode c) ++ X, by simp⟩

theorem norm_idem (s : Bytes) : normalizeURL (normalizeURL s) = normalizeURL s := by
  unfold normalizeURL
  induction s with
  | nil => simp [urlProcessor]
  | cons c t ih =>
    rw [proc_cons]
    by_cases hk : urlKeeps true c t = true
    · simp only [hk, if_true, List.singleton_append]
      rw [proc_cons, ih]
      have : urlKeeps true c (urlProcessor true t) = true := by
        by_cases hc : c = 37
        · subst hc
          rw [keeps_pct] at hk
          match t, hk with
          | a :: b :: u, hk =>
            simp only [Bool.and_eq_true] at hk
            rw [proc_hex2 true a b u hk.1 hk.2, keeps_pct]
            simp [hk.1, hk.2]
        · rw [keeps_indep true c _ t hc]; exact hk
      simp [this]
    · have hl := pct_lt c
      have h1 := hexDigitLower_isHex _ hl.1
      have h2 := hexDigitLower_isHex _ hl.2
      simp only [hk, Bool.false_eq_true, if_false, pctEncode, List.cons_append, List.nil_append]
      rw [proc_cons, keeps_pct]
      simp only [h1, h2, Bool.and_self, if_true, List.singleton_append]
      rw [proc_hex2 true _ _ _ h1 h2, ih]

theorem proc_head (norm : Bool) (t : Bytes) (a : Nat) (rest : Bytes) (ha : a ≠ 37)
    (h : urlProcessor norm t = a :: rest) : ∃ t', t = a :: t' ∧ rest = urlProcessor norm t' := by
  cases t with
  | nil => simp [urlProcessor] at h
  | cons c t' =>
    simp only [urlProcessor] at h
    split at h
    · simp only [List.cons_append, List.nil_append, List.cons.injEq] at h
      exact ⟨t', by rw [h.1], h.2.symm⟩
    · simp only [pctEncode, List.cons_append, List.cons.injEq] at h
      exact absurd h.1.symm ha

theorem proc_prefix (norm : Bool) : ∀ (p : Bytes) (t rest : Bytes), (∀ b ∈ p, b ≠ 37) →
    urlProcessor norm t = p ++ rest → ∃ t', t = p ++ t' ∧ rest = urlProcessor norm t'
  | [], t, rest, _, h => ⟨t, rfl, h.symm⟩
  | a :: p, t, rest, hp, h => by
    obtain ⟨t1, rfl, h1⟩ := proc_head norm t a (p ++ rest) (hp a (by simp)) h
    obtain ⟨t2, rfl, h2⟩ := proc_prefix norm p t1 rest (fun b hb => hp b (by simp [hb])) h1.symm
    exact ⟨t2, rfl, h2⟩

end SafeHtml.Proofs.UrlProc
