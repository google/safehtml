/-
Abstract model of concurrent calls on one template set (C09).

Every call of the concurrent API has the shape the source has (regenerated LockFacts, Props/C09.lean):

    lock mu;  critical section: reads and writes the shared state;  unlock mu;
    unlocked phase: only READS shared state (text/template execution of committed trees) and produces the result.

Because all critical sections take the same mutex they are atomic with respect to each other, so a schedule is a
sequence of events "thread i runs the critical section of its next call" / "thread i runs the unlocked phase of the
call whose critical section it ran last". The unlocked phase of a call may be delayed past any number of critical
sections of other threads.
-/
namespace SafeHtml.Model.Conc

structure Call (S R1 R : Type) where
  /-- the critical section: new shared state and what the call remembers (e.g. which template to execute) -/
  crit : S → S × R1
  /-- the unlocked phase: reads the shared state as it is when the phase runs -/
  post : S → R1 → R

inductive Ev where
  | crit (i : Nat)
  | post (i : Nat)
  deriving DecidableEq, Repr

structure Thr (S R1 R : Type) where
  todo : List (Call S R1 R)
  pending : Option (Call S R1 R × R1) := none
  done : List R := []

structure Sys (S R1 R : Type) where
  s : S
  thr : List (Thr S R1 R)

variable {S R1 R : Type}

def setThr (l : List (Thr S R1 R)) (i : Nat) (t : Thr S R1 R) : List (Thr S R1 R) := l.set i t

/-- concurrent semantics: events that are not enabled are ignored -/
def step (y : Sys S R1 R) : Ev → Sys S R1 R
  | .crit i =>
    match y.thr[i]? with
    | some t =>
      match t.pending, t.todo with
      | none, c :: rest =>
        let r := c.crit y.s
        { s := r.1, thr := y.thr.set i { t with todo := rest, pending := some (c, r.2) } }
      | _, _ => y
    | none => y
  | .post i =>
    match y.thr[i]? with
    | some t =>
      match t.pending with
      | some (c, r1) => { y with thr := y.thr.set i { t with pending := none, done := t.done ++ [c.post y.s r1] } }
      | none => y
    | none => y

/-- serial semantics: the whole call runs at the moment of its critical section ("one after another") -/
def stepSerial (y : Sys S R1 R) : Ev → Sys S R1 R
  | .crit i =>
    match y.thr[i]? with
    | some t =>
      match t.pending, t.todo with
      | none, c :: rest =>
        let r := c.crit y.s
        { s := r.1, thr := y.thr.set i { t with todo := rest, pending := some (c, r.2), done := t.done ++ [c.post r.1 r.2] } }
      | _, _ => y
    | none => y
  | .post i =>
    match y.thr[i]? with
    | some t =>
      match t.pending with
      | some _ => { y with thr := y.thr.set i { t with pending := none } }
      | none => y
    | none => y

def run (y : Sys S R1 R) (evs : List Ev) : Sys S R1 R := evs.foldl step y
def runSerial (y : Sys S R1 R) (evs : List Ev) : Sys S R1 R := evs.foldl stepSerial y

/-- what the unlocked phases may rely on -/
structure Stable (U : Call S R1 R → Prop) (Inv : S → Prop) (Done : Call S R1 R → R1 → S → Prop) : Prop where
  inv_crit : ∀ c s, U c → Inv s → Inv (c.crit s).1
  done_est : ∀ c s, U c → Inv s → Done c (c.crit s).2 (c.crit s).1
  done_pres : ∀ c r d s, U c → U d → Inv s → Done c r s → Done c r (d.crit s).1
  post_stable : ∀ c r d s, U c → U d → Inv s → Done c r s → c.post (d.crit s).1 r = c.post s r

/-- relation between the concurrent and the serial run after the same events -/
structure RelThr (U : Call S R1 R → Prop) (Done : Call S R1 R → R1 → S → Prop) (s : S)
    (a b : Thr S R1 R) : Prop where
  todo : a.todo = b.todo
  pending : a.pending = b.pending
  univ : (∀ c ∈ a.todo, U c) ∧ (∀ c r, a.pending = some (c, r) → U c)
  done : b.done = a.done ++ (match a.pending with | some (c, r1) => [c.post s r1] | none => [])
  isDone : ∀ c r, a.pending = some (c, r) → Done c r s

def Rel (U : Call S R1 R → Prop) (Inv : S → Prop) (Done : Call S R1 R → R1 → S → Prop)
    (a b : Sys S R1 R) : Prop :=
  a.s = b.s ∧ Inv a.s ∧ a.thr.length = b.thr.length ∧
    ∀ (i : Nat) (ta tb : Thr S R1 R), a.thr[i]? = some ta → b.thr[i]? = some tb → RelThr U Done a.s ta tb

theorem Rel.thread {U : Call S R1 R → Prop} {Inv : S → Prop} {Done : Call S R1 R → R1 → S → Prop}
    {a b : Sys S R1 R} (h : Rel U Inv Done a b) (i : Nat) :
    (a.thr[i]? = none ∧ b.thr[i]? = none) ∨
      ∃ ta tb, a.thr[i]? = some ta ∧ b.thr[i]? = some tb ∧ i < a.thr.length ∧ RelThr U Done a.s ta tb := by
  obtain ⟨_, _, hlen, hthr⟩ := h
  by_cases hi : i < a.thr.length
  · have ha := List.getElem?_eq_getElem hi
    have hb := List.getElem?_eq_getElem (l := b.thr) (i := i) (by omega)
    exact .inr ⟨_, _, ha, hb, hi, hthr i _ _ ha hb⟩
  · exact .inl ⟨List.getElem?_eq_none (by omega), List.getElem?_eq_none (by omega)⟩

theorem relThr_set {U : Call S R1 R → Prop} {Done : Call S R1 R → R1 → S → Prop}
    {la lb : List (Thr S R1 R)} {s s' : S} {i : Nat} {ta' tb' : Thr S R1 R}
    (hlen : la.length = lb.length) (hi : i < la.length)
    (hthr : ∀ (j : Nat) ta tb, la[j]? = some ta → lb[j]? = some tb → RelThr U Done s ta tb)
    (hnew : RelThr U Done s' ta' tb')
    (hold : ∀ ta tb, RelThr U Done s ta tb → RelThr U Done s' ta tb) :
    ∀ (j : Nat) ta tb, (la.set i ta')[j]? = some ta → (lb.set i tb')[j]? = some tb → RelThr U Done s' ta tb := by
  intro j ta tb hja hjb
  by_cases hij : i = j
  · subst hij
    rw [List.getElem?_set_self hi] at hja
    rw [List.getElem?_set_self (by omega)] at hjb
    cases hja; cases hjb; exact hnew
  · rw [List.getElem?_set_ne hij] at hja hjb
    exact hold _ _ (hthr j _ _ hja hjb)

theorem rel_step {U : Call S R1 R → Prop} {Inv : S → Prop} {Done : Call S R1 R → R1 → S → Prop}
    (hst : Stable U Inv Done) (a b : Sys S R1 R) (h : Rel U Inv Done a b) (e : Ev) :
    Rel U Inv Done (step a e) (stepSerial b e) := by
  obtain ⟨hs, hinv, hlen, hthr⟩ := id h
  cases e with
  | crit i =>
    simp only [step, stepSerial]
    rcases h.thread i with ⟨hai, hbi⟩ | ⟨ta, tb, hai, hbi, hil, hr⟩ <;> simp only [hai, hbi]
    · exact h
    rw [← hr.pending, ← hr.todo]
    cases hp : ta.pending with
    | some p => exact h
    | none =>
      cases ht : ta.todo with
      | nil => exact h
      | cons c rest =>
        simp only
        have hUc : U c := hr.univ.1 c (by rw [ht]; simp)
        refine ⟨by rw [hs], hst.inv_crit c a.s hUc hinv, by simp [hlen], relThr_set hlen hil hthr ?_ ?_⟩
        · -- the stepping thread: its call is now pending, with the result the serial run has appended
          refine ⟨rfl, by rw [hs], ⟨fun d hd => hr.univ.1 d (by rw [ht]; simp [hd]), fun d r hdr => by cases hdr; exact hUc⟩,
            ?_, fun d r hdr => by cases hdr; exact hst.done_est c a.s hUc hinv⟩
          have := hr.done
          rw [hp, List.append_nil] at this
          simp only [this, hs]
        · -- the others: an outstanding result is not changed by this critical section
          intro ta' tb' hr'
          refine ⟨hr'.todo, hr'.pending, hr'.univ, ?_,
            fun d r hdr => hst.done_pres d r c a.s (hr'.univ.2 d r hdr) hUc hinv (hr'.isDone d r hdr)⟩
          rw [hr'.done]
          cases hp' : ta'.pending with
          | none => rfl
          | some p =>
            obtain ⟨d, r⟩ := p
            simp only
            rw [hst.post_stable d r c a.s (hr'.univ.2 d r hp') hUc hinv (hr'.isDone d r hp')]
  | post i =>
    simp only [step, stepSerial]
    rcases h.thread i with ⟨hai, hbi⟩ | ⟨ta, tb, hai, hbi, hil, hr⟩ <;> simp only [hai, hbi]
    · exact h
    rw [← hr.pending]
    cases hp : ta.pending with
    | none => exact h
    | some p =>
      obtain ⟨c, r1⟩ := p
      simp only
      refine ⟨hs, hinv, by simp [hlen], relThr_set hlen hil hthr ?_ fun _ _ hr' => hr'⟩
      refine ⟨hr.todo, rfl, ⟨hr.univ.1, fun d r hdr => by cases hdr⟩, ?_, fun d r hdr => by cases hdr⟩
      have := hr.done
      rw [hp] at this
      simp only [this, List.append_nil]

/-- Serializability (C09). Under the stability conditions, after ANY schedule the shared state is the one of the
    serial run (each call executed completely at the moment of its critical section), and every thread has
    obtained exactly the results of the serial run, except that the result of a call whose unlocked phase has
    not run yet is still outstanding — and will be the serial one whenever it runs. -/
theorem serializable {U : Call S R1 R → Prop} {Inv : S → Prop} {Done : Call S R1 R → R1 → S → Prop}
    (hst : Stable U Inv Done) (y : Sys S R1 R) (hinv : Inv y.s)
    (hfresh : ∀ t ∈ y.thr, t.pending = none ∧ t.done = [] ∧ ∀ c ∈ t.todo, U c) (evs : List Ev) :
    Rel U Inv Done (run y evs) (runSerial y evs) := by
  have h0 : Rel U Inv Done y y := by
    refine ⟨rfl, hinv, rfl, ?_⟩
    intro i ta tb ha hb
    rw [ha] at hb; cases hb
    have hm := hfresh ta (List.mem_of_getElem? ha)
    exact ⟨rfl, rfl, ⟨hm.2.2, fun c r h => by rw [hm.1] at h; cases h⟩, by rw [hm.1]; simp, fun c r h => by rw [hm.1] at h; cases h⟩
  suffices ∀ (a b : Sys S R1 R), Rel U Inv Done a b → Rel U Inv Done (run a evs) (runSerial b evs) from this y y h0
  induction evs with
  | nil => intro a b h; exact h
  | cons e es ih =>
    intro a b h
    exact ih _ _ (rel_step hst a b h e)

/-- when no call is outstanding, every thread has exactly the serial results -/
theorem serializable_results {U : Call S R1 R → Prop} {Inv : S → Prop} {Done : Call S R1 R → R1 → S → Prop}
    (hst : Stable U Inv Done) (y : Sys S R1 R) (hinv : Inv y.s)
    (hfresh : ∀ t ∈ y.thr, t.pending = none ∧ t.done = [] ∧ ∀ c ∈ t.todo, U c) (evs : List Ev)
    (i : Nat) (ta tb : Thr S R1 R) (ha : (run y evs).thr[i]? = some ta) (hb : (runSerial y evs).thr[i]? = some tb)
    (hidle : ta.pending = none) : ta.done = tb.done ∧ (run y evs).s = (runSerial y evs).s := by
  obtain ⟨hs, _, _, hthr⟩ := serializable hst y hinv hfresh evs
  have := (hthr i ta tb ha hb).done
  rw [hidle] at this
  simp only [List.append_nil] at this
  exact ⟨this.symm, hs⟩

end SafeHtml.Model.Conc
