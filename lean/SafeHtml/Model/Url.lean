/- Model of url.go: URLSanitized / isSafeURL. `strings.ToLower` is a parameter-free model:
   per-rune lowering through `lowerRuneAsciiImage`, which the harness validates against the real
   `strings.ToLower` (see Spec note in Props/C11). -/
import SafeHtml.Generated.Regexes
import SafeHtml.Generated.Tables
namespace SafeHtml.Model
open SafeHtml SafeHtml.Generated.Regexes

/-- the only non-ASCII runes whose Go lower-case form is ASCII: U+0130 'İ' ↦ 'i', U+212A 'K' ↦ 'k'.
    Everything else ≥ 128 stays ≥ 128 (validated exhaustively over all runes by the harness). -/
def lowerRuneAsciiImage (r : Nat) : Option Nat :=
  if r = 0x130 then some 105 else if r = 0x212A then some 107 else none

/-- What `isSafeURL` needs from `strings.ToLower`: the string with ASCII upper-case lowered and the two
    special runes mapped to ASCII; other non-ASCII runes are kept (their exact lower-case form is
    irrelevant to `safeURLPattern`, see `Props/C11`). Invalid bytes become U+FFFD. -/
def toLowerForScheme (s : Bytes) : Bytes :=
  (Utf8.decodeSyms s).flatMap fun x =>
    if x.rune < 128 then [asciiLower x.rune]
    else match lowerRuneAsciiImage x.rune with
      | some a => [a]
      | none => Utf8.encodeRune x.rune

def jsScheme : Bytes := [106, 97, 118, 97, 115, 99, 114, 105, 112, 116]

def isSafeURL (url : Bytes) : Bool :=
  match Rx.findSubmatch safehtml_safeURLPattern safehtml_safeURLPattern_ncap (toLowerForScheme url) with
  | none => false
  | some [_, some sch] => sch != jsScheme
  | some [_, none] => true   -- Go: submatches[1] == "" ≠ "javascript"
  | some _ => false

def urlSanitized (url : Bytes) : Bytes :=
  if isSafeURL url then url else Generated.Tables.innocuousURL

end SafeHtml.Model
