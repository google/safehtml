/-
C12 — `URLSetSanitized` keeps only safe image candidates under the WHATWG srcset parser (`Spec.Srcset.candidates`).
`Model.isSafeURL` ("URLSanitized leaves u unchanged", C11) and `parseFloatOk` (`strconv.ParseFloat(·,64) == nil`)
are used as opaque functions: all that is needed of them is `isSafeURL InnocuousURL`, `SafeStable isSafeURL`
(Proofs/UrlSetSafe) and `PfAlphabet parseFloatOk` (Proofs/UrlSetFloat); the `_of_stable` forms take these as
hypotheses and hold for any URL predicate. The proofs are in Proofs/UrlSet.
-/
import SafeHtml.Proofs.UrlSetSafe
import SafeHtml.Proofs.UrlSetFloat
namespace SafeHtml.Props.C12
open SafeHtml SafeHtml.Model SafeHtml.Model.UrlSet SafeHtml.Spec.Srcset SafeHtml.Proofs.UrlSet

/-! ### obligations on regenerated data -/

/-- the regenerated `asciiWhitespace` table is the standard's ASCII whitespace (TAB LF FF CR SPACE) -/
theorem tbl_asciiWhitespace (b : Nat) : inTable asciiWhitespace b = isAsciiWhitespace b :=
  table_asciiWhitespace b

/-- the regenerated `srcsetMetachars` table is ASCII whitespace plus the comma -/
theorem tbl_srcsetMetachars (b : Nat) : inTable srcsetMetachars b = (isAsciiWhitespace b || b == 44) :=
  table_srcsetMetachars b

/-- the regenerated `InnocuousURL` is accepted by (the model of) `isSafeURL` -/
theorem innocuous_safe : isSafeURL Generated.Tables.innocuousURL = true := by decide

/-- `parseFloatOk` accepts only strings over `[0-9A-Za-z+-._]` (in particular no parenthesis) -/
theorem pf_alphabet : PfAlphabet parseFloatOk := parseFloatOk_alphabet

/-- writing an edge comma as `%2c` keeps a URL accepted by `isSafeURL` accepted -/
theorem safe_stable : SafeStable isSafeURL := isSafeURL_stable

/-- `orBit5` is Go's `c | 32` on bytes -/
theorem orBit5_eq_lor : ∀ c, c < 256 → orBit5 c = c ||| 32 := by decide +kernel

/-! ### the property -/

/-- C12, clause 1. Every image candidate that the WHATWG algorithm finds in `URLSetSanitized(s)` has a URL that
    `URLSanitized` leaves unchanged, and no descriptor or exactly one descriptor that is a number (as
    `strconv.ParseFloat` accepts) followed by at most one ASCII letter. -/
theorem C12_safe (s : Bytes) :
    ∀ c ∈ candidates (urlSetSanitized s),
      isSafeURL c.1 = true ∧ (c.2 = [] ∨ ∃ m, c.2 = [m] ∧ m ≠ [] ∧ MetaOk parseFloatOk m) :=
  safe_generic isSafeURL parseFloatOk innocuous_safe isSafeURL_stable parseFloatOk_alphabet s

theorem C12_safe_of_stable (safe pf : Bytes → Bool) (hI : safe Generated.Tables.innocuousURL = true)
    (hS : SafeStable safe) (hpf : PfAlphabet pf) (s : Bytes) :
    ∀ c ∈ candidates (urlSetSanitizedWith safe pf s),
      safe c.1 = true ∧ (c.2 = [] ∨ ∃ m, c.2 = [m] ∧ m ≠ [] ∧ MetaOk pf m) :=
  safe_generic safe pf hI hS hpf s

/-- C12, key lemma. On everything the sanitizer writes, the WHATWG candidate collection and the Go scanner
    segment identically: both find exactly the written (url, metadata) pairs. -/
theorem C12_same_segmentation (l : List Seg) (hl : l ≠ []) (hg : ∀ y ∈ l, Good y ∧ ∀ b ∈ y.2, b ≠ 40) :
    candidates (render l) = l.map (fun y => (y.1, descOf y.2)) ∧
    scan ((render l).length + 1) (render l) = l := by
  refine ⟨candidates_render l hg, ?_⟩
  cases l with
  | nil => exact absurd rfl hl
  | cons x r => exact scan_render x r (fun y hy => (hg y hy).1)

/-- C12, clause 2. The result is the rendering `u₁[ m₁] , u₂[ m₂] …` (or `InnocuousURL` if none) of a `filterMap`,
    hence in order, of the scanner's segmentation of `s`; a pair is kept iff its URL is non-empty and safe and its
    metadata well formed; the metadata is copied and the URL is copied except that a leading / trailing comma
    is written as `%2c`. -/
theorem C12_sublist (s : Bytes) :
    ∃ segs : List Seg, Segmentation s segs ∧
      urlSetSanitized s = output (segs.filterMap (keep isSafeURL parseFloatOk)) ∧
      (∀ seg x, keep isSafeURL parseFloatOk seg = some x →
        seg.1 ≠ [] ∧ isSafeURL seg.1 = true ∧ isOptionalSrcMetadataWellFormed seg.2 = true ∧ x.2 = seg.2 ∧
        ∃ lead core trail, seg.1 = lead ++ core ++ trail ∧ (lead = [] ∨ lead = [44]) ∧ (trail = [] ∨ trail = [44]) ∧
          x.1 = encComma lead ++ core ++ encComma trail) := by
  obtain ⟨segs, h1, h2⟩ := sublist_generic isSafeURL parseFloatOk s
  refine ⟨segs, h1, h2, ?_⟩
  intro seg x hk
  obtain ⟨hx, a, b, c⟩ := keep_eq_some _ _ seg x hk
  obtain ⟨lead, core, trail, d1, d2, d3, d4, _, _⟩ := appendURLToSet_spec seg.1 a
  exact ⟨a, b, c, by rw [hx], lead, core, trail, d1, d2, d3, by rw [hx]; exact d4⟩

/-- C12, clause 3. When no candidate survives the result is exactly `about:invalid#zGoSafez`. -/
theorem C12_innocuous (s : Bytes) (h : kept isSafeURL parseFloatOk s = []) :
    urlSetSanitized s = Generated.Tables.innocuousURL := by
  unfold urlSetSanitized
  rw [urlSetSanitizedWith_eq, output, if_pos h]

/-- … and otherwise it is the non-empty rendering of the kept pairs. -/
theorem C12_not_innocuous (s : Bytes) (h : kept isSafeURL parseFloatOk s ≠ []) :
    urlSetSanitized s = render (kept isSafeURL parseFloatOk s) ∧ urlSetSanitized s ≠ [] := by
  unfold urlSetSanitized
  rw [urlSetSanitizedWith_eq, output, if_neg h]
  exact ⟨rfl, render_ne_nil _ h (kept_good _ _ s)⟩

/-- C12, clause 4. Sanitizing an already sanitized value changes nothing. -/
theorem C12_idempotent (s : Bytes) :
    urlSetSanitized (urlSetSanitized s) = urlSetSanitized s :=
  idempotent_generic isSafeURL parseFloatOk innocuous_safe isSafeURL_stable s

theorem C12_idempotent_of_stable (safe pf : Bytes → Bool) (hI : safe Generated.Tables.innocuousURL = true)
    (hS : SafeStable safe) (s : Bytes) :
    urlSetSanitizedWith safe pf (urlSetSanitizedWith safe pf s) = urlSetSanitizedWith safe pf s :=
  idempotent_generic safe pf hI hS s

/-- stability is really needed: for a URL predicate that is not stable (here: "contains no `%`"), the sanitizer is not
    idempotent and emits a URL the predicate rejects ("," ↦ "%2c" ↦ about:invalid#zGoSafez) -/
example : let safe : Bytes → Bool := fun u => !u.contains 37
    urlSetSanitizedWith safe parseFloatOk (urlSetSanitizedWith safe parseFloatOk [44]) ≠
      urlSetSanitizedWith safe parseFloatOk [44] := by decide +kernel

/-! ### Non-vacuity -/
-- "a 1x,b 2x"
example : urlSetSanitized [97, 32, 49, 120, 44, 98, 32, 50, 120] = [97, 32, 49, 120, 32, 44, 32, 98, 32, 50, 120] := by decide +kernel
-- ",a," ↦ "%2ca%2c"
example : urlSetSanitized [44, 97, 44] = [37, 50, 99, 97, 37, 50, 99] := by decide +kernel
-- "a,b" is one URL for both parsers
example : candidates [97, 44, 98] = [([97, 44, 98], [])] := by decide +kernel
-- "a (b , c" : the parenthesis state swallows the separator
example : candidates [97, 32, 40, 98, 32, 44, 32, 99] = [([97], [[40, 98, 32, 44, 32, 99]])] := by decide +kernel
-- "a, b 1x" : a trailing comma ends the URL
example : candidates [97, 44, 32, 98, 32, 49, 120] = [([97], []), ([98], [[49, 120]])] := by decide +kernel
-- "j:x 1x" with j = javascript is dropped; "a (" is dropped
example : urlSetSanitized [97, 32, 40] = Generated.Tables.innocuousURL := by decide +kernel
-- "a 1e309x" (out of range) is dropped, "a 0x1p-2w" is kept
example : parseFloatOk [49, 101, 51, 48, 57] = false := by decide +kernel
example : isOptionalSrcMetadataWellFormed [48, 120, 49, 112, 45, 50, 119] = true := by decide +kernel

/-! ### the transcription of the WHATWG algorithm, checked on examples -/
-- ' ,, a.png,,, b 1x (foo' : leading commas skipped, all trailing commas stripped, unclosed parenthesis runs to the end
example : candidates [32, 44, 44, 32, 97, 46, 112, 110, 103, 44, 44, 44, 32, 98, 32, 49, 120, 32, 40, 102, 111, 111] = [([97, 46, 112, 110, 103], []), ([98], [[49, 120], [40, 102, 111, 111]])] := by decide +kernel
-- 'a, b 2x (c, d) e ,f' : a parenthesised descriptor keeps its comma and space
example : candidates [97, 44, 32, 98, 32, 50, 120, 32, 40, 99, 44, 32, 100, 41, 32, 101, 32, 44, 102] = [([97], []), ([98], [[50, 120], [40, 99, 44, 32, 100, 41], [101]]), ([102], [])] := by decide +kernel
-- 'a b c , d' : after-descriptor state: comma after whitespace ends the candidate
example : candidates [97, 32, 98, 32, 99, 32, 44, 32, 100] = [([97], [[98], [99]]), ([100], [])] := by decide +kernel
-- 'a\x0c1x\t,\nb' : FF TAB LF are whitespace
example : candidates [97, 12, 49, 120, 9, 44, 10, 98] = [([97], [[49, 120]]), ([98], [])] := by decide +kernel
-- '' : empty
example : candidates [] = [] := by decide +kernel
-- ' , ' : only separators
example : candidates [32, 44, 32] = [] := by decide +kernel

end SafeHtml.Props.C12
