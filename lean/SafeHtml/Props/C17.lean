/-
C17 — ScriptFromDataAndConstant embeds data as an inert, round-tripping JSON literal.
Property statements, the Rx obligation, which trees `json.Marshal` refuses (`unencodable`, `marshal_none_iff`)
and non-vacuity examples; the lemmas about the model of encoding/json are in Proofs/GoJson.lean and
Proofs/JsonRoundtrip.lean.
-/
import SafeHtml.Model.Script
import SafeHtml.Oracle.C17
import SafeHtml.Proofs.Tactics
import SafeHtml.Proofs.RxAscii
import SafeHtml.Proofs.GoJson
import SafeHtml.Proofs.JsonRoundtrip
namespace SafeHtml.Props.C17
open SafeHtml SafeHtml.Rx SafeHtml.Model SafeHtml.Model.GoJson SafeHtml.Generated.Regexes

/-- `[$_A-Za-z]` -/
def isJsStart (c : Nat) : Bool := c == 36 || c == 95 || isAlpha c
/-- `[$_A-Za-z0-9]` -/
def isJsPart (c : Nat) : Bool := isJsStart c || isDigit c

/-- what `jsIdentifierPattern` accepts: an ASCII identifier of at least two characters -/
def jsIdent : Bytes → Bool
  | c :: d :: t => isJsStart c && isJsPart d && t.all isJsPart
  | _ => false

/-- ASCII identifier `[$_A-Za-z][$_A-Za-z0-9]*` (the property's "ASCII identifier") -/
def asciiIdent : Bytes → Bool
  | [] => false
  | c :: t => isJsStart c && t.all isJsPart

/-! ### Rx obligation: the regenerated regex means what the statement says -/

theorem rx_jsIdentifier (s : Bytes) : matchString safehtml_jsIdentifierPattern s = jsIdent s := by
  unfold safehtml_jsIdentifierPattern
  rw [match_bot_cls_plus_eot_bytes _ _ (by decide) (by decide)]
  have e1 : ∀ b, inCls [(36, 36), (65, 90), (95, 95), (97, 122)] b = isJsStart b := by
    intro b
    simp only [inCls, List.any, isJsStart, isAlpha, isLowerAlpha, isUpperAlpha, Bool.or_false]
    cls_arith
  have e2 : ∀ b, inCls [(36, 36), (48, 57), (65, 90), (95, 95), (97, 122)] b = isJsPart b := by
    intro b
    simp only [inCls, List.any, isJsPart, isJsStart, isDigit, isAlpha, isLowerAlpha, isUpperAlpha, Bool.or_false]
    cls_arith
  match s with
  | [] => rfl
  | [_] => rfl
  | c :: d :: t =>
    simp only [jsIdent, e1, e2]
    congr 1
    exact congrArg _ (funext e2)

/-- every accepted name is an ASCII identifier (so: a name that is not an ASCII identifier is rejected) -/
theorem jsIdent_asciiIdent (s : Bytes) (h : jsIdent s = true) : asciiIdent s = true := by
  match s with
  | [] => simp [jsIdent] at h
  | [_] => simp [jsIdent] at h
  | c :: d :: t =>
    simp only [jsIdent, Bool.and_eq_true] at h
    simp [asciiIdent, h.1.1, h.1.2, h.2]

/-! ### Property theorems -/

/-- Frame: a successful call returns exactly `var name = J;\nscript` with `J` the JSON encoding
    of the data, and the name is an ASCII identifier. -/
theorem C17_frame (name script r : Bytes) (v : JVal)
    (h : scriptFromDataAndConstant name v script = .ok r) :
    ∃ J, marshal v = some J ∧
      r = [118, 97, 114, 32] ++ name ++ [32, 61, 32] ++ J ++ [59, 10] ++ script ∧
      jsIdent name = true ∧ asciiIdent name = true := by
  unfold scriptFromDataAndConstant at h
  rw [rx_jsIdentifier] at h
  cases hn : jsIdent name with
  | false => simp [hn] at h
  | true =>
    simp only [hn, Bool.not_true, Bool.false_eq_true, if_false] at h
    cases hm : marshal v with
    | none => simp [hm] at h
    | some J =>
      simp only [hm, Except.ok.injEq] at h
      exact ⟨J, rfl, h.symm, rfl, jsIdent_asciiIdent name hn⟩

/-- Inertness: the JSON literal holds no `<`, `>`, `&` byte and no U+2028 / U+2029 (E2 80 A8 / E2 80 A9) —
    for EVERY value tree, including bytes provided by json.Marshaler / json.RawMessage implementations
    (which go through the modelled `compact` with escaping) and TextMarshaler text. Hence the data
    cannot close the script element (`</script`), open an HTML comment (`<!--`) or end a JS line. -/
theorem C17_inert (v : JVal) (J : Bytes) (hw : wfNum v = true) (h : marshal v = some J) :
    60 ∉ J ∧ 62 ∉ J ∧ 38 ∉ J ∧
      containsSub [226, 128, 168] J = false ∧ containsSub [226, 128, 169] J = false :=
  inertB_spec J (enc_inert v J hw h)

/-- the whole result is inert up to the constant parts: every forbidden byte of the result lies in
    the constant name/script, never in the data part. (Corollary of frame + inert, stated on the result.) -/
theorem C17_result (name script r : Bytes) (v : JVal) (hw : wfNum v = true)
    (h : scriptFromDataAndConstant name v script = .ok r) :
    ∃ J, r = [118, 97, 114, 32] ++ name ++ [32, 61, 32] ++ J ++ [59, 10] ++ script ∧
      60 ∉ J ∧ 62 ∉ J ∧ 38 ∉ J ∧
      containsSub [226, 128, 168] J = false ∧ containsSub [226, 128, 169] J = false := by
  obtain ⟨J, hm, hr, _, _⟩ := C17_frame name script r v h
  exact ⟨J, hr, C17_inert v J hw hm⟩

/-- Round trip, the part that is proved: for every value tree without json.Marshaler / json.RawMessage nodes
    (strings of arbitrary bytes, TextMarshaler text, numbers, nested maps / slices / structs), the JSON
    literal is a single strict RFC 8259 JSON text (UTF-8 included) and decodes back to the JSON value
    of the data: strings as the code points Go's decoding of the bytes gives (ill-formed byte = U+FFFD),
    map members in sorted key order, struct members in field order.
    `expected v = some e` only says that `e` is that JSON value; for a raw-free tree it is defined
    whenever the data is encodable and its number literals are JSON numbers. -/
theorem C17_roundtrip_partial (v : JVal) (J : Bytes) (e : Spec.Json.JsonValue) (hn : noRaw v = true)
    (h : marshal v = some J) (he : Oracle.C17.expected v = some e) : Spec.Json.decode J = some e :=
  decode_of_reads J e (enc_reads v J e hn h he)

theorem C17_roundtrip_result_partial (name script r : Bytes) (v : JVal) (e : Spec.Json.JsonValue)
    (hn : noRaw v = true) (he : Oracle.C17.expected v = some e)
    (h : scriptFromDataAndConstant name v script = .ok r) :
    ∃ J, r = [118, 97, 114, 32] ++ name ++ [32, 61, 32] ++ J ++ [59, 10] ++ script ∧
      Spec.Json.decode J = some e := by
  obtain ⟨J, hm, hr, _, _⟩ := C17_frame name script r v h
  exact ⟨J, hr, C17_roundtrip_partial v J e hn hm he⟩

/-- The full-strength roundtrip statement, including Marshaler / RawMessage nodes (whose JSON value is
    what their bytes denote; a decoder that replaces ill-formed UTF-8 is used because the Go scanner
    lets ill-formed bytes inside Marshaler-provided string literals through).
    NOT proved. Missing: (1) a lemma relating the modelled Go scanner + `compact` to the RFC decoder
    (`compact b = some J → decodeLossy J = decodeLossy b`, and `compact b = some _ → (decodeLossy b).isSome`),
    (2) `decode J = some e → decodeLossy J = some e`. With these the proof of `enc_reads` goes through
    unchanged for `raw` leaves. Until then this clause is checked at run time by the oracle on every
    real output (Oracle/C17.lean, clauses not-a-json-text / roundtrip). -/
def C17_roundtrip_statement : Prop :=
  ∀ (v : JVal) (J : Bytes) (e : Spec.Json.JsonValue),
    marshal v = some J → Oracle.C17.expected v = some e → Spec.Json.decodeLossy J = some e

mutual
/-- the data cannot be encoded: an unencodable leaf, or Marshaler/RawMessage bytes the scanner rejects -/
def unencodable : JVal → Bool
  | .bad => true
  | .raw b => (compact b).isNone
  | .arr xs => unencodableL xs
  | .obj _ kvs => unencodableM kvs
  | _ => false
def unencodableL : List JVal → Bool
  | [] => false
  | x :: t => unencodable x || unencodableL t
def unencodableM : List (Bytes × JVal) → Bool
  | [] => false
  | (_, x) :: t => unencodable x || unencodableM t
end

theorem marshal_none_iff : ∀ v : JVal, marshal v = none ↔ unencodable v = true := by
  unfold marshal
  apply JVal.induct (P := fun v => enc v = none ↔ unencodable v = true)
    (PL := fun xs => encL xs = none ↔ unencodableL xs = true)
    (PM := fun kvs => encM kvs = none ↔ unencodableM kvs = true)
  · simp [enc, unencodable]
  · intro b; simp [enc, unencodable]
  · intro l; simp [enc, unencodable]
  · intro s; simp [enc, unencodable]
  · intro xs ih; simp [enc, unencodable, ih]
  · intro m kvs ih; simp [enc, unencodable, ih]
  · intro b; simp [enc, unencodable]
  · intro b; simp [enc, unencodable]
  · simp [enc, unencodable]
  · simp [encL, unencodableL]
  · intro x t ihx iht
    simp only [encL, unencodableL, Bool.or_eq_true, ← ihx, ← iht]
    cases enc x <;> cases encL t <;> simp
  · simp [encM, unencodableM]
  · intro k x t ihx iht
    simp only [encM, unencodableM, Bool.or_eq_true, ← ihx, ← iht]
    cases enc x <;> cases encM t <;> simp

/-- Failure: the call returns an error — and with it no Script at all (Go: the zero `Script{}`;
    the harness checks that the returned Script is empty) — exactly when the name is not accepted
    or the data cannot be encoded. In particular every name that is not an ASCII identifier fails. -/
theorem C17_fail (name script : Bytes) (v : JVal) :
    (∃ e, scriptFromDataAndConstant name v script = .error e) ↔
      (jsIdent name = false ∨ unencodable v = true) := by
  unfold scriptFromDataAndConstant
  rw [rx_jsIdentifier, ← marshal_none_iff]
  cases hn : jsIdent name <;> cases hm : marshal v <;> simp

theorem C17_fail_nonident (name script : Bytes) (v : JVal) (h : asciiIdent name = false) :
    scriptFromDataAndConstant name v script = .error .name := by
  unfold scriptFromDataAndConstant
  rw [rx_jsIdentifier]
  cases hn : jsIdent name with
  | false => rfl
  | true => have := jsIdent_asciiIdent name hn; simp [this] at h

theorem C17_fail_unencodable (name script : Bytes) (v : JVal) (h : unencodable v = true) :
    ∃ e, scriptFromDataAndConstant name v script = .error e :=
  (C17_fail name script v).2 (Or.inr h)

/-! ### Non-vacuity -/
-- name "x1", data ["<\xff", RawMessage " [ ]"], script "f()"
example : scriptFromDataAndConstant [120, 49] (.arr [.str [60, 255], .raw [32, 91, 32, 93]]) [102, 40, 41] =
    .ok [118, 97, 114, 32, 120, 49, 32, 61, 32,
         91, 34, 92, 117, 48, 48, 51, 99, 92, 117, 102, 102, 102, 100, 34, 44, 91, 93, 93, 59, 10, 102, 40, 41] := by decide +kernel
-- one-letter name, trailing newline, leading digit: rejected
example : scriptFromDataAndConstant [120] .null [] = .error .name := by decide +kernel
example : scriptFromDataAndConstant [120, 49, 10] .null [] = .error .name := by decide +kernel
example : scriptFromDataAndConstant [49, 120] .null [] = .error .name := by decide +kernel
-- a channel inside a map; a Marshaler returning `[1,]`
example : scriptFromDataAndConstant [120, 49] (.obj true [([97], .bad)]) [] = .error .json := by decide +kernel
example : scriptFromDataAndConstant [120, 49] (.raw [91, 49, 44, 93]) [] = .error .json := by decide +kernel
-- U+2028 in a string and in Marshaler-provided bytes is escaped
example : marshal (.str [226, 128, 168]) = some [34, 92, 117, 50, 48, 50, 56, 34] := by decide +kernel
example : marshal (.raw [34, 226, 128, 169, 60, 34]) = some [34, 92, 117, 50, 48, 50, 57, 92, 117, 48, 48, 51, 99, 34] := by decide +kernel

-- roundtrip: map {"b<": "\xff", "a": [1.5e+3, null]} (keys get sorted, `<` and the bad byte escaped)
example : ((marshal (.obj true [([98, 60], .str [255]), ([97], .arr [.num [49, 46, 53, 101, 43, 51], .null])])).bind
    Spec.Json.decode == some (.obj [([97], .arr [.num [49, 46, 53, 101, 43, 51], .null]), ([98, 60], .str [65533])])) = true := by
  decide +kernel
example : (Oracle.C17.expected (.obj true [([98, 60], .str [255]), ([97], .arr [.num [49, 46, 53, 101, 43, 51], .null])]) ==
    some (.obj [([97], .arr [.num [49, 46, 53, 101, 43, 51], .null]), ([98, 60], .str [65533])])) = true := by decide +kernel

end SafeHtml.Props.C17
