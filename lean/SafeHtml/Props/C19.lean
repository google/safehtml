/-
C19 — trusted-text parameters accept only compile-time constants; no raw back doors. The property quantifies over
client programs. Part A: by induction on expressions (rules of Spec.GoTypes), whatever a client passes where another
package's unexported defined string type is expected is an untyped constant expression. Part B: the finite conditions,
evaluated over the regenerated `Generated.ApiSurface`. The tree violates the full statement in five reviewed ways
(generic-inference, struct-conversion, flag-value, funcs-override, exported-tree); each has a negation witness and a
`_partial` theorem carving out exactly it. Out of scope: `reflect`, `unsafe`, cgo/linkname and the three conversions
packages (uncheckedconversions, legacyconversions, testconversions), which exist to bypass the gate.
-/
import SafeHtml.Model.Api
import SafeHtml.Reviewed.Api
namespace SafeHtml.Props.C19
open SafeHtml SafeHtml.Spec.GoTypes SafeHtml.Generated SafeHtml.Model.Api SafeHtml.Reviewed.Api

-- the readable names in the generated surface are the names the keys were computed from
#guard ApiSurface.funcs.all fun f => nameKey (B f.name) == f.key
#guard ApiSurface.types.all fun t => nameKey (B t.name) == t.qkey && nameKey (B (bareName t.name)) == t.key
#guard ApiSurface.vars.all fun v => nameKey (B v.name) == v.key

/-! ## A. Expressions (unbounded) -/

def ETy.ty? : ETy → Option StrTy
  | .untyped => none
  | .const t => some t
  | .val t => some t

/-- the type of `a + b` is that of one of the operands (the nine cases of `catTy`) -/
theorem catTy_ty {x y τ : ETy} (h : catTy x y = some τ) : ETy.ty? τ = ETy.ty? x ∨ ETy.ty? τ = ETy.ty? y := by
  cases x <;> cases y <;> simp only [catTy, Option.some.injEq, Option.ite_none_right_eq_some] at h <;>
    simp [← h, ETy.ty?]

theorem catTy_untyped {x y : ETy} (h : catTy x y = some .untyped) : x = .untyped ∧ y = .untyped := by
  cases x <;> cases y <;> simp [catTy] at h ⊢

/-- No expression has a type the client cannot name unless the library hands out a value of it. -/
theorem typeOf_not_unnameable (env : StrTy → Bool) (P : StrTy)
    (hn : P.nameable = false) (he : env P = false) :
    ∀ (e : StrExpr) (τ : ETy), typeOf env e = some τ → ETy.ty? τ ≠ some P := by
  -- a named constant, variable or call result of type `t` needs a source of `t`, which `P` lacks
  have leaf : ∀ {t : StrTy} {σ τ : ETy}, (if srcOk env t then some σ else none) = some τ →
      ETy.ty? σ = some t → ETy.ty? τ ≠ some P := by
    intro t σ τ h hσ hc
    obtain ⟨hs, e⟩ := Option.ite_none_right_eq_some.1 h
    cases e
    rw [hσ] at hc; cases hc
    simp [srcOk, hn, he] at hs
  intro e
  induction e with
  | lit | uconst => intro τ h; cases h; simp [ETy.ty?]
  | tconst t | var t | call t => intro τ h; exact leaf h rfl
  | cat a b iha ihb =>
    intro τ h; simp only [typeOf] at h
    split at h
    · rename_i x y hx hy
      rcases catTy_ty h with h1 | h2
      · rw [h1]; exact iha x hx
      · rw [h2]; exact ihb y hy
    · cases h
  | conv t e ih =>
    intro τ h; simp only [typeOf] at h
    split at h
    · rename_i ht
      obtain ⟨σ, _, rfl⟩ := Option.map_eq_some_iff.1 h
      have : t ≠ P := by rintro rfl; simp [hn] at ht
      cases σ <;> simp [convTy, ETy.ty?, this]
    · cases h
  | paren e ih => exact ih

/-- An expression whose static type is "untyped constant" consists of literals and untyped constants only. -/
theorem untyped_is_const_expr (env : StrTy → Bool) :
    ∀ e : StrExpr, typeOf env e = some .untyped → e.isUntypedConst = true := by
  intro e
  induction e with
  | lit | uconst => intro _; rfl
  | tconst t | var t | call t => intro h; cases (Option.ite_none_right_eq_some.1 h).2
  | cat a b iha ihb =>
    intro h; simp only [typeOf] at h
    split at h
    · rename_i x y hx hy
      obtain ⟨rfl, rfl⟩ := catTy_untyped h
      simp [StrExpr.isUntypedConst, iha hx, ihb hy]
    · cases h
  | conv t e ih =>
    intro h; simp only [typeOf] at h
    split at h
    · obtain ⟨σ, _, hσ⟩ := Option.map_eq_some_iff.1 h
      cases σ <;> cases hσ
    · cases h
  | paren e ih => exact ih

/-- Whatever expression a client writes: if it is accepted where a defined string type
that the client cannot name is expected (and the library exports no value of that type), it is an
untyped constant expression. -/
theorem assign_unexported_only_const (env : StrTy → Bool) (P : StrTy)
    (hn : P.nameable = false) (he : env P = false) (e : StrExpr)
    (h : exprAssignable env e P = true) : e.isUntypedConst = true := by
  unfold exprAssignable at h
  cases hte : typeOf env e with
  | none => simp [hte] at h
  | some τ =>
    have hne := typeOf_not_unnameable env P hn he e τ hte
    cases τ with
    | untyped => exact untyped_is_const_expr env e hte
    | const t => simp [hte, assignableTo] at h; subst h; simp [ETy.ty?] at hne
    | val t => simp [hte, assignableTo] at h; subst h; simp [ETy.ty?] at hne

def Arg.usesGeneric : Arg → Bool
  | .viaGeneric _ => true
  | _ => false

theorem isStringConstantOf_cases {pkg : Nat} {c : Cls} (h : c.isStringConstantOf pkg = true) :
    ∃ n, c = .str (.lib pkg n false) ∨ c = .variadic (.lib pkg n false) := by
  unfold Cls.isStringConstantOf at h
  split at h
  · exact ⟨_, .inl (by rw [beq_iff_eq.1 h])⟩
  · exact ⟨_, .inr (by rw [beq_iff_eq.1 h])⟩
  · cases h

/-- For whole arguments (single expression, `xs...`, class-specific dynamic values), generics apart -/
theorem arg_unexported_only_const (env : StrTy → Bool) (pkg : Nat) (c : Cls)
    (hc : c.isStringConstantOf pkg = true)
    (he : ∀ n, env (.lib pkg n false) = false) (a : Arg) (hg : Arg.usesGeneric a = false)
    (h : argCompiles env c a = true) : a.isUntypedConst = true := by
  obtain ⟨n, rfl | rfl⟩ := isStringConstantOf_cases hc
  · cases a with
    | expr e => exact assign_unexported_only_const env _ rfl (he n) e h
    | spread t => cases h
    | dyn => cases h
    | viaGeneric e => cases hg
  · cases a with
    | expr e => exact assign_unexported_only_const env _ rfl (he n) e h
    | spread t =>
      -- `xs...` needs a variable of type `[]stringConstant`, which the client cannot declare
      obtain ⟨h1, h2⟩ := Bool.and_eq_true_iff.1 h
      cases of_decide_eq_true h2
      simp [srcOk, StrTy.nameable, he] at h1
    | dyn => cases h
    | viaGeneric e => cases hg

/-- Go ≥ 1.18: the generic helper defeats the gate for EVERY string-kind parameter. -/
theorem generic_defeats_gate (env : StrTy → Bool) (pkg : Nat) (c : Cls) (hc : c.isStringConstantOf pkg = true) :
    argCompiles env c (.viaGeneric (.var .string)) = true := by
  obtain ⟨n, rfl | rfl⟩ := isStringConstantOf_cases hc <;>
    simp [argCompiles, exprAssignable, typeOf, srcOk, StrTy.nameable, assignableTo]

/-! non-vacuity: the rule does distinguish (what each self-test mutant would change) -/
example : exprAssignable (fun _ => false) .lit (.lib 2 7 false) = true := by decide +kernel
example : exprAssignable (fun _ => false) (.cat .lit .uconst) (.lib 2 7 false) = true := by decide +kernel
example : exprAssignable (fun _ => false) (.var .string) (.lib 2 7 false) = false := by decide +kernel
example : exprAssignable (fun _ => false) (.cat .lit (.var .string)) (.lib 2 7 false) = false := by decide +kernel
example : exprAssignable (fun _ => false) (.conv (.lib 2 7 false) (.var .string)) (.lib 2 7 false) = false := by decide +kernel
example : exprAssignable (fun _ => false) (.tconst .string) (.lib 2 7 false) = false := by decide +kernel
-- `type stringConstant = string`: the parameter type IS string
example : exprAssignable (fun _ => false) (.var .string) .string = true := by decide +kernel
-- exported `StringConstant`: a conversion becomes writable
example : exprAssignable (fun _ => false) (.conv (.lib 2 7 true) (.var .string)) (.lib 2 7 true) = true := by decide +kernel
-- a leak (`func K() stringConstant`): the call result is accepted
example : exprAssignable (fun _ => true) (.call (.lib 2 7 false)) (.lib 2 7 false) = true := by decide +kernel

/-! ## B. The regenerated surface (finite) -/

/-- the reviewed trusted-text parameter exists and has its package's unexported defined string type -/
def trustedParamOk (tp : TrustedParam) : Bool :=
  match findFunc tp.func with
  | some f =>
    match f.params[tp.idx]? with
    | some c => c.isStringConstantOf f.pkg
    | none => false
  | none => false

/-- table obligation: breaks when a trusted-text parameter becomes `string`, an alias, or exported -/
theorem surface_trusted_params : trustedText.all trustedParamOk = true := by decide +kernel

/-- table obligation: nothing exported by either package mentions an unexported string type -/
theorem surface_no_leak : leaksPkg 1 = false ∧ leaksPkg 2 = false := by
  constructor <;> decide +kernel

/-- a package key that is not 1 or 2 owns nothing in the surface -/
theorem surface_pkgs : ApiSurface.funcs.all (fun f => f.pkg == 1 || f.pkg == 2) = true ∧
    ApiSurface.vars.all (fun v => v.pkg == 1 || v.pkg == 2) = true ∧
    ApiSurface.types.all (fun t => t.pkg == 1 || t.pkg == 2) = true := by
  refine ⟨?_, ?_, ?_⟩ <;> decide +kernel

theorem env_closed_of (pkg : Nat) (h : pkg = 1 ∨ pkg = 2) (n : Nat) : env (.lib pkg n false) = false := by
  rcases h with rfl | rfl
  · simp [env, surface_no_leak.1]
  · simp [env, surface_no_leak.2]

/-- C19 (i), full strength: for every reviewed trusted-text parameter, EVERY argument a client can
write there is an untyped constant expression. -/
def C19_const_params_statement : Prop :=
  ∀ tp ∈ trustedText, ∃ f c, findFunc tp.func = some f ∧ f.params[tp.idx]? = some c ∧
    ∀ a : Arg, argCompiles env c a = true → a.isUntypedConst = true

theorem trusted_param_cls (tp : TrustedParam) (h : tp ∈ trustedText) :
    ∃ f c, findFunc tp.func = some f ∧ f.params[tp.idx]? = some c ∧ c.isStringConstantOf f.pkg = true := by
  have := List.all_eq_true.mp surface_trusted_params tp h
  unfold trustedParamOk at this
  split at this
  · rename_i f hf
    split at this
    · rename_i c hc
      exact ⟨f, c, hf, hc, this⟩
    · cases this
  · cases this

/-- proved part: every way of writing the argument EXCEPT through a client generic function whose type
parameter is inferred from the library function. Missing for the full statement: exactly that (known
finding `generic-inference`; the language offers no way to close it from inside the library). -/
theorem C19_const_params_partial :
    ∀ tp ∈ trustedText, ∃ f c, findFunc tp.func = some f ∧ f.params[tp.idx]? = some c ∧
      ∀ a : Arg, Arg.usesGeneric a = false → argCompiles env c a = true → a.isUntypedConst = true := by
  intro tp h
  obtain ⟨f, c, hf, hc, hcls⟩ := trusted_param_cls tp h
  have hpkg : f.pkg = 1 ∨ f.pkg = 2 := by
    have hmem : f ∈ ApiSurface.funcs := List.mem_of_find?_eq_some hf
    have := List.all_eq_true.mp surface_pkgs.1 f hmem
    simpa using this
  exact ⟨f, c, hf, hc, fun a hg ha =>
    arg_unexported_only_const env f.pkg c hcls (env_closed_of f.pkg hpkg) a hg ha⟩

theorem C19_false_generic_inference : ¬ C19_const_params_statement := by
  intro hall
  -- the numeral is `nameKey (B "safehtml.ScriptFromConstant")`
  have hmem : (⟨152777063432729567636848295191440833756224662888384937873587138164,
      "safehtml.ScriptFromConstant", 0, "script text"⟩ : TrustedParam) ∈ trustedText := by
    simp [trustedText]
  obtain ⟨f, c, hf, hc, hcls⟩ := trusted_param_cls _ hmem
  obtain ⟨f', c', hf', hc', hargs⟩ := hall _ hmem
  rw [hf] at hf'; cases hf'
  rw [hc] at hc'; cases hc'
  have := hargs (.viaGeneric (.var .string)) (generic_defeats_gate env f.pkg c hcls)
  simp [Arg.isUntypedConst] at this

/-- C19 (ii): no exported result, variable, constant or field mentions `stringConstant`, and each
package has exactly one string-kind type: unexported, defined (not an alias). -/
def C19_no_leak_statement : Prop :=
  leaksPkg 1 = false ∧ leaksPkg 2 = false ∧
  ApiSurface.stringTypes.all (fun s => !s.exported && !s.alias) = true ∧
  (ApiSurface.stringTypes.map (·.pkg)) = [1, 2]

theorem C19_no_leak : C19_no_leak_statement := by
  refine ⟨surface_no_leak.1, surface_no_leak.2, ?_, ?_⟩ <;> decide +kernel

/-- shape of a reviewed safe type: present, defined (not an alias), a struct, ≥1 field, every field
unexported and not embedded -/
def typeOk (s : SafeType) : Bool :=
  match findType s.pkg s.key with
  | some t => !t.alias && t.kind == .struct && !t.fields.isEmpty && t.fields.all (fun f => !f.exported && !f.embedded)
  | none => false

def notConvertible (a b : SafeType) : Bool :=
  match findType a.pkg a.key, findType b.pkg b.key with
  | some x, some y => !convertOk x y
  | _, _ => false

def sameType (a b : SafeType) : Bool := a.pkg == b.pkg && a.key == b.key

/-- C19 (iii), full strength: shape, and NO conversion `T2(x : T1)` between two different safe types -/
def C19_types_statement : Prop :=
  safeTypes.all typeOk = true ∧
  safeTypes.all (fun a => safeTypes.all fun b => sameType a b || notConvertible a b) = true

/-- proved part: shape for all eleven; no conversion unless BOTH types are in package safehtml.
Missing: the 8×7 pairs inside package safehtml (known finding `struct-conversion`). -/
theorem C19_types_partial :
    safeTypes.all typeOk = true ∧
    safeTypes.all (fun a => safeTypes.all fun b =>
      sameType a b || (a.pkg == 1 && b.pkg == 1) || notConvertible a b) = true := by
  constructor <;> decide +kernel

/-- the carve-out is exact: every pair it excludes IS convertible on the current tree -/
theorem C19_types_carveout_exact :
    safeTypes.all (fun a => safeTypes.all fun b =>
      sameType a b || !(a.pkg == 1 && b.pkg == 1) || !notConvertible a b) = true := by decide +kernel

theorem C19_false_struct_conversion : ¬ C19_types_statement := by
  intro h
  have h2 := h.2
  revert h2
  decide +kernel

/-- a pointer-receiver method of a reviewed safe type can overwrite its receiver -/
def writesSafeRecv (f : Func) : Bool :=
  f.ptrRecv && safeTypes.any fun t => t.pkg == f.pkg && t.key == f.recv

/-- a function/method that can receive a run-time string and yields a safe type or a *Template
(as a result, or by overwriting a safe-typed pointer receiver) -/
def needsReview (f : Func) : Bool :=
  (f.results.any Cls.isSafeLike || f.resultMentionsSafe || writesSafeRecv f) && f.params.any Cls.acceptsDynamic

def ctorCovered (f : Func) : Bool :=
  match lookup constructors f.key with
  | some e => e.status.isCovered
  | none => false

def ctorFinding (f : Func) (sigs : List String) : Bool :=
  match lookup constructors f.key with
  | some e =>
    match e.status with
    | .finding s => sigs.contains s
    | .covered _ => false
  | none => false

/-- C19 (iv), full strength: every such function is reviewed and covered by a property -/
def C19_constructors_statement : Prop :=
  ApiSurface.funcs.all (fun f => !needsReview f || ctorCovered f) = true

def hasFinding (sig : String) : Bool :=
  ApiSurface.funcs.any fun f => needsReview f && ctorFinding f [sig]

/-- All that is evaluated over the functions of the surface, in one pass of the kernel: the statement fails,
    it holds once the two findings are excused, excusing one of them is not enough, and each is present. -/
theorem constructors_sweep :
    ApiSurface.funcs.all (fun f => !needsReview f || ctorCovered f ||
      ctorFinding f ["flag-value", "funcs-override"]) = true ∧
    ApiSurface.funcs.all (fun f => !needsReview f || ctorCovered f) = false ∧
    (ApiSurface.funcs.all (fun f => !needsReview f || ctorCovered f || ctorFinding f ["flag-value"]) = false ∧
      ApiSurface.funcs.all (fun f => !needsReview f || ctorCovered f || ctorFinding f ["funcs-override"]) = false) ∧
    hasFinding "flag-value" = true ∧ hasFinding "funcs-override" = true ∧
    (ApiSurface.funcs.filter needsReview).length ≥ 20 := by
  decide +kernel

/-- proved part. Missing: the three `…FromFlag` constructors (any caller can implement flag.Value:
`flag-value`) and `Template.Funcs` (caller functions under caller-chosen names: `funcs-override`). -/
theorem C19_constructors_partial :
    ApiSurface.funcs.all (fun f => !needsReview f || ctorCovered f ||
      ctorFinding f ["flag-value", "funcs-override"]) = true := constructors_sweep.1

theorem C19_false_flag_value : ¬ C19_constructors_statement := Bool.eq_false_iff.1 constructors_sweep.2.1

theorem C19_false_funcs_override : ¬ C19_constructors_statement := C19_false_flag_value

/-- both carve-outs are needed: excusing only one of the two signatures still leaves a failing function -/
theorem C19_constructors_carveout_minimal :
    ApiSurface.funcs.all (fun f => !needsReview f || ctorCovered f || ctorFinding f ["flag-value"]) = false ∧
    ApiSurface.funcs.all (fun f => !needsReview f || ctorCovered f || ctorFinding f ["funcs-override"]) = false :=
  constructors_sweep.2.2.1

/-- each of the two signatures is really present (needs review, listed as that finding) -/
theorem C19_finding_flag_value_present : hasFinding "flag-value" = true := constructors_sweep.2.2.2.1
theorem C19_finding_funcs_override_present : hasFinding "funcs-override" = true := constructors_sweep.2.2.2.2.1

def structCovered (t : TypeDecl) : Bool :=
  match lookup structs t.qkey with
  | some e => e.status.isCovered
  | none => false

def structFinding (t : TypeDecl) (sig : String) : Bool :=
  match lookup structs t.qkey with
  | some e => e.status == .finding sig
  | none => false

/-- C19 (v), full strength: an exported type with an exported field is reviewed plain data -/
def C19_fields_statement : Prop :=
  ApiSurface.types.all (fun t => t.fields.all (fun f => !f.exported) || structCovered t) = true

/-- proved part. Missing: `Template.Tree` (`exported-tree`). -/
theorem C19_fields_partial :
    ApiSurface.types.all (fun t => t.fields.all (fun f => !f.exported) || structCovered t ||
      structFinding t "exported-tree") = true := by decide +kernel

theorem C19_false_exported_tree : ¬ C19_fields_statement := by
  unfold C19_fields_statement; decide +kernel

/-- C19 (vi): no exported variable or constant has a type that mentions (at any depth: pointer, slice,
map, func result …) a safe type or Template -/
def C19_vars_statement : Prop :=
  ApiSurface.vars.all (fun v => !v.cls.isSafeLike && !v.mentionsSafe) = true

theorem C19_vars : C19_vars_statement := by unfold C19_vars_statement; decide +kernel

/-- the whole property over the model -/
def C19_statement : Prop :=
  C19_const_params_statement ∧ C19_no_leak_statement ∧ C19_types_statement ∧
    C19_constructors_statement ∧ C19_fields_statement ∧ C19_vars_statement

theorem C19_false : ¬ C19_statement := fun h => C19_false_generic_inference h.1

/-- everything that IS proved about the unchanged tree, in one place -/
theorem C19_partial :
    (∀ tp ∈ trustedText, ∃ f c, findFunc tp.func = some f ∧ f.params[tp.idx]? = some c ∧
      ∀ a : Arg, Arg.usesGeneric a = false → argCompiles env c a = true → a.isUntypedConst = true) ∧
    C19_no_leak_statement ∧
    (safeTypes.all typeOk = true ∧
      safeTypes.all (fun a => safeTypes.all fun b =>
        sameType a b || (a.pkg == 1 && b.pkg == 1) || notConvertible a b) = true) ∧
    (ApiSurface.funcs.all (fun f => !needsReview f || ctorCovered f ||
      ctorFinding f ["flag-value", "funcs-override"]) = true) ∧
    (ApiSurface.types.all (fun t => t.fields.all (fun f => !f.exported) || structCovered t ||
      structFinding t "exported-tree") = true) ∧
    C19_vars_statement :=
  ⟨C19_const_params_partial, C19_no_leak, C19_types_partial, C19_constructors_partial, C19_fields_partial, C19_vars⟩

/-! non-vacuity of the finite part -/
example : ApiSurface.funcs.length > 60 := by decide +kernel
example : (ApiSurface.funcs.filter needsReview).length ≥ 20 := constructors_sweep.2.2.2.2.2
example : trustedText.length = 19 ∧ safeTypes.length = 11 := by decide +kernel
-- identical field lists convert; an unexported name re-declared by another package does not
example : convertibleStruct [⟨5, false, 1, false, 9⟩] [⟨5, false, 1, false, 9⟩] = true := by decide +kernel
example : convertibleStruct [⟨5, false, 1, false, 9⟩] [⟨5, false, 3, false, 9⟩] = false := by decide +kernel
example : convertibleStruct [⟨5, true, 1, false, 9⟩] [⟨5, true, 3, false, 9⟩] = true := by decide +kernel
example : makeCompiles 3 [⟨5, false, 1, false, 9⟩] (.litKeyed 5) = false := by decide +kernel
example : makeCompiles 3 [⟨5, true, 1, false, 9⟩] (.litKeyed 5) = true := by decide +kernel

end SafeHtml.Props.C19
