/-
C16 — CSSRule yields exactly one rule: selectors cannot inject blocks, rules or markup.
The modelled code rejects `url(` outside strings (library commit faeaa60); the behaviour before that commit
is `cssRuleWith false`, for which `C16_unfixed_false` exhibits the defect.
-/
import SafeHtml.Model.StyleSheet
import SafeHtml.Spec.CssParse
import SafeHtml.Oracle.C16
import SafeHtml.Proofs.RxSearch
import SafeHtml.Proofs.Utf8More
import SafeHtml.Proofs.Tactics
namespace SafeHtml.Props.C16
open SafeHtml SafeHtml.Rx SafeHtml.Model SafeHtml.Generated.Regexes SafeHtml.Spec.Css

/-- `[-_a-zA-Z0-9#.:* ,>+~[\]()=^$|]` -/
def allowedSel (c : Nat) : Bool :=
  c == 45 || c == 95 || isAlnum c || c == 35 || c == 46 || c == 58 || c == 42 || c == 32 || c == 44 ||
  c == 62 || c == 43 || c == 126 || c == 91 || c == 93 || c == 40 || c == 41 || c == 61 || c == 94 ||
  c == 36 || c == 124

def invalidCls : List (Nat × Nat) :=
  [(0, 31), (33, 34), (37, 39), (47, 47), (59, 60), (63, 64), (92, 92), (96, 96), (123, 123), (125, 125), (127, 1114111)]

theorem rx_invalid_shape : safehtml_invalidCSSSelectorRune = .cls invalidCls := rfl

theorem allowedSel_ascii (c : Nat) (h : allowedSel c = true) : c < 128 := by
  simp only [allowedSel, isAlnum, isAlpha, isLowerAlpha, isUpperAlpha, isDigit, Bool.or_eq_true,
    Bool.and_eq_true, decide_eq_true_eq, beq_iff_eq] at h
  omega

/-- the regenerated negated class is the complement of the documented selector alphabet
    (for every rune Go can produce, i.e. ≤ 0x10FFFF): the two tables are compared on the 128 ASCII values,
    above them the class has everything and the alphabet nothing -/
theorem rx_invalid_class (c : Nat) (hc : c ≤ 1114111) : inCls invalidCls c = !allowedSel c := by
  by_cases h : c < 128
  · exact (by decide +kernel : ∀ c, c < 128 → inCls invalidCls c = !allowedSel c) c h
  · rw [Utf8.false_of_ge allowedSel_ascii (Nat.le_of_not_lt h)]
    simp [inCls, invalidCls]; omega

/-- a class that contains everything above 127: absence of a match means every BYTE is allowed -/
theorem no_invalid_rune (s : Bytes)
    (h : (findSubmatch safehtml_invalidCSSSelectorRune safehtml_invalidCSSSelectorRune_ncap s).isSome = false) :
    s.all allowedSel = true := by
  rw [rx_invalid_shape, findSubmatch_cls_isSome, List.any_eq_false] at h
  rw [← Utf8.all_ascii_iff allowedSel allowedSel_ascii, List.all_eq_true]
  intro x hx
  have := h x hx
  rw [rx_invalid_class _ (Utf8.decodeSyms_rune_le s x hx)] at this
  simpa using this

/-- What CSSRule guarantees for every accepted selector, for ALL inputs: the result is `selector{style}`; the
    selector has no `<`; with its (regex-recognised) strings removed it consists of bytes of the documented selector
    alphabet only (so: no `{ } ; @ / \\ < "` `'`, no newline, tab, FF, control or non-ASCII byte outside strings),
    has balanced `()`/`[]`, and contains no `url(` in any letter case. -/
theorem C16_accept (sel st r : Bytes) (h : cssRule sel st = some r) :
    r = sel ++ [123] ++ st ++ [125] ∧ 60 ∉ sel ∧
    (selectorWithoutStrings sel).all allowedSel = true ∧
    hasBalancedBrackets (selectorWithoutStrings sel) = true ∧
    containsUrlParen (selectorWithoutStrings sel) = false := by
  -- the four guards of `CSSRule`, each of which returns the error when it fires
  simp only [cssRule, cssRuleWith, Option.ite_none_left_eq_some, Option.some.injEq] at h
  obtain ⟨hlt, hinv, hbal, hurl, rfl⟩ := h
  exact ⟨rfl, fun hm => hlt (List.contains_iff_mem.mpr hm), no_invalid_rune _ (by simpa using hinv),
    by simpa using hbal, by simpa using hurl⟩

/-- C16 at full strength (the executable property of `Oracle.C16` holds for every accepted call): result shape;
    the selector's tokens contain no `{ } ; @`, comment, `<`, bad-string, bad-url, unterminated string/url, and
    its brackets are balanced; and for every style that is a complete block body, a CSS Syntax 3 parser
    ("parse a list of rules" and "parse a stylesheet") sees a single qualified rule whose prelude is the selector's
    tokens and whose block holds the style's tokens. -/
def C16_statement : Prop :=
  ∀ sel st r : Bytes, cssRule sel st = some r → Oracle.C16.check sel st (some r) = "pass"

/-- `C16_statement` for the behaviour before commit faeaa60 -/
def C16_statement_unfixed : Prop :=
  ∀ sel st r : Bytes, cssRuleWith false sel st = some r → Oracle.C16.check sel st (some r) = "pass"

/-- `C16_partial`: the part of `C16_statement` that is proved for all inputs is `C16_accept` (result shape and the
    byte-level facts about the selector with strings removed).
    MISSING: (1) `Rx.replaceAllFunc cssStringPattern · ""` removes exactly the maximal runs that
    `Spec.Css.consumeStr` reads as closed strings (lock-step lemma between the regex and the tokenizer);
    (2) over the selector alphabet without `url(` the tokenizer emits no forbidden token and never consumes a quote;
    (3) `hasBalancedBrackets` agrees with `Spec.Css.consumeBody` nesting. These are checked by `Oracle.C16` on every
    real output of every run (exhaustively for short selectors over the core alphabet in the thorough tier). -/
theorem C16_partial (sel st r : Bytes) (h : cssRule sel st = some r) :
    r = sel ++ [123] ++ st ++ [125] ∧ 60 ∉ sel ∧
    (selectorWithoutStrings sel).all allowedSel = true ∧
    hasBalancedBrackets (selectorWithoutStrings sel) = true ∧
    containsUrlParen (selectorWithoutStrings sel) = false :=
  C16_accept sel st r h

/-! ### Non-vacuity and the defect of the unfixed code -/

-- `a[b="}"]` with style `c:d;` is accepted
example : cssRule [97, 91, 98, 61, 34, 125, 34, 93] [99, 58, 100, 59] =
    some [97, 91, 98, 61, 34, 125, 34, 93, 123, 99, 58, 100, 59, 125] := by decide +kernel
-- `a{` is rejected, `a[` is rejected, `a<` is rejected
example : cssRule [97, 123] [] = none := by decide +kernel
example : cssRule [97, 91] [] = none := by decide +kernel
example : cssRule [97, 60] [] = none := by decide +kernel

-- the parser-level clause of `C16_statement` on the accepted instance `a[b="}"]{c:d;}`: a single closed qualified rule
example : (ruleList true (tokenize (Utf8.decodeRunes
    [97, 91, 98, 61, 34, 125, 34, 93, 123, 99, 58, 100, 59, 125]))).length = 1 := by decide +kernel
example : Oracle.C16.checkRule true (tokenize [97, 91, 98, 61, 34, 125, 34, 93]) (tokenize [99, 58, 100, 59])
    (tokenize [97, 91, 98, 61, 34, 125, 34, 93, 123, 99, 58, 100, 59, 125]) = true := by decide +kernel

/-- witness `url(x"){}b{"y)`: accepted by the unfixed logic, rejected by the fixed one -/
def witness : Bytes := [117, 114, 108, 40, 120, 34, 41, 123, 125, 98, 123, 34, 121, 41]

theorem witness_fixed_rejected : cssRule witness [] = none := by decide +kernel

theorem witness_unfixed_accepted : cssRuleWith false witness [] = some (witness ++ [123, 125]) := by decide +kernel

/-- … and a CSS Syntax 3 parser reads the accepted result `url(x"){}b{"y){}` as a bad-url token followed by
    TWO qualified rules (`<bad-url>{}` and `b{…`), i.e. the selector injected a rule: the unfixed code violates C16. -/
theorem C16_unfixed_false :
    (tokenizeC (Utf8.decodeRunes witness)).contains Tok.badUrl = true ∧
    (ruleList true (tokenize (Utf8.decodeRunes (witness ++ [123, 125])))).length = 2 := by
  decide +kernel


/-- the reviewed tree of `cssStringPattern` (strings end at LF, FF or CR — CSS newlines — and may contain
    backslash escapes of anything): the regenerated regex must be exactly this tree. Editing the regex in
    stylesheet.go breaks this obligation; the directed search then looks for a selector that fails the oracle. -/
def reviewedCssStringPattern : Rx.Re :=
  (.alt (.cat (.cls [(34, 34)]) (.cat (.star (.cap 1 (.alt (.cls [(0, 9), (11, 11), (14, 33), (35, 91), (93, 1114111)]) (.cat (.cls [(92, 92)]) (.cls [(0, 1114111)])))) true) (.cls [(34, 34)]))) (.cat (.cls [(39, 39)]) (.cat (.star (.cap 2 (.alt (.cls [(0, 9), (11, 11), (14, 38), (40, 91), (93, 1114111)]) (.cat (.cls [(92, 92)]) (.cls [(0, 1114111)])))) true) (.cls [(39, 39)]))))

theorem rx_cssStringPattern_reviewed :
    SafeHtml.Generated.Regexes.safehtml_cssStringPattern = reviewedCssStringPattern := by decide +kernel

end SafeHtml.Props.C16
