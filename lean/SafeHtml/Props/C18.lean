/-
C18 — Identifier constructors admit only [A-Za-z][-_A-Za-z0-9]*, keep constant prefix.
Only property statements, their Rx obligations and non-vacuity examples live here.
-/
import SafeHtml.Model.Identifier
import SafeHtml.Proofs.Tactics
import SafeHtml.Proofs.RxAscii
namespace SafeHtml.Props.C18
open SafeHtml SafeHtml.Rx SafeHtml.Model SafeHtml.Generated.Regexes

/-- byte-level recogniser of `[-_A-Za-z0-9]` -/
def isIdentTail (c : Nat) : Bool := c == 45 || c == 95 || isAlnum c

/-- the independent byte-level recogniser of `[A-Za-z][-_A-Za-z0-9]*` -/
def specIdent : Bytes → Bool
  | [] => false
  | c :: t => isAlpha c && t.all isIdentTail

/-! ### Rx obligations: the regenerated regexes mean what the statement says. -/

theorem rx_startsWithAlphabet (s : Bytes) :
    matchString safehtml_startsWithAlphabetPattern s =
      match s with
      | [] => false
      | b :: _ => isAlpha b := by
  unfold safehtml_startsWithAlphabetPattern
  rw [match_bot_cls_bytes _ (by decide)]
  cases s with
  | nil => rfl
  | cons b t =>
    simp only [inCls, List.any, isAlpha, isLowerAlpha, isUpperAlpha, Bool.or_false]
    cls_arith

theorem rx_onlyAlphanumericsOrHyphen (s : Bytes) :
    matchString safehtml_onlyAlphanumericsOrHyphenPattern s = s.all isIdentTail := by
  unfold safehtml_onlyAlphanumericsOrHyphenPattern
  rw [match_bot_star_eot_bytes _ (by decide)]
  congr 1
  funext b
  simp only [inCls, List.any, isIdentTail, isAlnum, isDigit, isAlpha, isLowerAlpha, isUpperAlpha, Bool.or_false]
  cls_arith

/-! ### Property theorems -/

/-- `IdentifierFromConstant` returns its argument, and only if it is a spec identifier. -/
theorem C18_const (v r : Bytes) (h : identifierFromConstant v = some r) :
    specIdent r = true ∧ r = v := by
  unfold identifierFromConstant at h
  rw [rx_startsWithAlphabet, rx_onlyAlphanumericsOrHyphen] at h
  cases v with
  | nil => simp at h
  | cons c t =>
    simp only [List.all_cons] at h
    cases hA : isAlpha c <;> cases hC : isIdentTail c <;> cases hT : t.all isIdentTail <;>
      simp [hA, hC, hT] at h
    subst h
    simp [specIdent, hA, hT]

/-- With a prefix: result is `prefix-value`, a spec identifier; the dynamic part only adds `[-_A-Za-z0-9]`. -/
theorem C18_prefix (p v r : Bytes) (h : identifierFromConstantPrefix p v = some r) :
    specIdent r = true ∧ r = p ++ [45] ++ v ∧ v.all isIdentTail = true := by
  unfold identifierFromConstantPrefix at h
  rw [rx_startsWithAlphabet, rx_onlyAlphanumericsOrHyphen, rx_onlyAlphanumericsOrHyphen] at h
  cases p with
  | nil => simp at h
  | cons c t =>
    simp only [List.all_cons] at h
    cases hA : isAlpha c <;> cases hC : isIdentTail c <;> cases hT : t.all isIdentTail <;>
      cases hV : v.all isIdentTail <;> simp [hA, hC, hT, hV] at h
    subst h
    refine ⟨?_, by simp, rfl⟩
    simp only [List.all_eq_true] at hT hV
    simp only [specIdent, hA, Bool.true_and, List.all_eq_true]
    intro x hx
    simp only [List.mem_append, List.mem_cons] at hx
    rcases hx with hx | hx | hx
    · exact hT x hx
    · subst hx; decide
    · exact hV x hx

/-- completeness: every spec identifier is accepted (the constructors reject nothing they should take) -/
theorem C18_const_complete (v : Bytes) (h : specIdent v = true) : identifierFromConstant v = some v := by
  unfold identifierFromConstant
  rw [rx_startsWithAlphabet, rx_onlyAlphanumericsOrHyphen]
  cases v with
  | nil => simp [specIdent] at h
  | cons c t =>
    simp only [specIdent, Bool.and_eq_true] at h
    have h2 : isIdentTail c = true := by
      simp [isIdentTail, isAlnum, h.1]
    simp [h.1, h.2, h2]

/-- a value with any byte outside `[-_A-Za-z0-9]` (newline, NUL, non-ASCII…) panics -/
theorem C18_prefix_rejects (p v : Bytes) (b : Nat) (hb : b ∈ v) (hbad : isIdentTail b = false) :
    identifierFromConstantPrefix p v = none := by
  unfold identifierFromConstantPrefix
  rw [rx_onlyAlphanumericsOrHyphen v]
  have : v.all isIdentTail = false := by
    rw [Bool.eq_false_iff]; intro hall
    rw [List.all_eq_true] at hall
    have := hall b hb; simp [hbad] at this
  simp [this]

/-! ### Non-vacuity -/
-- "a-b_9", prefix "pre" value "x-1", value "x\n", "9a"
example : identifierFromConstant [97, 45, 98, 95, 57] = some [97, 45, 98, 95, 57] := by decide +kernel
example : identifierFromConstantPrefix [112, 114, 101] [120, 45, 49] = some [112, 114, 101, 45, 120, 45, 49] := by decide +kernel
example : identifierFromConstantPrefix [112, 114, 101] [120, 10] = none := by decide +kernel
example : identifierFromConstant [57, 97] = none := by decide +kernel

end SafeHtml.Props.C18

