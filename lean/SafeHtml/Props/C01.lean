/-
C01 — template markup structure is never altered by untrusted data. For every value / byte string: what the engine
emits for untrusted data in element content, RCDATA and quoted attribute values is in `Esc` (no `< > " '` NUL, every
`&` a complete reference), a comment position emits nothing; `Esc` text cannot move an HTML5 tokenizer (Spec/HtmlTok,
a transcription of the WHATWG tokenizer independent of the engine) out of the data / RCDATA state or a quoted
attribute value; positions where no escaping could be inert are refused (C04_positions). That the context the engine
infers for a static prefix is the tokenizer's state after it (layer 3) is proved for a grammar of simple static texts
(`Proofs/Layer3`: `layer3_simple`) and with it the whole statement for straight-line templates over that grammar
(`Proofs/Layer3E2E`: `C01_straight_line`). NOT proved: layer 3 for all template texts. It is false of the current
code for the known findings script-comment, foreign-rawtext, split-name, conditional-special-name; outside the
grammar it is checked by the correspondence run and the tokenizer oracle on the real output.
-/
import SafeHtml.Props.C02
import SafeHtml.Proofs.HtmlTokStep
import SafeHtml.Model.Tmpl.Api
namespace SafeHtml.Props.C01
open SafeHtml SafeHtml.Model SafeHtml.Model.Tmpl SafeHtml.Spec SafeHtml.Spec.HtmlTok
open SafeHtml.Props.C02 (Untrusted)

/-! ### 1. emitted bytes are inert -/

/-- element content: every value that carries no safe type (`Untrusted`) comes out escaped -/
theorem C01_text_inert (v o : Value) (hv : Untrusted v) (h : runFn fnHTML v = .ok o) :
    ∃ s, o = .str s ∧ Esc s = true := by
  simp only [runFn, fnHTML, typedOr] at h
  split at h
  · next t b hi => exact absurd hi (hv t b)
  · cases hs : stringify v with
    | none => simp [hs, Except.map] at h
    | some s =>
      simp only [hs, Except.map] at h
      cases h
      exact ⟨_, rfl, C10.C10_inert s⟩

/-- RCDATA (title, textarea): every value, even a safehtml.HTML, comes out escaped -/
theorem C01_rcdata_inert (v o : Value) (h : runFn "_sanitizeRCDATA" v = .ok o) :
    ∃ s, o = .str s ∧ Esc s = true := by
  simp only [runFn] at h
  cases hs : stringify v with
  | none => simp [hs, Except.map] at h
  | some s =>
    simp only [hs, Except.map] at h
    cases h
    exact ⟨_, rfl, C10.C10_inert s⟩

/-- quoted attribute values: every value of every type -/
theorem C01_attr_inert (v : Validators) (c : Ctx) (chain : List String) (val o : Value)
    (hc : sanitizersForAttributeValue v c = some chain) (hr : runChain chain val = .ok o) :
    ∃ s, o = .str s ∧ Esc s = true := C03.C03_attr_escaped v c chain val o hc hr

/-- comments: nothing is emitted -/
theorem C01_comment_empty (v : Value) : runFn fnHTMLComment v = .ok (.str []) := rfl

/-! ### 2. inert text does not move the tokenizer -/

theorem Esc_no_special : ∀ (s : Bytes), Esc s = true → ∀ c ∈ s, c ≠ 60 ∧ c ≠ 62 ∧ c ≠ 34 ∧ c ≠ 39 ∧ c ≠ 0
  | [], _, c, hc => by simp at hc
  | d :: t, h, c, hc => by
    simp only [Spec.Esc, Bool.and_eq_true] at h
    rcases List.mem_cons.1 hc with rfl | hc
    · by_cases h38 : c = 38
      · subst h38; decide
      · have := h.1
        simp only [beq_iff_eq, h38, if_false, isSpecial, Bool.not_eq_true', Bool.or_eq_false_iff, beq_eq_false_iff_ne] at this
        omega
    · exact Esc_no_special t h.2 c hc

/-- Inert text does not move the tokenizer: after any prefix `pre` that leaves the tokenizer in the data or
    RCDATA state or inside a quoted attribute value, feeding `Esc` text `x` leaves the state, the tokens emitted so
    far, the tag name, the attribute names and every other register unchanged: only the pending character data
    (`txt`) or the current attribute value (`av`) is extended by `x`. -/
theorem C01_esc_inert (pre x : Bytes) (hx : Esc x = true) (hp : InertPos (run {} pre).st) :
    let t := run {} pre
    run {} (pre ++ x) =
      (if t.st = .attrValueDq ∨ t.st = .attrValueSq then { t with av := x.reverse ++ t.av }
       else { t with txt := x.reverse ++ t.txt }) := by
  intro t
  have hs := Esc_no_special x hx
  rw [run_append]
  rcases hp with h | h | h | h
  · rw [run_data x _ h (fun c hc => (hs c hc).1)]; simp [t, h]
  · rw [run_rcdata x _ h (fun c hc => (hs c hc).1)]; simp [t, h]
  · rw [run_dq x _ h (fun c hc => (hs c hc).2.2.1)]; simp [t, h]
  · rw [run_sq x _ h (fun c hc => (hs c hc).2.2.2.1)]; simp [t, h]

/-- the tokenizer state and the tokens emitted up to that point do not depend on the data -/
theorem C01_esc_same_state (pre x y : Bytes) (hx : Esc x = true) (hy : Esc y = true)
    (hp : InertPos (run {} pre).st) :
    (run {} (pre ++ x)).st = (run {} (pre ++ y)).st ∧ (run {} (pre ++ x)).toks = (run {} (pre ++ y)).toks ∧
    (run {} (pre ++ x)).name = (run {} (pre ++ y)).name ∧ (run {} (pre ++ x)).an = (run {} (pre ++ y)).an ∧
    (run {} (pre ++ x)).attrs = (run {} (pre ++ y)).attrs := by
  have h1 := C01_esc_inert pre x hx hp
  have h2 := C01_esc_inert pre y hy hp
  simp only at h1 h2
  rw [h1, h2]
  split <;> simp

/-! ### 3. positions and end context -/

/-- no action is accepted inside a tag name, an attribute name, after an attribute name, or in the unquoted value of
    an attribute whose name the engine has recorded (the last conjunct is the shape of `C04_positions`' hypothesis;
    it holds of every context in state `attr`) -/
theorem C01_positions (v : Validators) (c : Ctx)
    (h : c.state = .tag ∨ c.state = .attrName ∨ c.state = .afterName ∨
      (c.state = .attr ∧ (c.attrName ≠ [] ∨ c.attrNames ≠ []) ∧ c.delim ≠ .dq ∧ c.delim ≠ .sq ∧
        ¬ (c.elemNames = [] ∧ c.elemName = [] ∧ c.state = .text))) :
    sanitizerForContext v c = none := C04.C04_positions v c h

/-- a template is accepted only if its analysis ends in the text context without error -/
theorem C01_end_context (w : World) (ns : Nat) (name : String) (w' : World)
    (h : escapeTemplateTop w ns name = .inr (w', none)) :
    ∃ e c x, escapeTree { text := (w.ns ns).text, nsHas := fun n => (alookup (w.ns ns).set n).isSome,
                          csp := (w.ns ns).csp, v := w.v } w.fuel (w.ns ns).esc {} name = .ok (e, c, x) ∧
      c.state = .text ∧ c.err = none := by
  unfold escapeTemplateTop at h
  simp only at h
  split at h
  · cases h
  · cases h
  · next e c x heq =>
    refine ⟨e, c, x, heq, ?_⟩
    split at h
    · cases h
    · next hf =>
      unfold finalError at hf
      split at hf
      · next he => rw [hf] at he; cases he
      · split at hf
        · cases hf
        · next hn he =>
          constructor
          · simpa using he
          · cases hc : c.err with
            | none => rfl
            | some _ => simp [hc] at hn

/-! ### the full statement (data-independence of the token skeleton) -/

/-- C01 for one action: the same static prefix and suffix around two untrusted values.
    PROVED in Proofs/HtmlTokSim.lean (`C01_one_action`, and `C01_n_actions` for any number of actions) by a simulation
    relation over all tokenizer states. -/
def C01_one_action_statement : Prop :=
  ∀ pre post x y : Bytes, Esc x = true → Esc y = true → InertPos (run {} pre).st →
    skeleton (HtmlTok.tokenize (pre ++ x ++ post)).tokens = skeleton (HtmlTok.tokenize (pre ++ y ++ post)).tokens ∧
    (HtmlTok.tokenize (pre ++ x ++ post)).final = (HtmlTok.tokenize (pre ++ y ++ post)).final

/-! ### non-vacuity -/
-- `<a title="` puts the tokenizer inside a double-quoted value; `<p>` in data; `<title>` in RCDATA
example : (run {} (B "<a title=\"")).st = .attrValueDq := by decide +kernel
example : (run {} (B "<p>")).st = .data := by decide +kernel
example : (run {} (B "<title>")).st = .rcdata := by decide +kernel
example : Esc (htmlEscaped (B "\"><script>")) = true := C10.C10_inert _

end SafeHtml.Props.C01
