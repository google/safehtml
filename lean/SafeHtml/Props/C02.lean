/-
C02 — untrusted strings never reach code contexts; URLs never become javascript:. On the regenerated tables and
regexes: the policy gives event-handler, style and srcdoc attributes, script / style bodies and code-loading URLs a
typed-only context or refuses them (reviewed policy + `C04_attr`); a typed-only sanitizer fails on EVERY value not of
its safe type; a value sanitized at the start of a URL attribute never has the `javascript` scheme once the browser
has decoded the escaper's character references. The full statement (any number of actions, loop iterations and
called templates per attribute) is FALSE of the current code: `C02_false_split_scheme` (known findings split-scheme,
srcset-static-prefix, rel-dynamic, split-name, range-reentry-sanitizer).
-/
import SafeHtml.Props.C03
import SafeHtml.Props.C04
import SafeHtml.Props.C11
import SafeHtml.Props.C14
namespace SafeHtml.Props.C02
open SafeHtml SafeHtml.Model SafeHtml.Model.Tmpl SafeHtml.Spec SafeHtml.Spec.Policy SafeHtml.Spec.UrlScheme
open SafeHtml.Reviewed.Policy SafeHtml.Generated.Policy

/-! ### run time -/

/-- a value that carries no safehtml type (through any number of pointers) -/
def Untrusted (v : Value) : Prop := ∀ t b, v.indirect ≠ .safe t b

def typedOnlyFns : List String :=
  ["_sanitizeHTMLValOnly", "_sanitizeIdentifier", "_sanitizeScript", "_sanitizeStyle", "_sanitizeStyleSheet",
   "_sanitizeTrustedResourceURL"]

/-- typed-only sanitizers reject every untrusted value (execution fails instead of emitting it) -/
theorem C02_typed_only (f : String) (hf : f ∈ typedOnlyFns) (v : Value) (hv : Untrusted v) :
    runFn f v = .error .sanitizer := by
  have key : Model.Tmpl.typedOnly (C03.allowedFn f) v = .error .sanitizer := by
    unfold Model.Tmpl.typedOnly
    split
    · next t b h => exact absurd h (hv t b)
    · rfl
  rw [C03.runFn_typedOnly f hf, key]
  rfl

/-- … and so does every chain that starts with one -/
theorem C02_typed_only_chain (f : String) (fs : List String) (hf : f ∈ typedOnlyFns) (v : Value) (hv : Untrusted v) :
    runChain (f :: fs) v = .error .sanitizer := by
  simp [runChain, C02_typed_only f hf v hv, bind, Except.bind]

/-- nothing is emitted at a comment position, whatever the value -/
theorem C02_comment (v : Value) : runFn fnHTMLComment v = .ok (.str []) := rfl

/-- a wrong safe type is as untrusted as a string: e.g. a safehtml.HTML in a script body -/
theorem C02_wrong_type (f : String) (hf : f ∈ typedOnlyFns) (t : SafeT) (b : Bytes)
    (ht : (C03.allowedFn f).contains t = false) : runFn f (.safe t b) = .error .sanitizer := by
  rw [C03.runFn_typedOnly f hf, C03.typedOnly_safe, ht]
  rfl

/-! ### policy (reviewed tables, every element / attribute / rel) -/

theorem attrCtx_cases (T : Tabs) (isData : Bytes → Bool) (e a rel : Bytes) (s : Cx)
    (h : attrCtx T isData e a rel = some s) :
    (e = linkB ∧ a = hrefB ∧ relHit T rel = true ∧ s = .known .TrustedResourceURLOrURL) ∨
    (isData a = true ∧ s = .known .None) ∨ (a, e, s) ∈ T.specific ∨ (a, s) ∈ T.global := by
  unfold attrCtx at h
  split at h
  · next hc =>
    simp only [Bool.and_eq_true, beq_iff_eq] at hc
    cases h; exact Or.inl ⟨hc.1.1, hc.1.2, hc.2, rfl⟩
  · unfold fallthrough at h
    split at h
    · next hd => cases h; exact Or.inr (Or.inl ⟨hd, rfl⟩)
    · split at h
      · next s' hs => cases h; exact Or.inr (Or.inr (Or.inl (C04.lookup2_mem _ _ _ _ hs)))
      · split at h
        · next s' hs =>
          split at h
          · cases h; exact Or.inr (Or.inr (Or.inr (C04.lookup1_mem _ _ _ hs)))
          · cases h
        · cases h

def onB : Bytes := [111, 110]
def styleB : Bytes := [115, 116, 121, 108, 101]
def srcdocB : Bytes := [115, 114, 99, 100, 111, 99]

theorem isDataAttr_d (a : Bytes) (h : isDataAttr a = true) : ∃ t, a = 100 :: t := by
  unfold isDataAttr at h
  split at h
  · next b0 b1 b2 b3 b4 c t =>
    simp only [Bool.and_eq_true, beq_iff_eq] at h
    exact ⟨_, by rw [h.1]⟩
  · cases h

theorem reviewed_on (e a rel : Bytes) (h : onB.isPrefixOf a = true) : reviewedAttr e a rel = none := by
  cases hv : reviewedAttr e a rel with
  | none => rfl
  | some s =>
    exfalso
    rcases attrCtx_cases _ _ _ _ _ _ hv with ⟨_, ha, _, _⟩ | ⟨hd, _⟩ | hm | hm
    · subst ha; revert h; decide
    · obtain ⟨t, rfl⟩ := isDataAttr_d a hd
      revert h; simp [onB, List.isPrefixOf]
    · have hall : (revTabs.specific.all fun r => !onB.isPrefixOf r.1) = true := by decide +kernel
      have := List.all_eq_true.1 hall _ hm
      simp [h] at this
    · have hall : (revTabs.global.all fun r => !onB.isPrefixOf r.1) = true := by decide +kernel
      have := List.all_eq_true.1 hall _ hm
      simp [h] at this

theorem reviewed_fixed (a : Bytes) (s0 : Cx) (hd : isDataAttr a = false) (hh : a ≠ hrefB)
    (hs : (revTabs.specific.all fun r => r.1 != a || r.2.2 == s0) = true)
    (hg : (revTabs.global.all fun r => r.1 != a || r.2 == s0) = true)
    (e rel : Bytes) : reviewedAttr e a rel = none ∨ reviewedAttr e a rel = some s0 := by
  cases hv : reviewedAttr e a rel with
  | none => exact Or.inl rfl
  | some s =>
    refine Or.inr (congrArg some ?_)
    rcases attrCtx_cases _ _ _ _ _ _ hv with ⟨_, ha, _, _⟩ | ⟨hd', _⟩ | hm | hm
    · exact absurd ha hh
    · rw [hd] at hd'; cases hd'
    · simpa using List.all_eq_true.1 hs _ hm
    · simpa using List.all_eq_true.1 hg _ hm

theorem reviewed_style (e rel : Bytes) :
    reviewedAttr e styleB rel = none ∨ reviewedAttr e styleB rel = some (.known .Style) :=
  reviewed_fixed styleB _ (by decide) (by decide) (by decide +kernel) (by decide +kernel) e rel

theorem reviewed_srcdoc (e rel : Bytes) :
    reviewedAttr e srcdocB rel = none ∨ reviewedAttr e srcdocB rel = some (.known .HTMLValOnly) :=
  reviewed_fixed srcdocB _ (by decide) (by decide) (by decide +kernel) (by decide +kernel) e rel

/-- code-loading URL attributes: (element, attribute) -/
def codeUrlAttrs : List (Bytes × Bytes) :=
  [(B "script", B "src"), (B "iframe", B "src"), (B "frame", B "src"), (B "embed", B "src"),
   (B "object", B "data"), (B "base", B "href")]

theorem reviewed_code_url (e a rel : Bytes) (h : (e, a) ∈ codeUrlAttrs) :
    reviewedAttr e a rel = none ∨ reviewedAttr e a rel = some (.known .TrustedResourceURL) := by
  have hne : ∀ p ∈ codeUrlAttrs, (p.1 == linkB) = false := by decide +kernel
  have hl := hne _ h
  simp only at hl
  have : reviewedAttr e a rel = fallthrough revTabs isDataAttr e a := by
    unfold reviewedAttr attrCtx; simp [hl]
  rw [this]
  have hall : ∀ p ∈ codeUrlAttrs, fallthrough revTabs isDataAttr p.1 p.2 = none ∨
      fallthrough revTabs isDataAttr p.1 p.2 = some (.known .TrustedResourceURL) := by decide +kernel
  exact hall _ h

def stylesheetB : Bytes := B "stylesheet"

theorem reviewed_link_stylesheet (rel : Bytes) (h : (Model.Tmpl.fields rel).contains stylesheetB = true) :
    reviewedAttr linkB hrefB rel = some (.known .TrustedResourceURL) := by
  have hr : relHit revTabs rel = false := by
    unfold relHit
    rw [Bool.and_eq_false_iff]; right
    rw [Bool.eq_false_iff]; intro hall
    have hm : stylesheetB ∈ Model.Tmpl.fields rel := by simpa using h
    have := List.all_eq_true.1 hall _ hm
    revert this; decide +kernel
  unfold reviewedAttr attrCtx
  simp only [hr, Bool.and_false, Bool.false_eq_true, if_false]
  decide +kernel

/-! ### transfer to the engine's policy (regenerated tables) through C04 -/

theorem model_refused (e a rel : Bytes) (h : reviewedAttr e a rel = none) :
    sanitizationContextForAttrVal e a rel = none := by
  have := C04.C04_attr e a rel
  rw [h] at this
  cases hv : sanitizationContextForAttrVal e a rel with
  | none => rfl
  | some sc => rw [hv] at this; simp [leqOpt] at this

/-- the reviewed context an engine context stands for -/
def rscOf : SC → RSC
  | .AsyncEnum => .AsyncEnum | .DirEnum => .DirEnum | .HTML => .HTML | .HTMLValOnly => .HTMLValOnly
  | .Identifier => .Identifier | .LoadingEnum => .LoadingEnum | .None => .None | .RCDATA => .RCDATA
  | .Script => .Script | .Style => .Style | .StyleSheet => .StyleSheet | .TargetEnum => .TargetEnum
  | .TrustedResourceURL => .TrustedResourceURL | .TrustedResourceURLOrURL => .TrustedResourceURLOrURL
  | .URL => .URL | .URLSet => .URLSet

theorem cxOfName_name (sc : SC) : cxOfName sc.name = .known (rscOf sc) := by cases sc <;> rfl

/-- `rscOf` keeps the position in the enumeration (both list the contexts alphabetically) -/
theorem rscOf_inj (sc sc0 : SC) (h : rscOf sc = rscOf sc0) : sc = sc0 := by
  have k : ∀ s, (rscOf s).ctorIdx = s.ctorIdx := fun s => by cases s <;> rfl
  rw [← SC.ofNat_ctorIdx sc, ← SC.ofNat_ctorIdx sc0, ← k, ← k, h]

theorem geStrict_typedOnly {g r : RSC} (hr : Spec.Policy.typedOnly r = true)
    (h : geStrict (.known g) (.known r) = true) : g = r := by
  revert h
  cases r <;> first | exact absurd hr (by decide) | simp [geStrict, Spec.Policy.typedOnly, Spec.Policy.isEnum]

theorem model_typed (e a rel : Bytes) (sc0 : SC) (hr : Spec.Policy.typedOnly (rscOf sc0) = true)
    (h : reviewedAttr e a rel = none ∨ reviewedAttr e a rel = some (.known (rscOf sc0))) :
    sanitizationContextForAttrVal e a rel = none ∨ sanitizationContextForAttrVal e a rel = some sc0 := by
  rcases h with h | h
  · exact Or.inl (model_refused e a rel h)
  · have := C04.C04_attr e a rel
    cases hv : sanitizationContextForAttrVal e a rel with
    | none => exact Or.inl rfl
    | some sc =>
      rw [hv, h, Option.map, cxOfName_name] at this
      exact Or.inr (congrArg some (rscOf_inj sc sc0 (geStrict_typedOnly hr this)))

/-- event handlers: an action inside the value of any `on…` attribute of any element is rejected -/
theorem C02_event_handler (e a rel : Bytes) (h : onB.isPrefixOf a = true) :
    sanitizationContextForAttrVal e a rel = none :=
  model_refused e a rel (reviewed_on e a rel h)

/-- style attribute: refused or the typed-only Style context -/
theorem C02_style_attr (e rel : Bytes) :
    sanitizationContextForAttrVal e styleB rel = none ∨ sanitizationContextForAttrVal e styleB rel = some .Style :=
  model_typed _ _ _ .Style rfl (reviewed_style e rel)

/-- srcdoc: refused or the typed-only HTMLValOnly context -/
theorem C02_srcdoc (e rel : Bytes) :
    sanitizationContextForAttrVal e srcdocB rel = none ∨
      sanitizationContextForAttrVal e srcdocB rel = some .HTMLValOnly :=
  model_typed _ _ _ .HTMLValOnly rfl (reviewed_srcdoc e rel)

/-- code-loading URLs need a TrustedResourceURL (or are refused), for every rel value -/
theorem C02_code_url (e a rel : Bytes) (h : (e, a) ∈ codeUrlAttrs) :
    sanitizationContextForAttrVal e a rel = none ∨
      sanitizationContextForAttrVal e a rel = some .TrustedResourceURL :=
  model_typed _ _ _ .TrustedResourceURL rfl (reviewed_code_url e a rel h)

/-- stylesheet links: whenever the rel tokens include `stylesheet`, whatever else they include -/
theorem C02_link_stylesheet (rel : Bytes) (h : (Model.Tmpl.fields rel).contains stylesheetB = true) :
    sanitizationContextForAttrVal linkB hrefB rel = none ∨
      sanitizationContextForAttrVal linkB hrefB rel = some .TrustedResourceURL :=
  model_typed _ _ _ .TrustedResourceURL rfl (Or.inr (reviewed_link_stylesheet rel h))

/-- script and style element bodies are typed-only contexts -/
theorem C02_bodies :
    sanitizationContextForElementContent (B "script") = some .Script ∧
    sanitizationContextForElementContent (B "style") = some .StyleSheet := by decide +kernel

/-- element bodies: an action directly inside a script (style) element — whatever state the body scanner is in,
    as long as it is not a tag, attribute or comment position — gets exactly the chain `[_sanitizeScript]`
    (`[_sanitizeStyleSheet]`), which fails on every untrusted value -/
theorem C02_body_chain (v : Validators) (c : Ctx) (val : Value) (hu : Untrusted val)
    (hn : c.elemNames = [] ∧ c.attrName = [] ∧ c.attrNames = [])
    (hs : c.state ≠ .tag ∧ c.state ≠ .attrName ∧ c.state ≠ .afterName ∧ c.state ≠ .htmlCmt)
    (he : c.elemName = [115, 99, 114, 105, 112, 116] ∨ c.elemName = [115, 116, 121, 108, 101]) :
    ∃ chain, sanitizerForContext v c = some chain ∧ runChain chain val = .error .sanitizer := by
  have hb1 : sanitizationContextForElementContent [115, 99, 114, 105, 112, 116] = some .Script := by decide +kernel
  have hb2 : sanitizationContextForElementContent [115, 116, 121, 108, 101] = some .StyleSheet := by decide +kernel
  rcases he with he | he
  · refine ⟨["_sanitizeScript"], ?_, C02_typed_only_chain _ _ (by decide) val hu⟩
    unfold sanitizerForContext sanitizerForElementContent
    simp [hs.1, hs.2.1, hs.2.2.1, hs.2.2.2, hn.1, hn.2.1, hn.2.2, he, hb1, allSame, appendIfNotEmpty,
      SC.sanitizerName]
  · refine ⟨["_sanitizeStyleSheet"], ?_, C02_typed_only_chain _ _ (by decide) val hu⟩
    unfold sanitizerForContext sanitizerForElementContent
    simp [hs.1, hs.2.1, hs.2.2.1, hs.2.2.2, hn.1, hn.2.1, hn.2.2, he, hb2, allSame, appendIfNotEmpty,
      SC.sanitizerName]

/-! ### the chain in a typed-only attribute context fails on every untrusted value -/

def typedSC (sc : SC) : Bool := sc == .Style || sc == .HTMLValOnly || sc == .Identifier || sc == .Script || sc == .StyleSheet

theorem typedSC_facts (sc : SC) (h : typedSC sc = true) :
    sc.isURLorTRU = false ∧ sc.sanitizerName ∈ typedOnlyFns ∧ sc.sanitizerName ≠ "" := by
  cases sc <;> first | exact absurd h (by decide) | exact ⟨rfl, by decide, by decide⟩

/-- single element / attribute name (the common case; the multi-name case requires all pairs to agree) -/
theorem C02_attr_chain_typed (v : Validators) (c : Ctx) (sc : SC) (chain : List String) (val : Value)
    (hn : c.elemNames = [] ∧ c.attrNames = [])
    (hsc : sanitizationContextForAttrVal c.elemName c.attrName c.linkRel = some sc) (ht : typedSC sc = true)
    (hc : sanitizersForAttributeValue v c = some chain) (hu : Untrusted val) :
    runChain chain val = .error .sanitizer := by
  obtain ⟨sc0, hsc0, hcase⟩ := C03.attr_chain_cases v c chain hc
  rw [C03.attrSC_single hn.1 hn.2, hsc, Option.some.injEq] at hsc0
  subst hsc0
  obtain ⟨hurl, hmem, hne⟩ := typedSC_facts sc ht
  rw [if_pos hurl, if_neg hne] at hcase
  subst hcase
  exact C02_typed_only_chain _ _ hmem val hu

/-- at the start of a TrustedResourceURL attribute the chain fails on every untrusted value -/
theorem C02_tru_start (val : Value) (hu : Untrusted val) :
    runChain ["_sanitizeTrustedResourceURL", fnNormalizeURL, fnHTML] val = .error .sanitizer :=
  C02_typed_only_chain _ _ (by decide) val hu

/-! ### URL start: never `javascript:` after the browser's decoding -/

theorem norm_no_js (t : Bytes) (h : isSafeURL t = true) : whatwgScheme (normalizeURL t) ≠ some javascript := by
  intro hj
  obtain ⟨pfx, q, hy, hpfx, hjs⟩ := UrlSchemeFacts.whatwg_js_shape _ hj
  have hin : ∀ b ∈ pfx, isAlpha b = true := by
    intro b hb
    rcases hpfx b hb with h1 | h1
    · have := (C14.C14_norm_alphabet t b (by rw [hy]; simp [hb])).1
      omega
    · exact h1
  have h37 : ∀ b ∈ pfx ++ [58], b ≠ 37 := by
    intro b hb
    rcases List.mem_append.1 hb with hb | hb
    · have := hin b hb
      intro h37; subst h37; revert this; decide
    · simp at hb; omega
  obtain ⟨t', ht, _⟩ := Proofs.UrlProc.proc_prefix true (pfx ++ [58]) t q h37 (by
    show normalizeURL t = _; rw [hy]; simp)
  -- `shape_rejected` is about what a parser sees after any decoder obeying `DecLaw`; here nothing is decoded
  have : isSafeURL t = false :=
    C11.shape_rejected id ⟨rfl, fun _ _ _ => rfl⟩ t pfx t' (by simpa using ht) hpfx hjs
  rw [h] at this; cases this

theorem sanitized_safe (s : Bytes) : isSafeURL (urlSanitized s) = true := by
  rcases C11.C11_shape s with h | h
  · rw [h]; exact C11.returned_isSafe s h
  · rw [h]; exact C11.innocuous_isSafe ▸ (by rw [← C11.gen_innocuousURL])

theorem bad_printable : ∀ b : Fin 127, 32 ≤ b.val → (isBadRune b.val = false) := by decide +kernel

theorem refCoerce_printable : ∀ (x : Bytes), (∀ b ∈ x, 32 ≤ b ∧ b < 127) → refCoerce x = x
  | [], _ => by simp [refCoerce, Utf8.decodeRunes, Utf8.decodeSyms, Utf8.decodeAux, Utf8.encodeRunes]
  | b :: t, h => by
    have hb := h b (by simp)
    have ih := refCoerce_printable t (fun c hc => h c (by simp [hc]))
    unfold refCoerce Utf8.decodeRunes at *
    rw [Utf8.decodeSyms_cons_ascii b t (by omega)]
    simp only [List.map_cons, Utf8.encodeRunes, List.flatMap_cons]
    have hbad : isBadRune b = false := bad_printable ⟨b, by omega⟩ hb.1
    simp only [coerceRune, hbad, Bool.false_eq_true, if_false]
    rw [Utf8.encodeRune_ascii b (by omega)]
    simp only [Utf8.encodeRunes] at ih
    rw [ih]; rfl

theorem url_chain_eq (s : Bytes) :
    runChain ["_sanitizeURL", fnNormalizeURL, fnHTML] (.str s) =
      .ok (.str (htmlEscaped (normalizeURL (urlSanitized s)))) := by
  simp [runChain, runFn, fnNormalizeURL, fnHTML, typedOr, Value.indirect, stringify, Value.sprint, Except.map,
    bind, Except.bind]

theorem url_out (s : Bytes) :
    unescape5 (htmlEscaped (normalizeURL (urlSanitized s))) = normalizeURL (urlSanitized s) ∧
    whatwgScheme (unescape5 (htmlEscaped (normalizeURL (urlSanitized s)))) ≠ some javascript := by
  have h : unescape5 (htmlEscaped (normalizeURL (urlSanitized s))) = normalizeURL (urlSanitized s) := by
    rw [C10.C10_roundtrip]
    exact refCoerce_printable _ fun b hb => by have := C14.C14_norm_alphabet _ b hb; omega
  exact ⟨h, by rw [h]; exact norm_no_js _ (sanitized_safe s)⟩

/-- URL start: for every untrusted string `s` placed by `{{.}}` at the start of a URL attribute
    (chain `_sanitizeURL, _normalizeURL, _sanitizeHTML`), the attribute value the browser obtains by decoding the
    emitted character references never has the `javascript` scheme as a WHATWG URL parser reads it. -/
theorem C02_url_start (s : Bytes) :
    ∃ out, runChain ["_sanitizeURL", fnNormalizeURL, fnHTML] (.str s) = .ok (.str out) ∧
      unescape5 out = normalizeURL (urlSanitized s) ∧
      whatwgScheme (unescape5 out) ≠ some javascript :=
  ⟨_, url_chain_eq s, url_out s⟩

/-- the same chain for the URL-or-TrustedResourceURL context (link href with a plain-URL rel) -/
theorem C02_url_start_link (s : Bytes) :
    ∃ out, runChain ["_sanitizeTrustedResourceURLOrURL", fnNormalizeURL, fnHTML] (.str s) = .ok (.str out) ∧
      whatwgScheme (unescape5 out) ≠ some javascript := by
  refine ⟨htmlEscaped (normalizeURL (urlSanitized s)), ?_, (url_out s).2⟩
  simp [runChain, runFn, fnNormalizeURL, fnHTML, typedOr, Value.indirect, stringify, Value.sprint, Except.map,
    bind, Except.bind]

/-! ### several actions in one URL attribute: the full statement is false -/

/-- clause 2 of the property for two adjacent actions `href="{{.A}}{{.B}}"`: the concatenation of the two emitted
    pieces, decoded, never has the javascript scheme -/
def C02_two_actions_statement : Prop :=
  ∀ a b oa ob : Bytes,
    runChain ["_sanitizeURL", fnNormalizeURL, fnHTML] (.str a) = .ok (.str oa) →
    runChain ["_sanitizeURL", fnNormalizeURL, fnHTML] (.str b) = .ok (.str ob) →
    whatwgScheme (unescape5 (oa ++ ob)) ≠ some javascript

/-- FALSE of the current code (known finding `split-scheme`): "java" + "script:x" -/
theorem C02_false_split_scheme : ¬ C02_two_actions_statement := by
  intro h
  have := h (B "java") (B "script:x") _ _ (url_chain_eq _) (url_chain_eq _)
  apply this
  decide +kernel

end SafeHtml.Props.C02
