/-
C06 — execution results depend only on definitions, name and data, not on history.
Theorems over the API state machine; the property itself (equality with a freshly built set) is applied
to the REAL results of every generated history by `Oracle.Hist.c06`.
-/
import SafeHtml.Proofs.ApiLemmas
import SafeHtml.Model.Tmpl.PrefixLite
import SafeHtml.Props.C05
namespace SafeHtml.Props.C06
open SafeHtml SafeHtml.Model.Tmpl

/-- Repeating a call returns the same result (analysed template). Executing an already analysed template
    does not touch the set beyond the (already set) executed flag, and its result is a function of the
    committed text set and the data. -/
theorem C06_repeat_ok (w : World) (h oid : Nat) (o : TObj) (d : Value)
    (ho : w.obj h = some (oid, o)) (hs : o.status = .ok) :
    apiExecute w h d =
      (w.setNs o.ns { w.ns o.ns with escaped := true },
       textExecute (w.setNs o.ns { w.ns o.ns with escaped := true }) o d) := by
  unfold apiExecute
  simp [ho, hs]

/-- the committed trees are not touched by executing: the text set after the call is the one before -/
theorem C06_exec_ok_keeps_text (w : World) (h oid : Nat) (o : TObj) (d : Value)
    (ho : w.obj h = some (oid, o)) (hs : o.status = .ok) :
    ((apiExecute w h d).1.ns o.ns).text = (w.ns o.ns).text := by
  rw [C06_repeat_ok w h oid o d ho hs]; simp [ns_setNs_same]

/-- A second Execute of an analysed template returns exactly what the first returned: same bytes, same error
    class. (That no action is rewritten a second time is the reason, not the statement: see `C06_repeat_ok`.) -/
theorem C06_repeat_same (w : World) (h oid : Nat) (o : TObj) (d : Value)
    (ho : w.obj h = some (oid, o)) (hs : o.status = .ok) :
    (apiExecute (apiExecute w h d).1 h d).2 = (apiExecute w h d).2 := by
  have h1 := C06_repeat_ok w h oid o d ho hs
  rw [h1]
  show (apiExecute (w.setNs o.ns { w.ns o.ns with escaped := true }) h d).2 = _
  rw [apiExecute_setEscaped ho, h1]

theorem C06_repeat_failed (w : World) (h oid : Nat) (o : TObj) (c : ErrCode) (d : Value)
    (ho : w.obj h = some (oid, o)) (hs : o.status = .failed c) :
    (apiExecute (apiExecute w h d).1 h d).2 = (apiExecute w h d).2 := by
  rw [C05.C05_failed_exec _ h oid o c d (C05.C05_failed_stays w h oid o c d ho hs) hs,
    C05.C05_failed_exec w h oid o c d ho hs]

/-! ### the full property and what is proved of it

The property: for every history `hist` over a set with definitions `D` and every Execute\* call `op`,
`result (run (define D ++ hist) op) = result (run (define D) op)` (bytes written and error-ness).

Proved here: the repetition clauses above. Independence from executions of OTHER members:
* once a template is analysed, no later analysis in the set (successful or failed) changes what it executes, from
  every reachable state (`Proofs.Frozen.C09_frozen_reachable`, `apiExecute_frozen`);
* the first analysis does not depend on earlier ones for templates without calls
  (`Proofs.Independence.C06_callfree_reachable`) and for templates calling call-free ones in the text context
  (`Proofs.IndependenceCalls.C06_textcalls_reachable`, `C06_textcalls_step`);
* at `Api.step` level, for arbitrary earlier `Execute` calls, for four template shapes
  (`Proofs.Layer3Repeat3.C06_result_history_independent_*`) and for every single-template set
  (`Proofs.Layer3Repeat4.C06_result_history_independent_any_single`).
First-analysis independence for templates with calls in general is not proved (it is false without excluding the
known findings memo-ignores-attr-prefix and mangled-name-collision). The property is decided on every run by the
oracle on real results (`res = fresh` for every Execute\* step of every generated history, real code against real
code). The library commits it relies on (known_findings.json `fixed:` lines) repair three defects: the memo stored
the assumed context (30cff09), derived templates were copied from rewritten trees (69f1131), a failed analysis
cleared trees that callers use (ad1d636). -/

end SafeHtml.Props.C06
