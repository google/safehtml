/-
C09 — concurrent execution of a template set is race-free and equals sequential. `Model/Conc.lean` (`serializable`):
for calls of the shape "lock mu; critical section; unlock mu; unlocked read-only phase" every schedule gives each
call its result in the serial run ordered by critical sections, PROVIDED the unlocked phases are stable under later
critical sections (`Stable`). Here: the lock discipline that justifies that shape, over the REGENERATED go/ast +
go/types facts of template/*.go (`Generated/LockFacts.lean`), and the statement of stability for the API model.
Stability is proved for reachable worlds in Proofs/Frozen.lean (`C09_frozen_reachable`; it needs library commit
d3401ea, before which an analysis error could be lost through the memo) and is false over all worlds
(`Frozen.C09_frozen_statement_false`); Proofs/ConcApi.lean and Proofs/ConcReach.lean put the parts together
(`C09_api_serializable_reachable`).
-/
import SafeHtml.Model.Conc
import SafeHtml.Generated.LockFacts
import SafeHtml.Props.C06
namespace SafeHtml.Props.C09
open SafeHtml SafeHtml.Model.Conc SafeHtml.Generated.LockFacts

/-! ### lock discipline over the regenerated facts -/

-- the fact tables have a few hundred rows; kernel evaluation of folds over them nests deeper than the default limit
set_option maxRecDepth 20000

/-- the concurrent API of the property text -/
def apiRoots : List String :=
  ["Template.Execute", "Template.ExecuteTemplate", "Template.ExecuteToHTML", "Template.ExecuteTemplateToHTML",
   "Template.Lookup", "Template.Templates", "Template.Name", "Template.DefinedTemplates"]

def idOf (name : String) : Option Nat :=
  let rec go (l : List String) (i : Nat) : Option Nat :=
    match l with
    | [] => none
    | x :: t => if x == name then some i else go t (i + 1)
  go funcs 0

/-- is location `l` protected by nameSpace.mu? (`w`: the access is a write) -/
def protectedAccess (l : Nat) (w : Bool) : Bool :=
  match locs[l]? with
  | some (owner, field) =>
    owner == "nameSpace" || owner == "escaper" ||
    (owner == "Template" && (field == "escapeErr" || field == "Tree")) ||
    (owner == "parse" && w)
  | none => true

/-- one round: functions called WITHOUT the lock from a function already known to run unlocked -/
def expand (s : List Nat) : List Nat :=
  calls.foldl (fun acc c => if !c.2.2 && acc.contains c.1 && !acc.contains c.2.1 then c.2.1 :: acc else acc) s

def iter : Nat → List Nat → List Nat
  | 0, s => s
  | n+1, s => iter n (expand s)

/-- functions that may run without `mu` held when the API is entered without it. Any number of rounds would do
    in place of 6: that the result is closed is checked (`unlockedReach_closed`), not assumed. -/
def unlockedReach : List Nat := iter 6 (apiRoots.filterMap idOf)

/-- functions that (transitively) acquire `mu`; the 6 again is arbitrary, see `lockers_closed` -/
def lockers : List Nat :=
  let step (s : List Nat) : List Nat :=
    calls.foldl (fun acc c => if acc.contains c.2.1 && !acc.contains c.1 then c.1 :: acc else acc) s
  let rec go : Nat → List Nat → List Nat
    | 0, s => s
    | n+1, s => go n (step s)
  go 6 locks

/-- every API root exists in the source -/
theorem roots_exist : apiRoots.all (fun r => (idOf r).isSome) = true := by decide +kernel

/-- Both facts about `unlockedReach` in one kernel evaluation, so that the closure is computed once. -/
theorem unlocked_discipline :
    accesses.all (fun a => !(unlockedReach.contains a.1 && !a.2.2.2 && protectedAccess a.2.1 a.2.2.1)) = true ∧
      expand unlockedReach = unlockedReach := by
  decide +kernel

/-- Lock discipline: no function that can run without the mutex touches a protected location outside a
    locked region of its own. -/
theorem C09_protected_only_under_lock :
    accesses.all (fun a => !(unlockedReach.contains a.1 && !a.2.2.2 && protectedAccess a.2.1 a.2.2.1)) = true :=
  unlocked_discipline.1

theorem unlockedReach_closed : expand unlockedReach = unlockedReach := unlocked_discipline.2

theorem lockers_discipline :
    calls.all (fun c => !(lockers.contains c.2.1 && !lockers.contains c.1)) = true ∧
      calls.all (fun c => !(c.2.2 && lockers.contains c.2.1)) = true ∧ lockers.length ≥ locks.length := by
  decide +kernel

theorem lockers_closed :
    calls.all (fun c => !(lockers.contains c.2.1 && !lockers.contains c.1)) = true := lockers_discipline.1

/-- No self-deadlock: with the mutex held no function is called that (transitively) takes it again. -/
theorem C09_no_relock : calls.all (fun c => !(c.2.2 && lockers.contains c.2.1)) = true := lockers_discipline.2.1

/-- the executing entry points have the shape assumed by `Model.Conc`: they run unlocked, call a function that takes
    the mutex (the critical section), and call text/template's Execute outside it -/
theorem C09_exec_shape :
    (match idOf "Template.Execute", idOf "Template.escape", idOf "Template.ExecuteTemplate", idOf "Template.lookupAndEscapeTemplate" with
     | some ex, some es, some ext, some le =>
       calls.contains (ex, es, false) && calls.contains (ext, le, false) && locks.contains es && locks.contains le &&
       accesses.any (fun a => a.1 == ex && !a.2.2.2 && locs[a.2.1]? == some ("text", "Execute")) &&
       accesses.any (fun a => a.1 == ext && !a.2.2.2 && locs[a.2.1]? == some ("text", "Execute"))
     | _, _, _, _ => false) = true := by decide +kernel

/-! ### serializability -/

theorem C09_serializable {S R1 R : Type} {U : Call S R1 R → Prop} {Inv : S → Prop} {Done : Call S R1 R → R1 → S → Prop}
    (hst : Stable U Inv Done) (y : Sys S R1 R) (hinv : Inv y.s)
    (hfresh : ∀ t ∈ y.thr, t.pending = none ∧ t.done = [] ∧ ∀ c ∈ t.todo, U c) (evs : List Ev)
    (i : Nat) (ta tb : Thr S R1 R) (ha : (run y evs).thr[i]? = some ta) (hb : (runSerial y evs).thr[i]? = some tb)
    (hidle : ta.pending = none) : ta.done = tb.done ∧ (run y evs).s = (runSerial y evs).s :=
  serializable_results hst y hinv hfresh evs i ta tb ha hb hidle

/-! ### the API model -/
open SafeHtml.Model.Tmpl

/-- calls whose critical section does not change the shared state at all (Lookup, Templates, Name, DefinedTemplates,
    and Execute* of a template whose analysis has already succeeded or failed, once the `escaped` flag is set):
    for them the stability conditions hold trivially -/
def settled {S R1 R : Type} (c : Call S R1 R) : Prop := ∀ s, (c.crit s).1 = s

theorem C09_settled_partial {S R1 R : Type} :
    Stable (fun c : Call S R1 R => settled c) (fun _ => True) (fun _ _ _ => True) where
  inv_crit := fun _ _ _ _ => trivial
  done_est := fun _ _ _ _ => trivial
  done_pres := fun _ _ _ _ _ _ _ _ => trivial
  post_stable := fun c r d s _ hd _ _ => by rw [hd s]

-- (An Execute of an analysed template changes nothing but the `escaped` flag, which is already set after the first
-- execution of the set: `C06.C06_repeat_ok`, `C06.C06_exec_ok_keeps_text`.)

/-- the stability condition for concurrent FIRST executions, quantified over ALL worlds: what an analysed template
    executes is not changed by a later analysis in the same set. For reachable worlds this is
    `Proofs.Frozen.C09_frozen_reachable`; over all worlds it is false (`Proofs.Frozen.C09_frozen_statement_false`). -/
def C09_frozen_statement : Prop :=
  ∀ (w w' : World) (ns : Nat) (other : String) (o : TObj) (d : Value),
    o.ns = ns → o.status = .ok → o.registered = true →
    escapeTemplateTop w ns other = .inr (w', none) →
    textExecute w' o d = textExecute w o d

/-! ### non-vacuity -/
example : apiRoots.length = 8 := rfl
example : lockers.length ≥ locks.length := lockers_discipline.2.2

end SafeHtml.Props.C09
