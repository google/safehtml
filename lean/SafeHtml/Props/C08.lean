/-
C08 — the template API is total: problems are returned as errors, never panics or hangs.
The model makes Go panics explicit (`Out.panic`, `Res.panic` at exactly the program points where Go
would panic) and every model function is a total Lean function on an explicit fuel argument.
-/
import SafeHtml.Proofs.ApiLemmas
import SafeHtml.Model.Tmpl.PrefixLite
namespace SafeHtml.Props.C08
open SafeHtml SafeHtml.Model.Tmpl

def isPanic : Ret → Bool
  | .exec (.panic _) => true
  | .html (.panic _) => true
  | _ => false

/-- New, Parse\*, Clone, Lookup, Templates, CSPCompatible never panic (for every state, every argument). -/
theorem C08_nonexec_total (w : World) (op : Op)
    (h : match op with
      | .exec .. | .execT .. | .execHTML .. | .execTHTML .. => False
      | _ => True) :
    isPanic (Api.step w op).2 = false := by
  -- only the four Execute ops answer `.exec` / `.html`; every other op answers `.done` or `.unbound`
  cases op with
  | exec | execT | execHTML | execTHTML => exact h.elim
  | assocNew | csp => simp only [Api.step]; split <;> rfl
  | new | parse | clone | lookup | templates => rfl

/-- {{break}} / {{continue}} (and comment nodes) are analysis errors, not panics. -/
theorem C08_break_continue (env : Env) (f : Nat) (tn : String) (e : Esc) (c : Ctx) (id : Nat) :
    escapeNode env (f + 1) tn e c (.brk id) = .ok (e, Ctx.errorCtx .escapeAction) ∧
    escapeNode env (f + 1) tn e c (.cont id) = .ok (e, Ctx.errorCtx .escapeAction) ∧
    escapeNode env (f + 1) tn e c (.comment id) = .ok (e, Ctx.errorCtx .escapeAction) := by
  refine ⟨?_, ?_, ?_⟩ <;> simp [escapeNode]

/-- A callee without a parse tree is an analysis error, not a nil dereference. -/
theorem C08_nil_tree_is_error (env : Env) (f : Nat) (e : Esc) (c : Ctx) (name : String)
    (hc : c.state ≠ .error)
    (hmemo : alookup e.output (mangle c name) = none)
    (ht : e.template env name = some none) :
    ∃ e', escapeTree env (f + 1) e c name = .ok (e', Ctx.errorCtx .noSuchTemplate, mangle c name) := by
  unfold escapeTree
  have hce : (c.state == State.error) = false := by simpa using hc
  simp only [hmemo, hce, Bool.false_eq_true, if_false]
  -- the escaper the lookup runs on differs from `e` in `called` only; `Esc.template` reads `derived` and `env`
  split
  · rename_i h; unfold Esc.template at h ht; simp only [] at h; rw [ht] at h; cases h
  · exact ⟨_, rfl⟩
  · rename_i tr h; unfold Esc.template at h ht; simp only [] at h; rw [ht] at h; cases h

/-- An analysis error never reaches execution: Execute returns the error and the bytes written are empty. -/
theorem C08_error_not_panic (w : World) (h oid : Nat) (o : TObj) (d : Value) (w' : World) (code : ErrCode)
    (ho : w.obj h = some (oid, o)) (hs : o.status = .unset) (ht : o.treeNil = false)
    (hq : escapeTemplateTop (w.setNs o.ns { w.ns o.ns with escaped := true }) o.ns o.name = .inr (w', some code)) :
    apiExecute w h d = (w', .err (analysisCls code) []) := by
  unfold apiExecute
  simp [ho, hs, ht, hq]

/-! ### the full property and what is proved of it

The property: for every template text the parser accepts, every data value and every history,
`isPanic (Api.step w op).2 = false` for every reachable `w`, and the fuel the driver supplies is never
exhausted (no hang).

Proved: the non-executing operations are total in every state; `{{break}}`/`{{continue}}` and a callee without a
tree are analysis errors (`C08_break_continue` requires library commit 1b0dc53, `C08_nil_tree_is_error` commit
cc7bcdc: without them Go panics at these two points), and since commit ad1d636 a failed analysis clears no tree, so
no caller of a failed template executes a nil tree (see C06).  Of the remaining explicit panic sites of the model,
`Proofs.NoPanic3.C08_step_panics` excludes all but two in worlds built from well-formed trees (`infinite loop in
escapeText` and the nil `Tree` of a cloned template remain); sufficiency of the fuel is proved only for the analysis of trees
without `{{template}}` nodes (`Proofs.NoPanic4.top_no_fuel_nocalls`).  These are decided on every run by the oracle (`Oracle.Hist.c08`: no step of
any generated history — nor of its fresh-set replays — may return `panic` or `timeout` on the REAL code), with the
model's panic site as classification.
-/

/-- non-vacuity: a range loop with {{break}} fails to analyse (and does not panic) -/
example :
    let w := (Api.step (Api.step { v := liteValidators, fuel := 40 } (.new 0 "t")).1
      (.parse 0 [{ name := "t", root := .cons (.rangeN 0 { cmds := [{ args := [.dot] }] } (.cons (.brk 1) .nil) .nil) .nil }])).1
    (Api.step w (.exec 0 .noValue)).2.str = "err:analysis:ErrEscapeAction -" := by
  decide +kernel

end SafeHtml.Props.C08
