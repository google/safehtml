/-
C13 — TrustedResourceURL builders confine dynamic parts to where the format puts them. Model: Model/Tru.lean +
Model/UrlUtil.lean (trustedresourceurl.go, safehtmlutil.go, including library commits 003f920: the assembled URL is
checked again for "..", also in Append; e889d4f: an empty or backslash argument cannot turn a path-absolute format
into a network-path reference; 5fae79d: ASCII letters instead of `(?i)` in the safe-prefix pattern; the examples at
the end show an input each of them refuses). The obligations tying the proofs to the regenerated regexes and tables
are `rx_prefix`, `rx_dotdot`, `lensB_marker` and `urlKeeps_false_eq` in Proofs/C13*.lean. All theorems hold for ALL
byte strings / argument lists (bytes are arbitrary `Nat`s; only the decoding round trip needs `Bytes.wf`).
-/
import SafeHtml.Model.Tru
import SafeHtml.Spec.TruUrl
import SafeHtml.Proofs.C13Escape
import SafeHtml.Proofs.C13Format
import SafeHtml.Proofs.C13Prefix
import SafeHtml.Proofs.C13DotDot
import SafeHtml.Proofs.C13Params
namespace SafeHtml.Props.C13
open SafeHtml SafeHtml.Model SafeHtml.Spec.Rfc3986 SafeHtml.Spec.TruUrl SafeHtml.Proofs.C13

/-! ### QueryEscapeURL -/

/-- `QueryEscapeURL a` is `a` percent-encoded down to unreserved characters: it is the spec encoder,
    lies in `(unreserved | %hh)*`, and decodes back to `a`. -/
theorem C13_unreserved (a : Bytes) :
    queryEscapeURL a = pctEncodeAll a ∧ isUnreservedOrPct (queryEscapeURL a) = true ∧
      (Bytes.wf a → pctDecode (queryEscapeURL a) = a) := by
  refine ⟨queryEscapeURL_eq a, ?_, ?_⟩
  · rw [queryEscapeURL_eq]; exact pctEncodeAll_unreservedOrPct a
  · intro h; rw [queryEscapeURL_eq]; exact pctDecode_pctEncodeAll a h

/-- no byte of an escaped argument is a structural delimiter (`/ ? # : @ [ ] \`) -/
theorem C13_unreserved_no_delim (a : Bytes) : ∀ b ∈ queryEscapeURL a, isDelim b = false := by
  rw [queryEscapeURL_eq]; exact pctEncodeAll_no_delim a

/-! ### TrustedResourceURLFormatFromConstant / FromFlag -/

/-- success ⇒ the format starts with `https://<origin>/`, `//<origin>/`, `/<pathStart>` or
    `about:blank#` (ASCII reading). -/
theorem C13_prefix (fmt : Bytes) (args : Args) (r : Bytes)
    (h : trustedResourceURLFormat fmt args = some r) : safePrefix fmt = true := by
  have := (format_some fmt args r h).1
  rwa [rx_prefix] at this

/-- success ⇒ every label has an argument, and the result is the format with every `%{label}`
    replaced by the argument percent-encoded down to unreserved characters. -/
theorem C13_subst (fmt : Bytes) (args : Args) (r : Bytes)
    (h : trustedResourceURLFormat fmt args = some r) :
    (∀ l ∈ labels fmt, (args.lookup l).isSome = true) ∧
      r = subst (fun l => pctEncodeAll ((args.lookup l).getD [])) fmt := by
  obtain ⟨_, hl, hr, _⟩ := format_some fmt args r h
  refine ⟨?_, hr⟩
  intro l hlab
  obtain ⟨v, hv, _⟩ := hl l hlab
  simp [hv]

/-- a missing argument is an error -/
theorem C13_missing (fmt : Bytes) (args : Args) (l : Bytes) (hl : l ∈ labels fmt)
    (hm : args.lookup l = none) : trustedResourceURLFormat fmt args = none := by
  cases h : trustedResourceURLFormat fmt args with
  | none => rfl
  | some r =>
    have := (C13_subst fmt args r h).1 l hl
    simp [hm] at this

theorem netPath_of_slashes (t : Bytes) (h : safePrefix (47 :: 47 :: t) = true) :
    ∃ m, originPrefixLen (47 :: 47 :: t) = some (m + 2) := by
  rcases safePrefix_forms _ h with h1 | h1 | h1
  · have hci : ciPrefix litHttps (47 :: 47 :: t) = false := by simp [ciPrefix, litHttps, asciiLower, isUpperAlpha]
    simp only [originPrefixLen, hci, Bool.false_and, Bool.false_eq_true, if_false, netPathLen] at h1 ⊢
    cases ho : originSlashLen t with
    | none => simp [ho] at h1
    | some m => exact ⟨m, by simp⟩
  · simp [pathAbsolute] at h1
  · simp [ciPrefix, litAboutBlank, asciiLower, isUpperAlpha] at h1

/-- the arguments cannot change scheme or host, nor add a path segment, query or fragment:
    (1) the sequence of structural delimiters `/ ? # : @ [ ] \` of the result is that of the format
        with the markers deleted;
    (2) if the format has the `https://<origin>/` or `//<origin>/` form, those bytes (scheme,
        authority and the terminating slash) are literally the first bytes of the result, and the
        result has the same form with the same length;
    (3) the result starts with `//` iff the format does, and never with `/\`. -/
theorem C13_components (fmt : Bytes) (args : Args) (r : Bytes)
    (h : trustedResourceURLFormat fmt args = some r) :
    skeleton r = skeleton (subst (fun _ => []) fmt) ∧
    (∀ n, originPrefixLen fmt = some n → r.take n = fmt.take n ∧ originPrefixLen r = some n) ∧
    ([47, 47] : Bytes).isPrefixOf r = ([47, 47] : Bytes).isPrefixOf fmt ∧
    ([47, 92] : Bytes).isPrefixOf r = false := by
  obtain ⟨_, _, hr, _, hnet⟩ := format_some fmt args r h
  have hsafe := C13_prefix fmt args r h
  have hpre : ∀ n, originPrefixLen fmt = some n → r.take n = fmt.take n ∧ originPrefixLen r = some n := by
    intro n hn
    obtain ⟨hle, hpct⟩ := originPrefixLen_spec fmt n hn
    have hsplit : fmt = fmt.take n ++ fmt.drop n := (List.take_append_drop n fmt).symm
    have hr' : r = fmt.take n ++ subst (fun l => pctEncodeAll ((args.lookup l).getD [])) (fmt.drop n) := by
      rw [hr]
      conv => lhs; rw [hsplit]
      exact subst_lit_prefix _ _ _ hpct
    have hlen : (fmt.take n).length = n := by simp; omega
    refine ⟨?_, ?_⟩
    · rw [hr', List.take_append_of_le_length (by omega), List.take_of_length_le (by omega)]
    · rw [hr']; exact originPrefixLen_prefix fmt _ n hn
  refine ⟨?_, hpre, ?_⟩
  · rw [hr]; exact skeleton_subst _ _ (fun l => skeleton_pctEncodeAll _)
  · cases hf : ([47, 47] : Bytes).isPrefixOf fmt with
    | false => exact ⟨(hnet hf).1, (hnet hf).2⟩
    | true =>
      have : ∃ t, fmt = 47 :: 47 :: t := by
        match fmt, hf with
        | [], hf => simp [List.isPrefixOf] at hf
        | [a], hf => simp [List.isPrefixOf] at hf
        | a :: b :: t, hf =>
          simp only [List.isPrefixOf, Bool.and_eq_true, beq_iff_eq, Bool.and_true] at hf
          exact ⟨t, by rw [← hf.1, ← hf.2]⟩
      obtain ⟨t, ht⟩ := this
      subst ht
      obtain ⟨m, hm⟩ := netPath_of_slashes t hsafe
      have := (hpre _ hm).1
      match r, this with
      | a :: b :: r', this =>
        simp only [List.take_succ_cons, List.cons.injEq] at this
        obtain ⟨h1, h2, _⟩ := this
        subst h1; subst h2
        simp [List.isPrefixOf]
      | [a], this => simp at this
      | [], this => simp at this

/-- the arguments — alone or together — cannot make the path climb: the result contains no two
    adjacent dots in any encoding (`..`, `.%2e`, `%2E.`, …), hence no path segment of the result is a
    double-dot segment, so `remove_dot_segments` never removes a segment the format spells out. -/
theorem C13_no_climb (fmt : Bytes) (args : Args) (r : Bytes)
    (h : trustedResourceURLFormat fmt args = some r) :
    hasDoubleDot r = false ∧ ∀ seg ∈ segments (split r).path, isDotDotSeg seg = false := by
  obtain ⟨_, _, _, hdd, _⟩ := format_some fmt args r h
  rw [rx_dotdot] at hdd
  exact ⟨hdd, no_dotdot_segment r hdd⟩

/-! ### TrustedResourceURLAppend -/

theorem C13_append (t s r : Bytes) (h : trustedResourceURLAppend t s = some r) :
    safePrefix t = true ∧ r = t ++ pctEncodeAll s ∧ skeleton r = skeleton t ∧
    (∀ n, originPrefixLen t = some n → r.take n = t.take n ∧ originPrefixLen r = some n) ∧
    hasDoubleDot r = false ∧ ∀ seg ∈ segments (split r).path, isDotDotSeg seg = false := by
  unfold trustedResourceURLAppend at h
  cases hp : isSafeTrustedResourceURLPrefix t
  · simp [hp] at h
  simp only [hp, Bool.not_true, Bool.false_eq_true, if_false] at h
  cases hdd : urlContainsDoubleDotSegment (t ++ queryEscapeURL s)
  case true => simp [hdd] at h
  simp only [hdd, Bool.false_eq_true, if_false, Option.some.injEq] at h
  subst h
  rw [rx_prefix] at hp
  rw [rx_dotdot] at hdd
  rw [queryEscapeURL_eq] at hdd ⊢
  refine ⟨hp, rfl, ?_, ?_, hdd, no_dotdot_segment _ hdd⟩
  · simp only [skeleton, List.filter_append]
    have := skeleton_pctEncodeAll s
    simp only [skeleton] at this
    rw [this, List.append_nil]
  · intro n hn
    obtain ⟨hle, _⟩ := originPrefixLen_spec t n hn
    refine ⟨List.take_append_of_le_length hle, ?_⟩
    have : t ++ pctEncodeAll s = t.take n ++ (t.drop n ++ pctEncodeAll s) := by
      rw [← List.append_assoc, List.take_append_drop]
    rw [this]; exact originPrefixLen_prefix t _ n hn

/-! ### TrustedResourceURLWithParams -/

/-- the result does not depend on the order of the parameter list (Go: on map iteration order) -/
theorem C13_params_perm (t : Bytes) (p₁ p₂ : Args) (h : p₁.Perm p₂) :
    trustedResourceURLWithParams t p₁ = trustedResourceURLWithParams t p₂ :=
  withParams_perm t p₁ p₂ h

/-- pairs with an empty key or value are skipped; if nothing remains the URL is returned unchanged -/
theorem C13_params_nothing (t : Bytes) (ps : Args) (h : ∀ kv ∈ ps, kv.1 = [] ∨ kv.2 = []) :
    trustedResourceURLWithParams t ps = t := by
  apply withParams_nothing
  unfold encodeParams
  rw [List.filterMap_eq_nil_iff]
  intro kv hkv
  rcases h kv hkv with h | h <;> simp [h]

/-- only the query component changes: scheme, authority, path and fragment are those of the base, and
    the new query is the old one (if any, and non-empty, followed by `&`) followed by the added text -/
theorem C13_params_only_query (t : Bytes) (ps : Args) (h : encodeParams ps ≠ []) :
    (split (trustedResourceURLWithParams t ps)).scheme = (split t).scheme ∧
    (split (trustedResourceURLWithParams t ps)).authority = (split t).authority ∧
    (split (trustedResourceURLWithParams t ps)).path = (split t).path ∧
    (split (trustedResourceURLWithParams t ps)).fragment = (split t).fragment ∧
    (split (trustedResourceURLWithParams t ps)).query =
      some (match (split t).query with
        | none => addedQuery ps
        | some [] => addedQuery ps
        | some (c :: q) => (c :: q) ++ 38 :: addedQuery ps) :=
  withParams_split t ps h

/-- new keys and values are percent-encoded: the added text is `k=v` items joined by `&`, sorted, and
    contains only unreserved bytes, `%`, `=` and `&` -/
theorem C13_params_encoded (ps : Args) :
    addedQuery ps = joinAmp (sortStrings (encodeParams ps)) ∧
    (∀ b ∈ addedQuery ps, isUnreserved b = true ∨ b = 37 ∨ b = 61 ∨ b = 38) ∧
    (sortStrings (encodeParams ps)).Pairwise (fun a b => bytesLe a b = true) ∧
    (sortStrings (encodeParams ps)).Perm (encodeParams ps) :=
  ⟨rfl, addedQuery_bytes ps, sortStrings_sorted _, sortStrings_perm _⟩

/-! ### Non-vacuity (kernel evaluation of the model on the regenerated regexes) -/
-- "/d/%{a}%{b}", a=".", b="x" ↦ "/d/.x"
example : trustedResourceURLFormat [47,100,47,37,123,97,125,37,123,98,125] [([97],[46]),([98],[120])] = some [47,100,47,46,120] := by decide +kernel
-- adjacent-dot (refused since commit 003f920): "/d/%{a}%{b}", a=".", b="." is rejected
example : trustedResourceURLFormat [47,100,47,37,123,97,125,37,123,98,125] [([97],[46]),([98],[46])] = none := by decide +kernel
-- netpath-empty-arg (refused since commit e889d4f): "/%{a}/e", a="" is rejected (would be "//e")
example : trustedResourceURLFormat [47,37,123,97,125,47,101] [([97],[])] = none := by decide +kernel
-- missing argument
example : trustedResourceURLFormat [47,37,123,97,125,47,101] [] = none := by decide +kernel
-- "/d%{a}", a="/" ↦ "/d%2f"
example : trustedResourceURLFormat [47,100,37,123,97,125] [([97],[47])] = some [47,100,37,50,102] := by decide +kernel
-- fold (refused since commit 5fae79d): "httpſ://x/" (U+017F) is rejected
example : trustedResourceURLFormat [104,116,116,112,0xC5,0xBF,58,47,47,120,47] [] = none := by decide +kernel
-- append-dotdot (refused since commit 003f920): Append("/a/", "..") is rejected; Append("/a/", "b/") ↦ "/a/b%2f"
example : trustedResourceURLAppend [47,97,47] [46,46] = none := by decide +kernel
example : trustedResourceURLAppend [47,97,47] [98,47] = some [47,97,47,98,37,50,102] := by decide +kernel
-- WithParams("/a?q#f", {b:1, "":x, a:&}) ↦ "/a?q&a=%26&b=1#f"
example : trustedResourceURLWithParams [47,97,63,113,35,102] [([98],[49]),([],[120]),([97],[38])] =
    [47,97,63,113,38,97,61,37,50,54,38,98,61,49,35,102] := by decide +kernel

end SafeHtml.Props.C13
