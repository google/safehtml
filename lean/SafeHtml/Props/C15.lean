/-
C15 — StyleFromProperties emits exactly the declared CSS declarations, nothing else.
Statements, Rx / table obligations, non-vacuity examples. Helper lemmas: Proofs/RxCss.lean.
(The modelled code has `[+\-.]` in safeRegularPropertyValuePattern, library commit 42d9c5e; with the earlier
 `[+-.]`, a range, `rx_regular_class` fails at byte 44 `,`.)
-/
import SafeHtml.Model.Style
import SafeHtml.Spec.CssParse
import SafeHtml.Proofs.RxCss
import SafeHtml.Proofs.RxAscii
import SafeHtml.Proofs.Tactics
namespace SafeHtml.Props.C15
open SafeHtml SafeHtml.Rx SafeHtml.Model SafeHtml.Generated.Regexes SafeHtml.Generated.StyleFields
open SafeHtml.Spec.Css

/-! ### the documented alphabets (doc comment of `StyleProperties`) -/

def isEnumChar (c : Nat) : Bool := isAlpha c || c == 45

/-- alphanumerics, space, tab, and the set `+-.!#%_/*` -/
def docRegularChar (c : Nat) : Bool :=
  isAlnum c || c == 32 || c == 9 || c == 43 || c == 45 || c == 46 || c == 33 || c == 35 || c == 37 ||
  c == 95 || c == 47 || c == 42

/-- no `//`, `/*`, `*/` -/
def noCommentMarkers : List Nat → Bool
  | a :: b :: t =>
    !((a == 47 && b == 47) || (a == 47 && b == 42) || (a == 42 && b == 47)) && noCommentMarkers (b :: t)
  | _ => true

def docRegular (v : Bytes) : Bool := v.all docRegularChar && noCommentMarkers v
def docEnum (v : Bytes) : Bool := v.all isEnumChar

/-- the reviewed (documented) property names, in the documented order -/
def reviewedNames : List String :=
  ["background-image", "font-family", "display", "background-color", "background-position",
   "background-repeat", "background-size", "color", "height", "width", "left", "right", "top", "bottom",
   "font-weight", "padding", "z-index"]

/-! ### obligations on regenerated data -/

theorem fields_reviewed : fields.map (·.cssName) = reviewedNames := by decide +kernel

/-- the same names as bytes -/
def reviewedCss : List (List Nat) := [
   [98, 97, 99, 107, 103, 114, 111, 117, 110, 100, 45, 105, 109, 97, 103, 101],
   [102, 111, 110, 116, 45, 102, 97, 109, 105, 108, 121],
   [100, 105, 115, 112, 108, 97, 121],
   [98, 97, 99, 107, 103, 114, 111, 117, 110, 100, 45, 99, 111, 108, 111, 114],
   [98, 97, 99, 107, 103, 114, 111, 117, 110, 100, 45, 112, 111, 115, 105, 116, 105, 111, 110],
   [98, 97, 99, 107, 103, 114, 111, 117, 110, 100, 45, 114, 101, 112, 101, 97, 116],
   [98, 97, 99, 107, 103, 114, 111, 117, 110, 100, 45, 115, 105, 122, 101],
   [99, 111, 108, 111, 114],
   [104, 101, 105, 103, 104, 116],
   [119, 105, 100, 116, 104],
   [108, 101, 102, 116],
   [114, 105, 103, 104, 116],
   [116, 111, 112],
   [98, 111, 116, 116, 111, 109],
   [102, 111, 110, 116, 45, 119, 101, 105, 103, 104, 116],
   [112, 97, 100, 100, 105, 110, 103],
   [122, 45, 105, 110, 100, 101, 120]]

theorem fields_css_reviewed : fields.map (·.css) = reviewedCss := by decide +kernel

theorem fields_css_clean : ∀ f ∈ fields, ∀ c ∈ f.css, isEnumChar c = true := by decide +kernel

theorem pieces_reviewed :
    listSep = [44, 32] ∧ urlOpen = [117, 114, 108, 40, 34] ∧ urlClose = [34, 41] ∧ fontOpen = [34] ∧ fontClose = [34] := by
  decide +kernel

theorem innocuous_is_enum : Generated.Tables.innocuousPropertyValue.all isEnumChar = true := by decide +kernel

theorem rx_safeEnum (s : Bytes) :
    matchString safehtml_safeEnumPropertyValuePattern s = s.all isEnumChar := by
  unfold safehtml_safeEnumPropertyValuePattern
  rw [match_bot_star_eot_bytes _ (by decide)]
  congr 1
  funext b
  simp only [inCls, List.any, isEnumChar, isAlpha, isLowerAlpha, isUpperAlpha, Bool.or_false]
  cls_arith

/-- the two classes of the regenerated `safeRegularPropertyValuePattern` -/
def regA : List (Nat × Nat) := [(42, 42), (47, 47)]
def regS : List (Nat × Nat) :=
  [(9, 9), (32, 33), (35, 35), (37, 37), (43, 43), (45, 46), (48, 57), (65, 90), (95, 95), (97, 122)]

theorem rx_safeRegular (s : Bytes) :
    matchString safehtml_safeRegularPropertyValuePattern s = regOKs regA regS (Utf8.decodeSyms s) := by
  unfold safehtml_safeRegularPropertyValuePattern
  exact match_regular_shape _ _ s

theorem docRegularChar_ascii (c : Nat) (h : docRegularChar c = true) : c < 128 := by
  simp only [docRegularChar, isAlnum, isAlpha, isLowerAlpha, isUpperAlpha, isDigit, Bool.or_eq_true,
    Bool.and_eq_true, decide_eq_true_eq, beq_iff_eq] at h
  omega

/-- the "safe rune" class is the documented alphabet minus `*` and `/` (this is the lemma that fails for
    `[+-.]` as it stood before commit 42d9c5e, which also admits 44 `,`): both are ASCII-only, and agree on the 128 ASCII values -/
theorem rx_regular_class (c : Nat) :
    inCls regS c = (docRegularChar c && c != 42 && c != 47) :=
  Utf8.eq_of_ascii (q := fun c => docRegularChar c && c != 42 && c != 47) (inCls_ascii regS (by decide))
    (fun c h => docRegularChar_ascii c (by simp only [Bool.and_eq_true] at h; exact h.1.1)) (by decide +kernel) c

theorem rx_regular_classA (c : Nat) : inCls regA c = (c == 42 || c == 47) := by
  simp only [inCls, regA, List.any, Bool.or_false]
  cls_arith

theorem regA_doc {r : Nat} (h : inCls regA r = true) : docRegularChar r = true := by
  rw [rx_regular_classA, Bool.or_eq_true, beq_iff_eq, beq_iff_eq] at h
  rcases h with rfl | rfl <;> rfl

theorem regS_doc {r : Nat} (h : inCls regS r = true) : docRegularChar r = true ∧ r ≠ 42 ∧ r ≠ 47 := by
  simpa [rx_regular_class, and_assoc] using h

/-- a character other than `*` and `/` takes part in no comment marker: neither in front … -/
theorem ncm_cons_safe (d : Nat) (l : List Nat) (h : d ≠ 42 ∧ d ≠ 47) :
    noCommentMarkers (d :: l) = noCommentMarkers l := by
  cases l with
  | nil => rfl
  | cons x t =>
    have e : (d == 47) = false ∧ (d == 42) = false := by simp [h.1, h.2]
    rw [noCommentMarkers]; simp [e.1, e.2]

/-- … nor behind -/
theorem ncm_snd_safe (a d : Nat) (l : List Nat) (h : d ≠ 42 ∧ d ≠ 47) :
    noCommentMarkers (a :: d :: l) = noCommentMarkers l := by
  have e : (d == 47) = false ∧ (d == 42) = false := by simp [h.1, h.2]
  rw [noCommentMarkers, ncm_cons_safe d l h]; simp [e.1, e.2]

theorem ncm_of_safe : ∀ v : List Nat, (∀ x ∈ v, x ≠ 42 ∧ x ≠ 47) → noCommentMarkers v = true
  | [], _ => rfl
  | c :: t, h => by
    rw [ncm_cons_safe c t (h c (by simp))]
    exact ncm_of_safe t fun x hx => h x (by simp [hx])

/-- `(?:A?(?:S|$))*$` with `A` = `*`, `/` and `S` the rest of the alphabet: a `*` or `/` is followed by a
    character that is neither, so no comment marker arises -/
theorem regOKs_doc : ∀ syms : List Sym, regOKs regA regS syms = true →
    (syms.map (·.rune)).all docRegularChar = true ∧ noCommentMarkers (syms.map (·.rune)) = true
  | [], _ => ⟨rfl, rfl⟩
  | [c], h => by
    simp only [regOKs, Bool.and_true, Bool.or_eq_true] at h
    simp [h.elim regA_doc fun h => (regS_doc h).1, noCommentMarkers]
  | c :: d :: t, h => by
    simp only [regOKs, Bool.or_eq_true, Bool.and_eq_true] at h
    simp only [List.map_cons, List.all_cons, Bool.and_eq_true]
    rcases h with ⟨hA, hd, ht⟩ | ⟨hS, ht⟩
    · have ih := regOKs_doc t ht
      have hd := regS_doc hd
      exact ⟨⟨regA_doc hA, hd.1, ih.1⟩, by rw [ncm_snd_safe _ _ _ hd.2]; exact ih.2⟩
    · have ih := regOKs_doc (d :: t) ht
      have hS := regS_doc hS
      simp only [List.map_cons, List.all_cons, Bool.and_eq_true] at ih
      exact ⟨⟨hS.1, ih.1⟩, by rw [ncm_cons_safe _ _ hS.2]; exact ih.2⟩

/-- a value accepted by the regular pattern lies in the documented alphabet, without comment markers -/
theorem rx_safeRegular_doc (s : Bytes) (h : matchString safehtml_safeRegularPropertyValuePattern s = true) :
    docRegular s = true := by
  rw [rx_safeRegular] at h
  have hd := regOKs_doc _ h
  -- all runes are ASCII, so they are the bytes
  have hr : (Utf8.decodeSyms s).map (·.rune) = s :=
    Utf8.runes_eq_of_all_ascii s (List.all_eq_true.2 fun x hx => by
      simpa using docRegularChar_ascii _ (List.all_eq_true.1 hd.1 x.rune (List.mem_map_of_mem hx)))
  rw [hr] at hd
  simp [docRegular, hd.1, hd.2]

theorem innocuous_is_regular : docRegular Generated.Tables.innocuousPropertyValue = true := by decide +kernel

theorem isEnumChar_doc {c : Nat} (h : isEnumChar c = true) : docRegularChar c = true ∧ c ≠ 42 ∧ c ≠ 47 := by
  rcases Bool.or_eq_true_iff.1 h with ha | hd
  · refine ⟨by simp [docRegularChar, isAlnum, ha], ?_⟩
    simp only [isAlpha, isLowerAlpha, isUpperAlpha, Bool.or_eq_true, Bool.and_eq_true, decide_eq_true_eq] at ha
    omega
  · cases beq_iff_eq.1 hd; decide

theorem enum_doc (v : Bytes) (h : v.all isEnumChar = true) : docRegular v = true := by
  rw [List.all_eq_true] at h
  simp only [docRegular, Bool.and_eq_true, List.all_eq_true]
  exact ⟨fun x hx => (isEnumChar_doc (h x hx)).1, ncm_of_safe v fun x hx => (isEnumChar_doc (h x hx)).2⟩

/-! ### C15_filter -/

theorem filter_or (v : Bytes) (pat : Re) : filter v pat = v ∨ filter v pat = Generated.Tables.innocuousPropertyValue := by
  unfold filter
  split
  · exact .inr rfl
  · exact .inl rfl

/-- enum fields: inside the documented alphabet the value is kept, outside it becomes the innocuous value -/
theorem C15_filter_enum (v : Bytes) :
    filter v safehtml_safeEnumPropertyValuePattern =
      if docEnum v then v else Generated.Tables.innocuousPropertyValue := by
  unfold filter docEnum
  rw [rx_safeEnum]
  cases v.all isEnumChar <;> simp

/-- regular fields: a value outside the documented alphabet (or with a comment marker) becomes the innocuous value;
    whatever is emitted is the value itself or the innocuous value -/
theorem C15_filter_regular (v : Bytes) :
    (docRegular v = false → filter v safehtml_safeRegularPropertyValuePattern = Generated.Tables.innocuousPropertyValue) ∧
    (filter v safehtml_safeRegularPropertyValuePattern = v ∨
      filter v safehtml_safeRegularPropertyValuePattern = Generated.Tables.innocuousPropertyValue) := by
  refine ⟨fun hd => ?_, filter_or v _⟩
  unfold filter
  cases hm : matchString safehtml_safeRegularPropertyValuePattern v
  · rfl
  · rw [rx_safeRegular_doc v hm] at hd; cases hd

theorem filter_enum_doc (v : Bytes) : docRegular (filter v safehtml_safeEnumPropertyValuePattern) = true := by
  rw [C15_filter_enum]
  split
  · exact enum_doc v ‹_›
  · exact innocuous_is_regular

theorem filter_regular_doc (v : Bytes) : docRegular (filter v safehtml_safeRegularPropertyValuePattern) = true := by
  rcases filter_or v safehtml_safeRegularPropertyValuePattern with e | e
  · by_cases hd : docRegular v = true
    · rwa [e]
    · rw [(C15_filter_regular v).1 (by simpa using hd)]; exact innocuous_is_regular
  · rw [e]; exact innocuous_is_regular

theorem fieldValue_plain {p : StyleProps} {f : Field} {v : Bytes} (hf : fieldValue p f = some v) :
    (f.kind = .enum → v = filter (p.val f.goName) safehtml_safeEnumPropertyValuePattern) ∧
    (f.kind = .regular → v = filter (p.val f.goName) safehtml_safeRegularPropertyValuePattern) := by
  constructor <;> intro hk <;> simp only [fieldValue, hk] at hf <;> split at hf <;> cases hf <;> rfl

/-- per field: what `StyleFromProperties` emits for a plain field -/
theorem C15_filter (p : StyleProps) (f : Field) (v : Bytes) (hf : fieldValue p f = some v) :
    (f.kind = .enum → v = if docEnum (p.val f.goName) then p.val f.goName else Generated.Tables.innocuousPropertyValue) ∧
    (f.kind = .regular → (docRegular (p.val f.goName) = false → v = Generated.Tables.innocuousPropertyValue) ∧
        (v = p.val f.goName ∨ v = Generated.Tables.innocuousPropertyValue) ∧ docRegular v = true) := by
  refine ⟨fun hk => ?_, fun hk => ?_⟩
  · rw [(fieldValue_plain hf).1 hk, C15_filter_enum]
  · rw [(fieldValue_plain hf).2 hk]
    exact ⟨(C15_filter_regular _).1, filter_or _ _, filter_regular_doc _⟩

/-! ### C15_bg -/

/-- every background-image element is `url("` + cssEscapeString(u') + `")` where `u'` is the URL itself and
    `isSafeURL` approves it, or `u'` is the innocuous URL -/
theorem C15_bg (u : Bytes) :
    ∃ u', urlItem u = urlOpen ++ cssEscapeString u' ++ urlClose ∧
      ((u' = u ∧ isSafeURL u = true) ∨ u' = Generated.Tables.innocuousURL) := by
  refine ⟨urlSanitized u, rfl, ?_⟩
  unfold urlSanitized
  cases h : isSafeURL u <;> simp

/-! ### C15_ends -/

theorem emitField_ends (p : StyleProps) (f : Field) :
    emitField p f = [] ∨ (emitField p f).getLast? = some 59 := by
  unfold emitField
  cases fieldValue p f with
  | none => left; rfl
  | some v => right; rw [List.getLast?_append]; rfl

theorem C15_ends_with (fs : List Field) (p : StyleProps) :
    styleFromPropertiesWith fs p = [] ∨ (styleFromPropertiesWith fs p).getLast? = some 59 := by
  induction fs with
  | nil => left; rfl
  | cons f fs ih =>
    simp only [styleFromPropertiesWith, List.flatMap_cons] at ih ⊢
    rcases ih with h | h
    · rw [h, List.append_nil]; exact emitField_ends p f
    · right
      rw [List.getLast?_append, h]; rfl

theorem C15_ends (p : StyleProps) :
    styleFromProperties p = [] ∨ (styleFromProperties p).getLast? = some 59 :=
  C15_ends_with fields p

/-! ### C15_no_lt and the string-escaping alphabet -/

/-- bytes that may appear raw inside a `"`-delimited CSS string written by `cssEscapeString` -/
def rawStringByte (c : Nat) : Bool := c != 34 && c != 92 && c != 60 && c != 127 && 32 ≤ c

def isUpperHex (c : Nat) : Bool := isDigit c || (65 ≤ c && c ≤ 70)

/-- `(raw byte | \HHHHHH)*` : no raw quote, backslash, newline, control or `<`; every backslash starts a
    six-digit upper-case hex escape -/
def strSafe : Bytes → Bool
  | [] => true
  | c :: t =>
    if c == 92 then
      match t with
      | a :: b :: d :: e :: g :: h :: t' =>
        isUpperHex a && isUpperHex b && isUpperHex d && isUpperHex e && isUpperHex g && isUpperHex h && strSafe t'
      | _ => false
    else rawStringByte c && strSafe t

theorem strSafe_cons (c : Nat) (t : Bytes) :
    strSafe (c :: t) =
      if c == 92 then
        match t with
        | a :: b :: d :: e :: g :: h :: t' =>
          isUpperHex a && isUpperHex b && isUpperHex d && isUpperHex e && isUpperHex g && isUpperHex h && strSafe t'
        | _ => false
      else rawStringByte c && strSafe t := by
  conv => lhs; unfold strSafe
  rfl

theorem hexDigitUpper_ok (n : Nat) : isUpperHex (hexDigitUpper (n % 16)) = true := by
  have : n % 16 < 16 := Nat.mod_lt _ (by omega)
  simp only [isUpperHex, hexDigitUpper, isDigit]
  split <;> simp <;> omega

theorem strSafe_raw_append (a b : Bytes) (ha : a.all (fun c => rawStringByte c) = true) :
    strSafe (a ++ b) = strSafe b := by
  induction a with
  | nil => rfl
  | cons c t ih =>
    simp only [List.all_cons, Bool.and_eq_true] at ha
    have h92 : (c == 92) = false := by
      have := ha.1; simp only [rawStringByte, Bool.and_eq_true, bne_iff_ne, ne_eq] at this; simp [this.1.1.1.2]
    rw [List.cons_append, strSafe_cons]
    simp [h92, ha.1, ih ha.2]

theorem encodeRune_raw (c : Nat) (h : cssMustEscape c = false) :
    (Utf8.encodeRune c).all (fun c => rawStringByte c) = true := by
  have raw : ∀ b, 32 ≤ b ∧ b ≠ 34 ∧ b ≠ 92 ∧ b ≠ 60 ∧ b ≠ 127 → rawStringByte b = true := by
    intro b hb; simp only [rawStringByte, Bool.and_eq_true, bne_iff_ne, ne_eq, decide_eq_true_eq]; omega
  by_cases hc : c < 128
  · simp only [cssMustEscape, Bool.or_eq_false_iff, beq_eq_false_iff_ne, ne_eq, decide_eq_false_iff_not] at h
    rw [Utf8.encodeRune_ascii c hc, List.all_cons, List.all_nil, Bool.and_true]
    exact raw c (by omega)
  · exact List.all_eq_true.2 fun b hb => raw b (by have := Utf8.encodeRune_nonascii c (by omega) b hb; omega)

theorem cssEscapeRune_cases (c : Nat) :
    (cssEscapeRune c).all (fun b => rawStringByte b) = true ∨
      ∃ a b d e g h, cssEscapeRune c = [92, a, b, d, e, g, h] ∧ [a, b, d, e, g, h].all isUpperHex = true := by
  unfold cssEscapeRune
  split
  · exact .inl (by decide)
  · split
    · exact .inr ⟨_, _, _, _, _, _, rfl, by simp [hexDigitUpper_ok]⟩
    · rename_i h1; exact .inl (encodeRune_raw c (by simpa using h1))

/-- `cssEscapeString` never emits a raw `"`, `\`, newline, control character or `<` -/
theorem cssEscapeString_safe (s : Bytes) : strSafe (cssEscapeString s) = true := by
  unfold cssEscapeString
  induction Utf8.decodeRunes s with
  | nil => rfl
  | cons c t ih =>
    rw [List.flatMap_cons]
    rcases cssEscapeRune_cases c with hr | ⟨_, _, _, _, _, _, e, hh⟩
    · rw [strSafe_raw_append _ _ hr]; exact ih
    · simp only [List.all_cons, List.all_nil, Bool.and_true, Bool.and_eq_true] at hh
      simp [e, strSafe_cons, hh, ih]

theorem all_no_lt (v : Bytes) (p : Nat → Bool) (hp : p 60 = false) (h : v.all p = true) : 60 ∉ v :=
  fun hm => by rw [List.all_eq_true.1 h 60 hm] at hp; cases hp

theorem cssEscapeString_no_lt (s : Bytes) : 60 ∉ cssEscapeString s := by
  simp only [cssEscapeString, List.mem_flatMap, not_exists, not_and]
  intro c _
  rcases cssEscapeRune_cases c with hr | ⟨_, _, _, _, _, _, e, hh⟩
  · exact all_no_lt _ _ (by decide) hr
  · rw [e, List.mem_cons, not_or]
    exact ⟨by decide, all_no_lt _ _ (by decide) hh⟩

theorem joinSep_no_lt (xs : List Bytes) (h : ∀ x ∈ xs, 60 ∉ x) : 60 ∉ joinSep listSep xs := by
  induction xs with
  | nil => simp [joinSep]
  | cons x t ih =>
    cases t with
    | nil => simpa [joinSep] using h x (by simp)
    | cons y t' =>
      simp only [joinSep, List.mem_append, not_or]
      refine ⟨⟨h x (by simp), by decide⟩, ih (fun z hz => h z (by simp [hz]))⟩

theorem rx_identifier_ascii (s : Bytes) (h : matchString safehtml_identifierPattern s = true) : 60 ∉ s := by
  unfold safehtml_identifierPattern at h
  rw [match_bot_cls_plus_eot] at h
  have hall : (Utf8.decodeSyms s).all (fun x => inCls [(45, 45), (65, 90), (97, 122)] x.rune) = true := by
    generalize Utf8.decodeSyms s = syms at h
    match syms, h with
    | c :: d :: t, h =>
      simp only [Bool.and_eq_true] at h
      simp only [List.all_cons, Bool.and_eq_true]
      refine ⟨?_, h.1.2, h.2⟩
      have := h.1.1
      simp only [inCls, List.any, Bool.or_false, Bool.or_eq_true, Bool.and_eq_true, decide_eq_true_eq] at this ⊢
      omega
  rw [Utf8.all_ascii_iff _ (inCls_ascii _ (by decide))] at hall
  exact all_no_lt s _ (by decide) hall

theorem quoted_no_lt (a b u : Bytes) (ha : 60 ∉ a) (hb : 60 ∉ b) : 60 ∉ a ++ cssEscapeString u ++ b := by
  simp only [List.mem_append, not_or]
  exact ⟨⟨ha, cssEscapeString_no_lt u⟩, hb⟩

theorem fieldValue_no_lt (p : StyleProps) (f : Field) (v : Bytes) (h : fieldValue p f = some v) : 60 ∉ v := by
  have docR : ∀ w, docRegular w = true → 60 ∉ w := fun w hw =>
    all_no_lt w _ (by decide) (Bool.and_eq_true_iff.1 hw).1
  unfold fieldValue at h
  split at h <;> split at h <;> cases h
  · refine joinSep_no_lt _ fun x hx => ?_
    obtain ⟨u, _, rfl⟩ := List.mem_map.1 hx
    exact quoted_no_lt _ _ _ (by decide) (by decide)
  · refine joinSep_no_lt _ fun x hx => ?_
    obtain ⟨u, _, rfl⟩ := List.mem_map.1 hx
    unfold fontItem
    split
    · exact rx_identifier_ascii u ‹_›
    · exact quoted_no_lt _ _ _ (by decide) (by decide)
  · exact docR _ (filter_enum_doc _)
  · exact docR _ (filter_regular_doc _)

theorem no_lt_with (fs : List Field) (hfs : ∀ f ∈ fs, 60 ∉ f.css) (p : StyleProps) :
    60 ∉ styleFromPropertiesWith fs p := by
  simp only [styleFromPropertiesWith, List.mem_flatMap, not_exists, not_and]
  intro f hf
  unfold emitField
  cases hv : fieldValue p f with
  | none => simp
  | some v =>
    simp only [List.mem_append, not_or, List.mem_singleton]
    exact ⟨⟨⟨hfs f hf, by omega⟩, fieldValue_no_lt p f v hv⟩, by omega⟩

theorem C15_no_lt (p : StyleProps) : 60 ∉ styleFromProperties p :=
  no_lt_with fields (by decide) p

/-! ### the full statement, and what is proved of it -/

def declName? : Item → Option (List Nat)
  | .decl d => some d.name
  | _ => none

/-- C15 at full strength: under the CSS Syntax 3 tokenizer and declaration-list parser the result is exactly one
    declaration per non-empty field with the documented name, in order; no comment, bad / unterminated token or
    open block; empty or ends with `;`; no `<`; plain values filtered; URLs sanitized and string-escaped. -/
def C15_statement : Prop :=
  ∀ p : StyleProps,
    (declList (tokenize (Utf8.decodeRunes (styleFromProperties p)))).map declName? =
        (fields.filter (fun f => (fieldValue p f).isSome)).map (fun f => some f.css) ∧
    (tokenizeC (Utf8.decodeRunes (styleFromProperties p))).all (fun t => !isBadTok t && !isComment t) = true ∧
    (∀ d, Item.decl d ∈ declList (tokenize (Utf8.decodeRunes (styleFromProperties p))) → allClosedL d.value = true) ∧
    (styleFromProperties p = [] ∨ (styleFromProperties p).getLast? = some 59) ∧
    60 ∉ styleFromProperties p

/-- What is proved for ALL inputs: the last two clauses of `C15_statement`, `C15_filter`, `C15_bg`, and the
    character-level invariants that the tokenizer clauses rest on — every plain value is in the documented alphabet
    without comment markers (`C15_filter`), every string body satisfies `strSafe` (`cssEscapeString_safe`), names and
    literal pieces are the reviewed ones (`fields_css_reviewed`, `pieces_reviewed`).
    MISSING: the first three clauses, i.e. the lemma that `Spec.Css.tokensC`, run over a value of those two
    alphabets followed by `;`, emits only non-bracket, non-`;` tokens (resp. closed string tokens) and stops at the
    `;`. Those clauses are checked by `Oracle.C15` on every real output of every run instead. -/
theorem C15_partial (p : StyleProps) :
    (styleFromProperties p = [] ∨ (styleFromProperties p).getLast? = some 59) ∧
    60 ∉ styleFromProperties p ∧
    (∀ f v, fieldValue p f = some v → f.kind = .regular ∨ f.kind = .enum →
        docRegular v = true ∧ (v = p.val f.goName ∨ v = Generated.Tables.innocuousPropertyValue)) ∧
    (∀ u, strSafe (cssEscapeString u) = true) :=
  ⟨C15_ends p, C15_no_lt p, by
    intro f v hv hk
    rcases hk with hk | hk
    · rw [(fieldValue_plain hv).2 hk]; exact ⟨filter_regular_doc _, filter_or _ _⟩
    · rw [(fieldValue_plain hv).1 hk]; exact ⟨filter_enum_doc _, filter_or _ _⟩,
   cssEscapeString_safe⟩

/-! ### Non-vacuity -/
-- Color "a,b" is filtered (since commit 42d9c5e); Color "1px" kept; Display "a b" filtered
example : filter [97, 44, 98] safehtml_safeRegularPropertyValuePattern = Generated.Tables.innocuousPropertyValue := by decide +kernel
example : filter [49, 112, 120] safehtml_safeRegularPropertyValuePattern = [49, 112, 120] := by decide +kernel
example : filter [97, 32, 98] safehtml_safeEnumPropertyValuePattern = Generated.Tables.innocuousPropertyValue := by decide +kernel
example : cssEscapeString [34, 0, 10, 60, 97] =
    [92, 48, 48, 48, 48, 50, 50, 0xEF, 0xBF, 0xBD, 92, 48, 48, 48, 48, 48, 65, 92, 48, 48, 48, 48, 51, 67, 97] := by decide +kernel

/-- Color = "red", Width = "a;b", one URL `x")`, fonts `serif` and `a b` -/
def pEx : StyleProps :=
  { lists := [("BackgroundImageURLs", [[120, 34, 41]]), ("FontFamily", [[115, 101, 114, 105, 102], [97, 32, 98]])],
    vals := [("Color", [114, 101, 100]), ("Width", [97, 59, 98])] }

-- the tokenizer-level clauses of `C15_statement` on that instance (kernel evaluation of Spec.Css)
set_option maxRecDepth 20000 in
example : (declList (tokenize (Utf8.decodeRunes (styleFromProperties pEx)))).map declName? =
    (fields.filter (fun f => (fieldValue pEx f).isSome)).map (fun f => some f.css) := by decide +kernel
set_option maxRecDepth 20000 in
example : (declList (tokenize (Utf8.decodeRunes (styleFromProperties pEx)))).length = 4 := by decide +kernel
set_option maxRecDepth 20000 in
example : (tokenizeC (Utf8.decodeRunes (styleFromProperties pEx))).all (fun t => !isBadTok t && !isComment t) = true := by
  decide +kernel

end SafeHtml.Props.C15
