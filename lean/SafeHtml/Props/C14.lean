/-
C14 — data interpolated after a static URL prefix stays inside its URL component.
Statements, `_partial` variants, negation witness of the known finding, Rx / table obligations, non-vacuity.
Helper lemmas: Proofs/UrlProc.lean (urlProcessor over the regenerated case lists), Proofs/RxSearch.lean.
-/
import SafeHtml.Model.TmplUrl
import SafeHtml.Model.Html
import SafeHtml.Spec.CharRef
import SafeHtml.Spec.UrlComponents
import SafeHtml.Proofs.UrlProc
import SafeHtml.Proofs.RxSearch
import SafeHtml.Proofs.RxDotSeg
import SafeHtml.Proofs.Tactics
namespace SafeHtml.Props.C14
open SafeHtml SafeHtml.Rx SafeHtml.Model SafeHtml.Model.TmplUrl SafeHtml.Generated.Regexes
open SafeHtml.Spec SafeHtml.Spec.UrlComp SafeHtml.Proofs.UrlProc

/-! ### Rx / table obligations -/

/-- `[[:space:]]|[[:cntrl:]]` (unanchored) = "some byte is ≤ 0x20 or 0x7f" -/
theorem rx_containsWhitespaceOrControl (s : Bytes) :
    matchString template_containsWhitespaceOrControlPattern s = s.any isWsOrCtl := by
  unfold template_containsWhitespaceOrControlPattern
  rw [match_cls_any_bytes _ (by decide)]
  congr 1
  funext b
  simp only [inCls, List.any, isWsOrCtl, Bool.or_false]
  cls_arith

/-- since library commit 1e8186f `validateTrustedResourceURLPrefix` has exactly one extra reject test on the
    decoded prefix, `(?i)(?:^|/)(?:\.|%2e)$`; before that commit the regenerated list was empty. -/
theorem rx_truPrefixRejects : Generated.TmplUrlFacts.truPrefixRejectPatterns = [Rx.dotSegRe] := by
  rfl

/-- … and that regex means "the last path segment so far is exactly `.` or `%2e`" (Proofs/RxDotSeg.lean) -/
theorem rx_endsWithDotSegment (d : Bytes) :
    (Generated.TmplUrlFacts.truPrefixRejectPatterns.any fun r => matchString r d) = endsWithDotSegment d := by
  rw [rx_truPrefixRejects]
  simp only [List.any_cons, List.any_nil, Bool.or_false, match_dotSeg]

/-! ### queryEscapeURL: fully percent-encoded -/

/-- every output byte is unreserved or `%` — in particular none of `& = # ? / : + ; , @ $ ! * ' ( ) [ ]`, no quote,
    no angle bracket, no space, no control, no non-ASCII byte -/
theorem C14_query (s : Bytes) : ∀ b ∈ queryEscapeURL s, isUnreserved b = true ∨ b = 37 := query_bytes s

/-- … and every `%` starts a well-formed `%hh` (the output is in `(unreserved | pct-encoded)*`) -/
theorem C14_query_wellformed (s : Bytes) : unreservedOrPct (queryEscapeURL s) = true := query_unreservedOrPct s

/-- the bytes the property text names cannot be added -/
theorem C14_query_no_delims (s : Bytes) (b : Nat) (hb : b ∈ queryEscapeURL s) :
    b ≠ 38 ∧ b ≠ 61 ∧ b ≠ 35 ∧ b ≠ 63 ∧ b ≠ 47 ∧ b ≠ 58 ∧ b ≠ 92 := by
  rcases C14_query s b hb with h | h
  · simp only [isUnreserved, isAlnum, isAlpha, isLowerAlpha, isUpperAlpha, isDigit, Bool.or_eq_true, Bool.and_eq_true,
      decide_eq_true_eq, beq_iff_eq] at h
    omega
  · omega

/-! ### normalizeURL -/

/-- no quotes, angle brackets, spaces, controls, backslashes, back-ticks or non-ASCII bytes -/
theorem C14_norm_alphabet (s : Bytes) (b : Nat) (hb : b ∈ normalizeURL s) :
    32 < b ∧ b < 127 ∧ b ≠ 34 ∧ b ≠ 39 ∧ b ≠ 60 ∧ b ≠ 62 ∧ b ≠ 92 ∧ b ≠ 96 := by
  have := norm_bytes s b hb
  simp only [normOk, Bool.and_eq_true, decide_eq_true_eq, bne_iff_ne] at this
  omega

/-- a valid `%XX` of the input is kept as it is (and what follows is normalised independently) -/
theorem C14_norm_keeps_escapes (pre post : Bytes) (a b : Nat) (ha : isHexDigit a = true) (hb : isHexDigit b = true) :
    ∃ X, normalizeURL (pre ++ 37 :: a :: b :: post) = X ++ 37 :: a :: b :: normalizeURL post :=
  norm_keeps_escape pre post a b ha hb

theorem C14_norm_idem (s : Bytes) : normalizeURL (normalizeURL s) = normalizeURL s := norm_idem s

/-! ### after a TrustedResourceURL prefix -/

/-- FULL statement: the substitution is returned unchanged, contains no ".." in any spelling, its escaped form adds
    no `/` (no new segment: `QueryEscapeURL` turns `/` into `%2f`), and after a validated prefix whose decoded form
    is `d` the escaped data creates no ".." PATH SEGMENT (RFC 3986 segments of the path, `.` also spelled `%2e`) that
    `d` did not already contain. Scope: a SINGLE action directly after the static prefix (see the known finding
    `adjacent-actions-dotdot` below for two actions). -/
def C14_tru_subst_statement : Prop :=
  ∀ (p d w v : Bytes), validateTrustedResourceURLPrefix p = true → decodeURLPrefix p = some d →
    validateTrustedResourceURLSubstitution w = some v →
      v = w ∧ containsDotDot w = false ∧ (∀ b ∈ queryEscapeURL v, b ≠ 47 ∧ b ≠ 92) ∧
      dotDotSegments (d ++ queryEscapeURL v) ≤ dotDotSegments d

/-- PROVED part: the first three conjuncts, the second in the library's own terms. What
    `urlDoubleDotSegmentPattern` means is `Proofs.C13.rx_dotdot` (Proofs/C13DotDot.lean), stated with
    `Rfc3986.hasDoubleDot`, a second transcription of `containsDotDot`; the two are not related by a theorem.
    Not proved: the fourth conjunct, i.e. the straddling argument "d does not end in `.`/`%2e`/`%`/`%h` and the
    escaped data contains no `%2e` ⇒ no new `..` across the boundary" (the hypothesis it needs is exactly
    `rx_truPrefixRejects`; the oracle checks the conclusion on every real template output, clause tru-new-dotdot-segment). -/
theorem C14_tru_subst_partial (w v : Bytes) (h : validateTrustedResourceURLSubstitution w = some v) :
    v = w ∧ urlContainsDoubleDotSegment w = false ∧ (∀ b ∈ queryEscapeURL v, b ≠ 47 ∧ b ≠ 92) := by
  unfold validateTrustedResourceURLSubstitution at h
  cases hd : urlContainsDoubleDotSegment w <;> simp [hd] at h
  subst h
  exact ⟨rfl, rfl, fun b hb => ⟨(C14_query_no_delims _ b hb).2.2.2.2.1, (C14_query_no_delims _ b hb).2.2.2.2.2.2⟩⟩

/-- the last path segment of a validated TrustedResourceURL prefix is not exactly `.` / `%2e`
    (holds since library commit 1e8186f) -/
theorem C14_tru_prefix_no_final_dot (p d : Bytes) (hv : validateTrustedResourceURLPrefix p = true)
    (hd : decodeURLPrefix p = some d) : endsWithDotSegment d = false := by
  unfold validateTrustedResourceURLPrefix at hv
  rw [hd] at hv
  simp only [rx_endsWithDotSegment, Bool.and_eq_true, Bool.not_eq_true'] at hv
  exact hv.2

/-! ### which chain `sanitizersForAttributeValue` picks (non-empty prefix) -/

theorem C14_choice (sc : SC) (p : Bytes) :
    chooseChain sc p =
      (if !prefixValid sc p then none
       else match sc with
         | .other => some .htmlOnly
         | .tru => some .queryNoDotDot
         | _ => if inQueryOrFragment p then some .query else some .norm) := by
  cases sc <;> simp only [chooseChain, prefixValid]
  · rfl
  · by_cases h : validateURLPrefix p = true <;> by_cases hq : inQueryOrFragment p = true <;> simp [h, hq]
  · by_cases h : validateURLPrefix p = true <;> by_cases hq : inQueryOrFragment p = true <;> simp [h, hq]
  · by_cases h : validateTrustedResourceURLPrefix p = true <;> simp [h]

/-- in a URL context an action after a prefix with `?` or `#` (literally, or as a character reference that Go's
    decoder resolves) is always fully percent-encoded; after a TrustedResourceURL prefix always -/
theorem C14_choice_query (sc : SC) (p w v : Bytes) (ch : Chain) (hsc : sc ≠ .other)
    (hq : inQueryOrFragment p = true ∨ sc = .tru)
    (hc : chooseChain sc p = some ch) (hr : runChain ch w = some v) :
    unreservedOrPct v = true ∧ ∀ b ∈ v, b ≠ 38 ∧ b ≠ 61 ∧ b ≠ 35 ∧ b ≠ 63 ∧ b ≠ 47 ∧ b ≠ 58 ∧ b ≠ 92 := by
  rw [C14_choice] at hc
  cases hv : prefixValid sc p <;> simp only [hv, Bool.not_false, Bool.not_true, if_true, Bool.false_eq_true, if_false] at hc
  · exact absurd hc (by simp)
  · -- `url` and `truOrUrl` choose alike: `query` after `?`/`#`
    have plain : inQueryOrFragment p = true →
        (if inQueryOrFragment p then some Chain.query else some Chain.norm) = some ch →
        unreservedOrPct v = true ∧ ∀ b ∈ v, b ≠ 38 ∧ b ≠ 61 ∧ b ≠ 35 ∧ b ≠ 63 ∧ b ≠ 47 ∧ b ≠ 58 ∧ b ≠ 92 := by
      intro hq hc
      simp only [hq, if_true, Option.some.injEq] at hc; subst hc
      simp only [runChain, Option.some.injEq] at hr; subst hr
      exact ⟨C14_query_wellformed w, fun b hb => C14_query_no_delims w b hb⟩
    cases sc with
    | other => exact absurd rfl hsc
    | tru =>
      simp only [Option.some.injEq] at hc; subst hc
      simp only [runChain, Option.map_eq_some_iff] at hr
      obtain ⟨u, _, rfl⟩ := hr
      exact ⟨C14_query_wellformed u, fun b hb => C14_query_no_delims u b hb⟩
    | url => exact plain (hq.resolve_right (by simp)) hc
    | truOrUrl => exact plain (hq.resolve_right (by simp)) hc

/-! ### rejected prefixes -/

/-- (1) raw whitespace / control; (2) partial character reference at the end (regenerated pattern);
    (3) whitespace / control after Go's HTML-unescaping; (4) partial percent escape at the end after unescaping
    (regenerated pattern): `decodeURLPrefix` fails, hence both validators reject. -/
theorem C14_prefix_rejects_decode (p : Bytes)
    (h : p.any isWsOrCtl = true ∨
         matchString template_endsWithCharRefPrefixPattern p = true ∨
         (GoHtml.unescapeString p).any isWsOrCtl = true ∨
         matchString template_endsWithPercentEncodingPrefixPattern (GoHtml.unescapeString p) = true) :
    decodeURLPrefix p = none := by
  unfold decodeURLPrefix validateDoesNotEndsWithCharRefPrefix
  simp only [rx_containsWhitespaceOrControl]
  -- each of the four tests has its own `if … then none` in `decodeURLPrefix`
  rcases h with h | h | h | h <;> simp [h]

theorem C14_prefix_rejects (p : Bytes)
    (h : p.any isWsOrCtl = true ∨
         matchString template_endsWithCharRefPrefixPattern p = true ∨
         (GoHtml.unescapeString p).any isWsOrCtl = true ∨
         matchString template_endsWithPercentEncodingPrefixPattern (GoHtml.unescapeString p) = true) :
    validateURLPrefix p = false ∧ validateTrustedResourceURLPrefix p = false := by
  have := C14_prefix_rejects_decode p h
  simp [validateURLPrefix, validateTrustedResourceURLPrefix, this]

theorem decodeURLPrefix_some (p d : Bytes) (h : decodeURLPrefix p = some d) :
    d = GoHtml.unescapeString p ∧ p.any isWsOrCtl = false ∧
    matchString template_endsWithCharRefPrefixPattern p = false ∧ d.any isWsOrCtl = false ∧
    matchString template_unterminatedNumericCharRefPattern p = false := by
  unfold decodeURLPrefix validateDoesNotEndsWithCharRefPrefix at h
  simp only [rx_containsWhitespaceOrControl] at h
  -- five tests in turn; each returns `none` when it fires
  split at h
  · cases h
  next h1 =>
  split at h
  · cases h
  next h2 =>
  split at h
  · cases h
  next h3 =>
  split at h
  · cases h
  next h4 =>
  split at h
  · cases h
  cases h
  simp only [Bool.not_eq_true, Bool.not_eq_eq_eq_not, Bool.not_true, Bool.not_false] at h1 h2 h3 h4
  exact ⟨rfl, h1, h2, h3, h4⟩

theorem validateURLPrefix_cases (p : Bytes) (h : validateURLPrefix p = true) :
    ∃ d, decodeURLPrefix p = some d ∧
      ((matchString template_startsWithFullySpecifiedSchemePattern d = true ∧ urlSanitized d = d) ∨
       (matchString template_startsWithFullySpecifiedSchemePattern d = false ∧ containsAny d [47, 63, 35] = true)) := by
  unfold validateURLPrefix at h
  cases hd : decodeURLPrefix p with
  | none => simp [hd] at h
  | some d =>
    refine ⟨d, rfl, ?_⟩
    simp only [hd] at h
    cases hs : matchString template_startsWithFullySpecifiedSchemePattern d <;> simp [hs] at h
    · exact Or.inr ⟨rfl, h⟩
    · exact Or.inl ⟨rfl, h⟩

/-- (5) a prefix that could still be completed into a scheme: an accepted URL prefix either has a complete scheme
    that `URLSanitized` accepts (so: not `javascript:`), or already contains `/`, `?` or `#` -/
theorem C14_prefix_rejects_scheme (p : Bytes) (h : validateURLPrefix p = true) :
    ∃ d, decodeURLPrefix p = some d ∧
      ((matchString template_startsWithFullySpecifiedSchemePattern d = true ∧ urlSanitized d = d) ∨
       containsAny d [47, 63, 35] = true) := by
  obtain ⟨d, hd, h⟩ := validateURLPrefix_cases p h
  exact ⟨d, hd, h.imp_right And.right⟩

/-! ### soundness of an accepted prefix -/

/-- FULL statement (PROVED, with no hypothesis, in Proofs/C14Sound2.lean: `C14_prefix_sound`): for an accepted prefix `p` of a URL-typed attribute and string data `w`, the browser (WHATWG
    attribute-value decoding of `p ++ html-escaped chain output`) sees the decoded prefix followed by exactly the
    chain output, the scheme is the one the prefix fixed and is not `javascript`, and when the decoded prefix is
    already in the query or fragment part the data is fully percent-encoded. -/
def C14_prefix_sound_statement : Prop :=
  ∀ (sc : SC) (p w v : Bytes) (ch : Chain), sc ≠ .other → p ≠ [] →
    chooseChain sc p = some ch → runChain ch w = some v →
      let bp := CharRef.decodeAttr p
      let bd := CharRef.decodeAttr (p ++ htmlEscapeString v)
      bd = bp ++ v ∧ whatwgScheme bd = whatwgScheme bp ∧ whatwgScheme bd ≠ some javascript ∧
      ((bp.contains 63 || bp.contains 35) = true → unreservedOrPct v = true)

/-- PROVED part: whatever the prefix, the chain output is in the alphabet of its chain — fully percent-encoded for
    `query`/`queryNoDotDot`, the normalised alphabet for `norm`; with `C14_choice`/`C14_choice_query` this gives the
    component claim for prefixes whose `?`/`#` Go's decoder sees. The other conjuncts: Proofs/CharRefAppend.lean,
    Proofs/C14Sound.lean, Proofs/C14Sound2.lean. The oracle (Oracle/C14.urlattr) checks every conjunct on every
    real template output as well. -/
theorem C14_prefix_sound_partial (sc : SC) (p w v : Bytes) (ch : Chain)
    (hc : chooseChain sc p = some ch) (hr : runChain ch w = some v) :
    match ch with
    | .htmlOnly => v = w
    | .norm => ∀ b ∈ v, 32 < b ∧ b < 127 ∧ b ≠ 34 ∧ b ≠ 39 ∧ b ≠ 60 ∧ b ≠ 62 ∧ b ≠ 92 ∧ b ≠ 96
    | .query => unreservedOrPct v = true
    | .queryNoDotDot => unreservedOrPct v = true ∧ urlContainsDoubleDotSegment w = false := by
  cases ch with
  | htmlOnly => simp only [runChain, Option.some.injEq] at hr; exact hr.symm
  | norm =>
    simp only [runChain, Option.some.injEq] at hr; subst hr
    exact fun b hb => C14_norm_alphabet w b hb
  | query =>
    simp only [runChain, Option.some.injEq] at hr; subst hr
    exact C14_query_wellformed w
  | queryNoDotDot =>
    simp only [runChain, Option.map_eq_some_iff] at hr
    obtain ⟨u, hu, rfl⟩ := hr
    have := C14_tru_subst_partial w u hu
    exact ⟨C14_query_wellformed u, this.2.1⟩

/-! ### a TAB written as "&#9" + non-digit is not seen by Go's decoder -/

/-- the property text's clause "whitespace or control characters (also when written as character references)
    are rejected", read with the browser's decoder. Before library commit 213930e this was FALSE: `/a&#9b/` was
    accepted, and so was `java&#9script:`, which browsers read as `javascript:` (Proofs/C14Sound.lean, `pJs_…`,
    checks the browser's scheme, that Go's decoder differs, and that the prefix is refused). Since that commit
    (numeric character references without ';' are refused in URL prefixes) the statement is PROVED:
    Proofs/C14Ws.lean, `C14_rejects_browser_whitespace`. -/
def C14_rejects_browser_whitespace_statement : Prop :=
  ∀ p : Bytes, (CharRef.decodeAttr p).any isWsOrCtl = true → validateURLPrefix p = false

/-- the two witnesses, and a hexadecimal one, are rejected -/
theorem C14_short_decimal_charref_rejected :
    validateURLPrefix [47, 97, 38, 35, 57, 98, 47] = false ∧
    validateURLPrefix (B "java&#9script:") = false ∧ validateURLPrefix (B "/x&#x9y/") = false := by
  decide +kernel

/-! ### known finding: two actions in one TrustedResourceURL attribute value -/

/-- the single-action claim of `C14_tru_subst_statement` extended to two adjacent actions after the prefix:
    each substitution is validated alone (`c.attr.value` holds static text only), so this is false -/
def C14_tru_two_actions_statement : Prop :=
  ∀ (p d a b va vb : Bytes), validateTrustedResourceURLPrefix p = true → decodeURLPrefix p = some d →
    validateTrustedResourceURLSubstitution a = some va → validateTrustedResourceURLSubstitution b = some vb →
      dotDotSegments (d ++ queryEscapeURL va ++ queryEscapeURL vb) ≤ dotDotSegments d

/-- witness: `<script src="/foo/{{.A}}{{.B}}">` with A = B = "." gives `/foo/..` -/
theorem C14_false_adjacent_actions_dotdot : ¬ C14_tru_two_actions_statement := by
  intro h
  have := h [47, 102, 111, 111, 47] [47, 102, 111, 111, 47] [46] [46] [46] [46] (by decide +kernel) (by decide +kernel)
    (by decide +kernel) (by decide +kernel)
  revert this
  decide +kernel

/-! ### Non-vacuity -/
-- queryEscape "a&b=c/d" = "a%26b%3dc%2fd"
example : queryEscapeURL [97, 38, 98, 61, 99, 47, 100] = [97, 37, 50, 54, 98, 37, 51, 100, 99, 37, 50, 102, 100] := by decide +kernel
-- normalize "a b%41%zz'" = "a%20b%41%25zz%27"
example : normalizeURL [97, 32, 98, 37, 52, 49, 37, 122, 122, 39] =
    [97, 37, 50, 48, 98, 37, 52, 49, 37, 50, 53, 122, 122, 37, 50, 55] := by decide +kernel
-- ".." and "%2E." are refused after a TrustedResourceURL prefix, "a.b" is not
example : validateTrustedResourceURLSubstitution [46, 46] = none := by decide +kernel
example : validateTrustedResourceURLSubstitution [37, 50, 69, 46] = none := by decide +kernel
example : validateTrustedResourceURLSubstitution [97, 46, 98] = some [97, 46, 98] := by decide +kernel
-- "/a?" accepted and puts the action into the query; "/a" normalises; "j" and "/a&#" and "/a%2" and "/a b" are refused
example : chooseChain .truOrUrl [47, 97, 63] = some .query := by decide
example : chooseChain .truOrUrl [47, 97] = some .norm := by decide
example : chooseChain .url [106] = none := by decide
example : chooseChain .url [47, 97, 38, 35] = none := by decide
example : chooseChain .url [47, 97, 37, 50] = none := by decide
example : chooseChain .url [47, 97, 32, 98] = none := by decide
-- "/a/" accepted as TrustedResourceURL prefix, "/a/." is not (since commit 1e8186f)
example : chooseChain .tru [47, 97, 47] = some .queryNoDotDot := by decide
theorem C14_nonvacuity_tru_dot_segment_prefix_rejected : chooseChain .tru [47, 97, 47, 46] = none := by decide
-- "/a/x." stays accepted: "x." + "." = "x.." is not a dot segment
example : chooseChain .tru [47, 97, 47, 120, 46] = some .queryNoDotDot := by decide
example : dotDotSegments [47, 97, 47, 120, 46, 46] = 0 := by decide
example : dotDotSegments [47, 97, 47, 37, 50, 69, 46, 47, 98] = 1 := by decide

end SafeHtml.Props.C14
