/-
C05 — templates that cannot be contextualised never produce output, and the failure is sticky.
Theorems over the API state machine (Model/Tmpl/Api.lean, Step.lean); its agreement with the real
package on generated histories is checked on every run (correspondence stream tmpl.hist.C05), and the
oracle `Oracle.Hist.c05` applies the property to the REAL results of every history.
-/
import SafeHtml.Proofs.ApiLemmas
import SafeHtml.Model.Tmpl.PrefixLite
namespace SafeHtml.Props.C05
open SafeHtml SafeHtml.Model.Tmpl SafeHtml.Proofs.ConcApi

def isFailed : Status → Bool
  | .failed _ => true
  | _ => false

/-- A template whose analysis failed returns an error, writes nothing,
    and stays failed: nothing but the "executed" flag of its set changes. -/
theorem C05_failed_exec (w : World) (h oid : Nat) (o : TObj) (c : ErrCode) (d : Value)
    (ho : w.obj h = some (oid, o)) (hs : o.status = .failed c) :
    apiExecute w h d = (w.setNs o.ns { w.ns o.ns with escaped := true }, .err (analysisCls c) []) := by
  unfold apiExecute
  simp [ho, hs]

theorem C05_failed_execT (w : World) (h oid tid : Nat) (o t : TObj) (c : ErrCode) (name : String) (d : Value)
    (ho : w.obj h = some (oid, o)) (hset : alookup (w.ns o.ns).set name = some tid)
    (ht : nlookup w.objs tid = some t) (hs : t.status = .failed c) :
    apiExecuteTemplate w h name d =
      (w.setNs o.ns { w.ns o.ns with escaped := true }, .err (analysisCls c) []) := by
  unfold apiExecuteTemplate
  simp [ho, hset, ht, hs, objs_setNs]

theorem C05_failed_stays (w : World) (h oid : Nat) (o : TObj) (c : ErrCode) (d : Value)
    (ho : w.obj h = some (oid, o)) (hs : o.status = .failed c) :
    (apiExecute w h d).1.obj h = some (oid, o) := by
  rw [C05_failed_exec w h oid o c d ho hs]; exact ho

/-- Any number of repeated Execute calls on a failed template keep failing without output. The conclusion holds of
    every `d` and every `k`: membership in `ds` and the bound on `k` are not used. -/
theorem C05_failed_forever (ds : List Value) (w : World) (h oid : Nat) (o : TObj) (c : ErrCode)
    (ho : w.obj h = some (oid, o)) (hs : o.status = .failed c) :
    ∀ d ∈ ds, ∀ (k : Nat), k ≤ ds.length →
      (apiExecute ((ds.take k).foldl (fun w d => (apiExecute w h d).1) w) h d).2 = .err (analysisCls c) [] := by
  intro d _ k _
  have hinv : ∀ (l : List Value) (w : World), w.obj h = some (oid, o) →
      (l.foldl (fun w d => (apiExecute w h d).1) w).obj h = some (oid, o) := by
    intro l
    induction l with
    | nil => intro w hw; exact hw
    | cons x xs ih =>
      intro w hw
      simp only [List.foldl_cons]
      exact ih _ (C05_failed_stays w h oid o c x hw hs)
  have := hinv (ds.take k) w ho
  rw [C05_failed_exec _ h oid o c d this hs]

/-- A template without a parse tree never runs. -/
theorem C05_incomplete (w : World) (h oid : Nat) (o : TObj) (d : Value)
    (ho : w.obj h = some (oid, o)) (hs : o.status = .unset) (ht : o.treeNil = true) :
    (apiExecute w h d).2 = .err "incomplete" [] := by
  unfold apiExecute
  simp [ho, hs, ht]

/-- The un-analysed body is never run. Whenever Execute produces output without error, the analysis of
    the executed template has succeeded (its status is `ok`) — before or during this call. -/
theorem C05_ok_only_after_analysis (w : World) (h oid : Nat) (o : TObj) (d : Value) (out : Bytes)
    (ho : w.obj h = some (oid, o)) (hr : (apiExecute w h d).2 = .ok out) :
    o.status = .ok ∨
      (o.status = .unset ∧ ∃ w', escapeTemplateTop (w.setNs o.ns { w.ns o.ns with escaped := true }) o.ns o.name =
        .inr (w', none)) := by
  rw [apiExecute_crit] at hr
  rcases critExecute_cases w h with ⟨hn, _⟩ | ⟨_, _, ho', ⟨r, hc, hr'⟩ | ⟨w', oc, r, hs, _, he, hc, ha⟩⟩
  · rw [ho] at hn; cases hn
  · rw [ho] at ho'; cases ho'; rw [hc] at hr
    rcases hr' with ⟨_, _, rfl⟩ | ⟨hs, _⟩ | ⟨_, _, rfl⟩ | ⟨x, _, _, rfl, he⟩
    · cases hr
    · exact .inl hs
    · cases hr
    · rcases top_inl_res he with rfl | ⟨_, rfl⟩ <;> cases hr
  · rw [ho] at ho'; cases ho'; rw [hc] at hr
    rcases ha with ⟨_, _, rfl⟩ | ⟨rfl, _⟩
    · cases hr
    · exact .inr ⟨hs, w', he⟩

/-- ExecuteToHTML returns the zero HTML with every error, also after output was produced. -/
theorem C05_toHTML_zero (r : Res) (cls : String) (partialOut : Bytes) (h : zeroOnError r = .err cls partialOut) :
    partialOut = [] := by
  cases r <;> simp [zeroOnError] at h
  exact h.2

/-! ### the full property and what is proved of it

The property: for every history of Execute\*/ExecuteTemplate\*/Lookup/New/Clone calls, once the analysis of a
template failed every later execution of it returns an error and writes nothing, and a template that a fresh
set would refuse never produces output.  Proved here: the one-step facts above and their closure under repeated
Execute calls (`C05_failed_forever`); closure under ALL interleavings of operations on any handles, up to the
two resets named there (`*existing = *emptyTmpl` is one), is `Proofs.ApiFrames.C05_failed_forever`.  Not proved:
"a fresh set would refuse ⇒ this history refuses" (that is C06).  Both are checked on every run by
`Oracle.Hist.c05` on the real results.
-/

/-- non-vacuity: a failing template (`<a href="`, ends inside an attribute) and its second execution -/
example :
    let w := (Api.step (Api.step (Api.step { v := liteValidators, fuel := 40 } (.new 0 "t")).1
      (.parse 0 [{ name := "t", root := .cons (.text 0 [60, 97, 32, 104, 114, 101, 102, 61, 34]) .nil }])).1
      (.exec 0 .noValue)).1
    (Api.step w (.exec 0 .noValue)).2.str = "err:analysis:ErrEndContext -" := by
  decide +kernel

end SafeHtml.Props.C05
