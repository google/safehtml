/-
C11 — `URLSanitized` returns its input or the innocuous URL, and never a `javascript:` URL. The byte-level reading
of `safeURLPattern` (Proofs/UrlRx) is put together with the WHATWG scheme parser of Spec/UrlScheme; one round of
character-reference decoding enters as the law `DecLaw`. `strings.ToLower` is modelled by `toLowerForScheme`
(Model/Url.lean), which the harness validates over all runes.
-/
import SafeHtml.Proofs.UrlScheme
namespace SafeHtml.Props.C11
open SafeHtml SafeHtml.Rx SafeHtml.Model SafeHtml.UrlRx SafeHtml.UrlSchemeFacts SafeHtml.Spec.UrlScheme
open SafeHtml.Generated.Regexes

/-! ### obligations on regenerated facts -/

/-- the regenerated `safeURLPattern` means: "`[a-z0-9+.-]+` then ':'" (capture = that run), else
    "longest run without `& : / ? #`, then `/ ? #` or end" (no capture) — `handCaps`, Proofs/UrlRx. -/
theorem rx_safeURLPattern (t : Bytes) :
    ∃ w, findSubmatch safehtml_safeURLPattern safehtml_safeURLPattern_ncap t =
      (handCaps t).map (fun c => [some w, c]) :=
  UrlRx.rx_safeURLPattern t

/-- the regenerated `InnocuousURL` constant is the value named in the property text -/
theorem gen_innocuousURL : Generated.Tables.innocuousURL = innocuous := by decide

theorem jsScheme_eq : jsScheme = javascript := rfl

/-- the innocuous URL passes its own check (so `URLSanitized` is idempotent on it) -/
theorem innocuous_isSafe : isSafeURL Generated.Tables.innocuousURL = true := by decide

/-! ### property theorems (every byte string `s`; no well-formedness hypothesis is needed) -/

/-- clause 1: the result is `s` unchanged or the fixed value `about:invalid#zGoSafez` -/
theorem C11_shape (s : Bytes) : urlSanitized s = s ∨ urlSanitized s = innocuous := by
  unfold urlSanitized
  cases isSafeURL s
  · right; simpa using gen_innocuousURL
  · left; rfl

theorem returned_isSafe (s : Bytes) (h : urlSanitized s = s) : isSafeURL s = true := by
  unfold urlSanitized at h
  cases hs : isSafeURL s with
  | true => rfl
  | false =>
    rw [hs] at h
    simp only [Bool.false_eq_true, if_false] at h
    rw [← h, innocuous_isSafe] at hs
    exact hs.symm

/-- core of clause 2: if one round of reference decoding (any decoder obeying `DecLaw`) makes a WHATWG
    parser see the javascript scheme, the URL is rejected -/
theorem shape_rejected (dec : Bytes → Bytes) (hdec : DecLaw dec) (s pfx q : Bytes)
    (hds : dec s = pfx ++ 58 :: q) (hpfx : ∀ b ∈ pfx, b ≤ 32 ∨ isAlpha b = true)
    (hjs : (∀ b ∈ pfx, isAlpha b = true) → pfx.map asciiLower = javascript) : isSafeURL s = false := by
  obtain ⟨p0, q0, hs, _, _, hp0, hq0⟩ := Proofs.UrlSet.span_split (fun b => b != 38) s
  have hp38 : 38 ∉ p0 := by
    intro hm; have := hp0 38 hm; simp at this
  have hdecs : dec s = p0 ++ dec q0 := by rw [hs]; exact hdec.keep p0 q0 hp38
  rw [hdecs] at hds
  rcases List.append_eq_append_iff.1 hds with ⟨a', h1, h2⟩ | ⟨c', h1, h2⟩
  · -- the colon comes out of the decoded part: s has an '&' after letters / C0 / space
    rcases Proofs.UrlSet.stops_cases hq0 with rfl | ⟨d, q0', rfl, hd⟩
    · rw [hdec.nil] at h2
      cases a' <;> simp at h2
    · have hd38 : d = 38 := by simpa using hd
      subst hd38
      rw [hs]
      apply reject p0 q0' 38 (Or.inr rfl)
      · intro b hb; exact hpfx b (by rw [h1]; simp [hb])
      · intro h; cases h
  · cases c' with
    | nil =>
      rw [List.append_nil] at h1
      rw [List.nil_append] at h2
      rcases Proofs.UrlSet.stops_cases hq0 with rfl | ⟨d, q0', rfl, hd⟩
      · rw [hdec.nil] at h2; cases h2
      · have hd38 : d = 38 := by simpa using hd
        subst hd38
        rw [hs, h1]
        apply reject pfx q0' 38 (Or.inr rfl) hpfx
        intro h; cases h
    | cons x c'' =>
      simp only [List.cons_append, List.cons.injEq] at h2
      obtain ⟨rfl, _⟩ := h2
      rw [hs, h1, List.append_assoc, List.cons_append]
      exact reject pfx (c'' ++ q0) 58 (Or.inl rfl) hpfx (fun _ => hjs)

theorem js_rejected (dec : Bytes → Bytes) (hdec : DecLaw dec) (s : Bytes)
    (h : whatwgScheme (dec s) = some javascript) : isSafeURL s = false := by
  obtain ⟨pfx, q, hds, hpfx, hjs⟩ := whatwg_js_shape _ h
  exact shape_rejected dec hdec s pfx q hds hpfx hjs

theorem js_rejected_runes (dec : Bytes → Bytes) (hdec : DecLaw dec) (s : Bytes)
    (h : whatwgScheme (Utf8.decodeRunes (dec s)) = some javascript) : isSafeURL s = false := by
  obtain ⟨pfx, q, hds, hpfx, hjs⟩ := whatwg_js_shape _ h
  have hascii : ∀ b ∈ pfx ++ [58], b < 128 := by
    intro b hb
    rcases List.mem_append.1 hb with hb | hb
    · rcases hpfx b hb with h1 | h1
      · omega
      · simp only [isAlpha, isLowerAlpha, isUpperAlpha, Bool.or_eq_true, Bool.and_eq_true, decide_eq_true_eq] at h1
        omega
    · simp at hb; omega
  obtain ⟨x', hx'⟩ := Utf8.runes_ascii_prefix (pfx ++ [58]) hascii (dec s) q (by simpa using hds)
  exact shape_rejected dec hdec s pfx x' (by simpa using hx') hpfx hjs

/-- clause 2: whenever `s` itself is returned, a WHATWG URL parser (leading/trailing C0 control or space
    stripped, TAB LF CR removed anywhere, scheme compared case-insensitively) finds no `javascript`
    scheme in `s`, nor in `s` after one round of character-reference decoding — for EVERY decoder that
    copies the text before the first '&' unchanged (`DecLaw`). -/
theorem C11_safe (dec : Bytes → Bytes) (hdec : DecLaw dec) (s : Bytes) (h : urlSanitized s = s) :
    whatwgScheme s ≠ some javascript ∧ whatwgScheme (dec s) ≠ some javascript := by
  have hsafe := returned_isSafe s h
  constructor
  · intro hj
    have := js_rejected id ⟨rfl, fun _ _ _ => rfl⟩ s hj
    rw [hsafe] at this; cases this
  · intro hj
    have := js_rejected dec hdec s hj
    rw [hsafe] at this; cases this

/-- clause 2 in the code-point reading (what a parser working on decoded code points sees) -/
theorem C11_safe_runes (dec : Bytes → Bytes) (hdec : DecLaw dec) (s : Bytes) (h : urlSanitized s = s) :
    whatwgScheme (Utf8.decodeRunes s) ≠ some javascript ∧
    whatwgScheme (Utf8.decodeRunes (dec s)) ≠ some javascript := by
  have hsafe := returned_isSafe s h
  constructor
  · intro hj
    have := js_rejected_runes id ⟨rfl, fun _ _ _ => rfl⟩ s hj
    rw [hsafe] at this; cases this
  · intro hj
    have := js_rejected_runes dec hdec s hj
    rw [hsafe] at this; cases this

/-- the concrete decoder of Spec/UrlScheme (numeric references and a list of named ones) obeys the law -/
theorem decodeRefs_law : DecLaw decodeRefs := by
  refine ⟨rfl, ?_⟩
  intro a b ha
  unfold decodeRefs
  induction a with
  | nil => rfl
  | cons c t ih =>
    have hc : (c == 38) = false := by
      simp only [beq_eq_false_iff_ne]; intro h; exact ha (by simp [h])
    simp only [List.cons_append, decodeGo, hc]
    rw [ih (fun hm => ha (by simp [hm]))]
    rfl

theorem C11_safe_charref (s : Bytes) (h : urlSanitized s = s) :
    whatwgScheme s ≠ some javascript ∧ whatwgScheme (decodeRefs s) ≠ some javascript :=
  C11_safe decodeRefs decodeRefs_law s h

/-- clause 3a: a string that starts with an ASCII scheme `[A-Za-z0-9+.-]+` then ':' whose lower-cased
    form is not `javascript` is returned unchanged -/
theorem C11_complete_scheme (s sch : Bytes) (h : asciiSchemePrefix s = some sch)
    (hne : sch.map asciiLower ≠ javascript) : urlSanitized s = s := by
  unfold asciiSchemePrefix at h
  obtain ⟨a, r, hs, hta, hr, ha, _⟩ := Proofs.UrlSet.span_split isAsciiSchemeByte s
  rw [hta, hr] at h
  have hsafe : isSafeURL s = true := by
    cases a with
    | nil => simp at h
    | cons c0 a' =>
      cases r with
      | nil => simp at h
      | cons d r' =>
        by_cases hd : d = 58
        · subst hd
          simp only [Option.some.injEq] at h
          subst h
          rw [hs]
          exact accept_scheme a' r' c0 ha hne
        · exfalso
          revert h
          split
          · next c1 sch1 r1 e1 e2 => simp only [List.cons.injEq] at e2; exact absurd e2.1 hd
          · simp
  simp [urlSanitized, hsafe]

/-- clause 3b: a string in which ':' and '&' occur only after the first '/', '?' or '#' is returned unchanged -/
theorem C11_complete_relative (s : Bytes) (h : noColonAmpBeforeFirstDelim s = true) : urlSanitized s = s := by
  simp [urlSanitized, accept_relative s h]

theorem C11_complete (s : Bytes) :
    (∀ sch, asciiSchemePrefix s = some sch → sch.map asciiLower ≠ javascript → urlSanitized s = s) ∧
    (noColonAmpBeforeFirstDelim s = true → urlSanitized s = s) :=
  ⟨fun sch h hne => C11_complete_scheme s sch h hne, C11_complete_relative s⟩

/-! ### non-vacuity (explicit byte lists; evaluated by the kernel) -/

-- "javascript:alert(1)" is replaced
example : urlSanitized [106,97,118,97,115,99,114,105,112,116,58,97,108,101,114,116,40,49,41] = innocuous := by decide +kernel
-- "JaVaScRiPt:x" is replaced
example : urlSanitized [74,97,86,97,83,99,82,105,80,116,58,120] = innocuous := by decide +kernel
-- "java\tscript:x": the WHATWG parser sees javascript; the sanitizer replaces it
example : whatwgScheme [106,97,118,97,9,115,99,114,105,112,116,58,120] = some javascript := by decide +kernel
example : urlSanitized [106,97,118,97,9,115,99,114,105,112,116,58,120] = innocuous := by decide +kernel
-- " javascript:x" (leading space), "\x01javascript:x"
example : whatwgScheme [32,106,97,118,97,115,99,114,105,112,116,58,120] = some javascript := by decide +kernel
example : urlSanitized [32,106,97,118,97,115,99,114,105,112,116,58,120] = innocuous := by decide +kernel
example : urlSanitized [1,106,97,118,97,115,99,114,105,112,116,58,120] = innocuous := by decide +kernel
-- "javascript&#58;x" and "javascript&colon;x": javascript after one round of decoding; replaced
example : whatwgScheme (decodeRefs [106,97,118,97,115,99,114,105,112,116,38,35,53,56,59,120]) = some javascript := by decide +kernel
example : urlSanitized [106,97,118,97,115,99,114,105,112,116,38,35,53,56,59,120] = innocuous := by decide +kernel
example : whatwgScheme (decodeRefs [106,97,118,97,115,99,114,105,112,116,38,99,111,108,111,110,59,120]) = some javascript := by decide +kernel
example : urlSanitized [106,97,118,97,115,99,114,105,112,116,38,99,111,108,111,110,59,120] = innocuous := by decide +kernel
-- "javascrİpt:x" (U+0130 = C4 B0): Go lower-cases İ to i, so it is replaced (harmless over-rejection)
example : urlSanitized [106,97,118,97,115,99,114,196,176,112,116,58,120] = innocuous := by decide +kernel
-- "https://x/", "mailto:a", "/a:b", "a/b?c:d&e", "" are returned unchanged
example : urlSanitized [104,116,116,112,115,58,47,47,120,47] = [104,116,116,112,115,58,47,47,120,47] := by decide +kernel
example : urlSanitized [109,97,105,108,116,111,58,97] = [109,97,105,108,116,111,58,97] := by decide +kernel
example : urlSanitized [47,97,58,98] = [47,97,58,98] := by decide +kernel
example : urlSanitized [97,47,98,63,99,58,100,38,101] = [97,47,98,63,99,58,100,38,101] := by decide +kernel
example : urlSanitized [] = [] := by decide +kernel
-- "a&b" (an '&' before any delimiter) is replaced: the second completeness clause is sharp
example : urlSanitized [97,38,98] = innocuous := by decide +kernel
example : asciiSchemePrefix [72,84,84,80,58,47] = some [72,84,84,80] := by decide +kernel
example : noColonAmpBeforeFirstDelim [97,47,98,63,99,58,100,38,101] = true := by decide +kernel

end SafeHtml.Props.C11
