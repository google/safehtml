/-
C07 — definitions freeze at first execution; clones are isolated.
Theorems over the API state machine `Api.step` (Model/Tmpl/Step.lean), whose agreement with the real
package on generated histories is checked on every run (correspondence stream tmpl.hist.C07).
-/
import SafeHtml.Proofs.ApiLemmas
import SafeHtml.Model.Tmpl.PrefixLite
namespace SafeHtml.Props.C07
open SafeHtml SafeHtml.Model.Tmpl SafeHtml.Proofs.ConcApi

/-- the name space of the template a handle denotes -/
def nsOf (w : World) (h : Nat) : Option Nat := (w.obj h).map (·.2.ns)

def escapedNs (w : World) (n : Nat) : Bool := (w.ns n).escaped

/-- Parse gate. Once the set of `h` has executed anything, `Parse` on `h` fails and changes nothing. -/
theorem C07_parse_gate (w : World) (h : Nat) (defs : List Tree) (n : Nat)
    (hn : nsOf w h = some n) (he : escapedNs w n = true) :
    Api.step w (.parse h defs) = (w, .done "err:parse-gate") := by
  unfold nsOf at hn
  cases ho : w.obj h with
  | none => simp [ho] at hn
  | some p =>
    obtain ⟨oid, o⟩ := p
    simp only [ho, Option.map_some, Option.some.injEq] at hn
    simp only [Api.step, apiParse, ho]
    unfold escapedNs at he
    rw [← hn] at he
    simp [he]

/-- Every Execute op freezes the set of its receiver, whatever its outcome. -/
theorem C07_exec_freezes (w : World) (h : Nat) (d : Value) (n : Nat) (hn : nsOf w h = some n) :
    escapedNs (apiExecute w h d).1 n = true := by
  unfold nsOf at hn
  rw [apiExecute_crit]
  show ((critExecute w h).1.ns n).escaped = true
  rcases critExecute_cases w h with ⟨ho, _⟩ | ⟨_, o, ho, ⟨_, hc, _⟩ | ⟨_, _, _, _, _, he, hc, _⟩⟩ <;>
    rw [ho] at hn <;> cases hn <;> rw [hc]
  · rw [ns_setNs_same]
  · rw [escapeTemplateTop_escaped _ _ _ _ _ he, ns_setNs_same]

/-- `ExecuteTemplate` freezes it for any name, defined or not -/
theorem C07_execT_freezes (w : World) (h : Nat) (name : String) (d : Value) (n : Nat) (hn : nsOf w h = some n) :
    escapedNs (apiExecuteTemplate w h name d).1 n = true := by
  unfold nsOf at hn
  rw [apiExecuteTemplate_crit]
  show ((critExecuteTemplate w h name).1.ns n).escaped = true
  rcases critExecuteTemplate_cases w h name with
    ⟨ho, _⟩ | ⟨_, o, ho, ⟨_, hc, _⟩ | ⟨_, _, _, _, _, _, _, _, _, he, hc, _⟩⟩ <;>
    rw [ho] at hn <;> cases hn <;> rw [hc]
  · rw [ns_setNs_same]
  · rw [escapeTemplateTop_escaped _ _ _ _ _ he, ns_setNs_same]

/-- Clone refuses executed templates, and then changes nothing. -/
theorem C07_clone_refuses_after_exec (w : World) (h h' oid : Nat) (o : TObj)
    (ho : w.obj h = some (oid, o)) (hs : o.status ≠ .unset) :
    Api.step w (.clone h h') = (w, .done "err:clone") := by
  simp only [Api.step, apiClone, ho]
  simp [hs]

/-- `Parse` on an executed set leaves the flag set (it is refused, `C07_parse_gate`) -/
theorem C07_parse_keeps_escaped (w : World) (h : Nat) (defs : List Tree) (n : Nat)
    (he : escapedNs w n = true) (hn : nsOf w h = some n) :
    escapedNs (Api.step w (.parse h defs)).1 n = true := by
  rw [C07_parse_gate w h defs n hn he]; exact he

/-! ### statement of the full property (history form) and what is proved of it

The property: along every history, after the first Execute* on a set (i) every Parse* on a template of
that set fails and (ii) every later Execute* result equals the result of the same call on a fresh set built
from the definition calls made before that first execution; and for every successful Clone, no later op on
one side changes a result of the other side.

Proved above: (i) as `C07_parse_gate` + `C07_exec_freezes` (for `Execute`; `ExecuteTemplate` sets the flag in
the same way, `C07_execT_freezes`), the Clone refusal; the frame property of Clone is
`Proofs.ApiFrames.C07_clone_isolated`. (ii) is not proved; it and the frame property are checked on every run by
the oracle (`Oracle.Hist.c07`: `res = frozen`, parse-after-exec, clone-after-exec) on the REAL results. Known
deviation of the real code from (ii):
`t.New(name)` after the first execution replaces the template of that name (signature `new-after-exec`).
-/

/-- non-vacuity: a world in which the hypotheses of `C07_parse_gate` hold -/
example : nsOf (Api.step (Api.step { v := liteValidators } (.new 0 "t")).1 (.exec 0 .noValue)).1 0 = some 0 ∧
    escapedNs (Api.step (Api.step { v := liteValidators } (.new 0 "t")).1 (.exec 0 .noValue)).1 0 = true := by
  decide +kernel

end SafeHtml.Props.C07
