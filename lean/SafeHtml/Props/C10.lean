/-
C10 — `HTMLEscaped` yields inert, interchange-valid, round-tripping text for every byte string; `HTMLConcat` is
plain concatenation. First the obligations on the regenerated tables and the lemmas that tie the model's escaper
to the spec's coercion (Spec/Esc, Spec/Interchange), then one theorem per clause of the property text.
No well-formedness hypothesis on the bytes is needed (a "byte" ≥ 256 decodes like an invalid byte).
-/
import SafeHtml.Proofs.Html
namespace SafeHtml.Props.C10
open SafeHtml SafeHtml.Utf8 SafeHtml.Model SafeHtml.Spec SafeHtml.HtmlFacts
open SafeHtml.Generated.Tables

/-! ### obligations on the regenerated range tables (break when html.go's `controlChar` or the
    merged table changes; evaluating `RangeCover.firstUncovered` on the same arguments then gives the first
    offending rune) -/

/-- every code point the property forbids is in `controlChar ∪ unicode.Noncharacter_Code_Point` -/
theorem gen_tables_cover_bad : RangeCover.covers (controlChar ++ nonCharacter) badRanges = true := by decide

/-- and nothing else is (the coercion replaces exactly those code points) -/
theorem gen_tables_within_bad : RangeCover.covers badRanges (controlChar ++ nonCharacter) = true := by decide

example : RangeCover.firstUncovered (controlChar ++ nonCharacter) badRanges = none := by decide +kernel

theorem isControlOrNonChar_eq (r : Nat) : isControlOrNonChar r = isBadRune r := by
  unfold isControlOrNonChar
  rw [model_inRanges, model_inRanges, ← RangeCover.inRanges_append, isBadRune_ranges, Bool.eq_iff_iff]
  exact ⟨RangeCover.covers_sound _ _ gen_tables_within_bad r, RangeCover.covers_sound _ _ gen_tables_cover_bad r⟩

theorem coerce_eq_ref (s : Bytes) : coerceToUTF8InterchangeValid s = refCoerce s := by
  unfold coerceToUTF8InterchangeValid refCoerce coerceRunes coerceRune
  simp only [isControlOrNonChar_eq, runeError]

theorem htmlEscaped_eq (s : Bytes) : htmlEscaped s = htmlEscapeString (refCoerce s) := by
  unfold htmlEscaped; rw [coerce_eq_ref]

theorem coerced_good (s : Bytes) : ∀ r ∈ (decodeRunes s).map coerceRune, isScalar r = true ∧ isBadRune r = false := by
  intro r hr
  obtain ⟨x, hx, rfl⟩ := List.mem_map.1 hr
  unfold coerceRune
  by_cases hb : isBadRune x = true
  · simp only [hb, if_true]; decide
  · simp only [hb]
    exact ⟨decodeRunes_scalar s x hx, by simpa using hb⟩

theorem escRune_good (r : Nat) (h : isScalar r = true ∧ isBadRune r = false) :
    ∀ x ∈ escRune r, isScalar x = true ∧ isBadRune x = false := by
  unfold escRune
  repeat' split
  all_goals (try (intro x hx; simp only [List.mem_cons, List.not_mem_nil, or_false] at hx;
                  rcases hx with rfl | rfl | rfl | rfl | rfl <;> decide))
  intro x hx
  simp only [List.mem_singleton] at hx
  subst hx; exact h

def outRunes (s : Bytes) : List Nat := ((decodeRunes s).map coerceRune).flatMap escRune

theorem htmlEscaped_runes (s : Bytes) : htmlEscaped s = encodeRunes (outRunes s) := by
  rw [htmlEscaped_eq]; unfold refCoerce outRunes
  exact htmlEscapeString_encodeRunes _

theorem outRunes_good (s : Bytes) : ∀ r ∈ outRunes s, isScalar r = true ∧ isBadRune r = false := by
  intro r hr
  simp only [outRunes, List.mem_flatMap] at hr
  obtain ⟨x, hx, hrx⟩ := hr
  exact escRune_good x (coerced_good s x hx) r hrx

/-! ### property theorems (every byte string `s`) -/

/-- clause 4 (in element content, RCDATA content or a quoted attribute value the text never ends the enclosing
    construct), stated as membership in `Esc`: those tokenizer states are left only on '<' or the matching quote.
    The tokenizer itself (Spec.HtmlTok) belongs to C01 and is not re-stated here. -/
theorem C10_inert (s : Bytes) : Esc (htmlEscaped s) = true := by
  rw [htmlEscaped_eq]
  apply Esc_htmlEscapeString
  unfold refCoerce
  apply zero_notin_encodeRunes
  intro h0
  have := (coerced_good s 0 h0).2
  simp [isBadRune] at this

/-- clause 1: none of `< > " '` (nor NUL), and every '&' is the first byte of one of the five references -/
theorem C10_no_specials (s : Bytes) :
    (∀ b ∈ htmlEscaped s, b ≠ 60 ∧ b ≠ 62 ∧ b ≠ 34 ∧ b ≠ 39 ∧ b ≠ 0) ∧
    (∀ pre post, htmlEscaped s = pre ++ 38 :: post → (refAt post).isSome = true) := by
  refine ⟨Esc_mem _ (C10_inert s), ?_⟩
  intro pre post h
  have := C10_inert s
  rw [h] at this
  exact Esc_amp pre post this

/-- clause 2: the output is structurally valid UTF-8 (no decoding error; it is the encoding of its own
    code points), and none of its code points is a surrogate, out of range, NUL, a C0/C1 control other
    than TAB LF FF CR, DEL, or a noncharacter -/
theorem C10_interchange_valid (s : Bytes) :
    validUtf8 (htmlEscaped s) = true ∧
    encodeRunes (decodeRunes (htmlEscaped s)) = htmlEscaped s ∧
    ∀ r ∈ decodeRunes (htmlEscaped s), isScalar r = true ∧ isBadRune r = false := by
  have hs : ∀ r ∈ outRunes s, isScalar r = true := fun r hr => (outRunes_good s r hr).1
  rw [htmlEscaped_runes, decodeRunes_encodeRunes _ hs]
  exact ⟨validUtf8_encodeRunes _ hs, rfl, outRunes_good s⟩

/-- clause 3: unescaping (the five references) gives the reference coercion of `s`: `s` with every invalid
    byte and every forbidden code point — and nothing else — replaced by U+FFFD. Stated with the spec unescaper
    `unescape5`, which decodes exactly the five references the escaper emits and keeps any other '&' (none occurs,
    by `C10_no_specials`); the harness also compares Go's `html.UnescapeString` of the real output with `refCoerce`. -/
theorem C10_roundtrip (s : Bytes) : unescape5 (htmlEscaped s) = refCoerce s := by
  rw [htmlEscaped_eq, unescape5_htmlEscapeString]

/-- clause 5: HTMLConcat is plain concatenation; concatenating inert texts gives an inert text -/
theorem C10_concat (hs : List Bytes) :
    htmlConcat hs = hs.flatten ∧ ((∀ h ∈ hs, Esc h = true) → Esc (htmlConcat hs) = true) :=
  ⟨rfl, Esc_flatten hs⟩

/-! ### non-vacuity (explicit byte lists; kernel evaluation) -/

-- `<a href="x">&'` ↦ `&lt;a href=&#34;x&#34;&gt;&amp;&#39;`
example : htmlEscaped [60, 97, 34, 62, 38, 39] =
    [38,108,116,59, 97, 38,35,51,52,59, 38,103,116,59, 38,97,109,112,59, 38,35,51,57,59] := by decide +kernel
-- NUL, U+001F, DEL, U+0080 (C2 80), U+FDD0 (EF B7 90), U+10FFFF (F4 8F BF BF), a lone 0xFF, a surrogate (ED A0 80): all U+FFFD
example : htmlEscaped [0] = [239, 191, 189] := by decide +kernel
example : htmlEscaped [31] = [239, 191, 189] := by decide +kernel
example : htmlEscaped [127] = [239, 191, 189] := by decide +kernel
example : htmlEscaped [194, 128] = [239, 191, 189] := by decide +kernel
example : htmlEscaped [239, 183, 144] = [239, 191, 189] := by decide +kernel
example : htmlEscaped [244, 143, 191, 191] = [239, 191, 189] := by decide +kernel
example : htmlEscaped [255] = [239, 191, 189] := by decide +kernel
example : htmlEscaped [237, 160, 128] = [239, 191, 189, 239, 191, 189, 239, 191, 189] := by decide +kernel
-- TAB LF FF CR SP, U+00A0 (C2 A0) and U+1F600 (F0 9F 98 80) are kept
example : htmlEscaped [9, 10, 12, 13, 32] = [9, 10, 12, 13, 32] := by decide +kernel
example : htmlEscaped [194, 160, 240, 159, 152, 128] = [194, 160, 240, 159, 152, 128] := by decide +kernel
-- Esc rejects a bare '&', an unterminated reference and a quote
example : Esc [97, 38, 98] = false := by decide +kernel
example : Esc [38, 97, 109, 112] = false := by decide +kernel
example : Esc [39] = false := by decide +kernel
example : Esc [38, 97, 109, 112, 59, 38, 35, 51, 57, 59] = true := by decide +kernel
example : unescape5 [38, 97, 109, 112, 59, 108, 116, 59] = [38, 108, 116, 59] := by decide +kernel
example : isBadRune 0x1F = true ∧ isBadRune 0x9F = true ∧ isBadRune 0x7FFFF = true ∧ isBadRune 0xFDEF = true
    ∧ isBadRune 0xFDF0 = false ∧ isBadRune 0x20 = false ∧ isBadRune 0xFFFD = false := by decide +kernel

end SafeHtml.Props.C10
