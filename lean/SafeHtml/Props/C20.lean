/-
C20 — `TrustedSourceFromConstantDir(dir, src, filename)` returns an error, or the cleaned join of dir and src itself,
or a direct child of it (no path separator, no list separator, not ".."). Here: the obligations on the regenerated
facts (`gen_*`), the model with those facts resolved (`model_eq`, `model_some`, `accepted_name`), the property
theorems and examples; the lemmas about `Spec.Path.clean` and `join` are in Proofs/Path.lean.
Paths are byte lists, GOOS=linux (Separator 47 '/', ListSeparator 58 ':').
-/
import SafeHtml.Model.TrustedSource
import SafeHtml.Proofs.Path
namespace SafeHtml.Props.C20
open SafeHtml SafeHtml.Model SafeHtml.Spec.Path

/-! ### Obligations on the regenerated facts (break when trustedsource.go is edited) -/

/-- the scan is for exactly the separator and the list separator of the platform (both ASCII, which
    is what makes the byte-level model of `strings.IndexAny` exact) -/
theorem gen_indexAnyRunes : Generated.TrustedSource.indexAnyRunes = [sepByte, listSepByte] := by decide

/-- the special name is ".." -/
theorem gen_specialName : Generated.TrustedSource.specialName = dotdot := by decide

/-- the result is `filepath.Join(dir, src, filename)` in that order -/
theorem gen_joinArgs : Generated.TrustedSource.joinArgs = [0, 1, 2] := by decide

/-- the model, with the generated facts resolved -/
theorem model_eq (dir src f : Bytes) :
    trustedSourceFromConstantDir dir src f =
      if f.any (fun b => b == 47 || b == 58) then none
      else if f = dotdot then none
      else some (join [dir, src, f]) := by
  unfold trustedSourceFromConstantDir indexAnyHit filepathJoin
  rw [gen_indexAnyRunes, gen_specialName, gen_joinArgs]
  simp [tsArg, sepByte, listSepByte]

/-- a call succeeds exactly on a filename without separator or list separator other than "..",
    and then returns `filepath.Join(dir, src, filename)` -/
theorem model_some (dir src f r : Bytes) :
    trustedSourceFromConstantDir dir src f = some r ↔
      (47 ∉ f ∧ 58 ∉ f ∧ f ≠ dotdot) ∧ r = join [dir, src, f] := by
  have hany : f.any (fun b => b == 47 || b == 58) = true ↔ 47 ∈ f ∨ 58 ∈ f := by
    simp only [List.any_eq_true, Bool.or_eq_true, beq_iff_eq]
    exact ⟨fun ⟨x, hx, e⟩ => e.elim (fun e => .inl (e ▸ hx)) (fun e => .inr (e ▸ hx)),
      fun h => h.elim (fun h => ⟨47, h, .inl rfl⟩) (fun h => ⟨58, h, .inr rfl⟩)⟩
  rw [model_eq]
  by_cases h1 : f.any (fun b => b == 47 || b == 58) = true
  · have := hany.1 h1
    simp only [h1, if_true, reduceCtorEq, false_iff]
    rintro ⟨⟨a, b, _⟩, _⟩
    exact this.elim a b
  · have := not_or.1 (mt hany.2 h1)
    by_cases h2 : f = dotdot
    · simp [h2]
    · simp [h1, h2, this, eq_comm]

/-- what the two guards let through: "", "." or a plain name -/
theorem accepted_name (f : Bytes) (h47 : 47 ∉ f) (h58 : 58 ∉ f) (h2 : f ≠ dotdot) :
    f = [] ∨ f = dot ∨ plainName f = true := by
  by_cases he : f = []
  · exact Or.inl he
  by_cases hd : f = dot
  · exact Or.inr (Or.inl hd)
  · exact Or.inr (Or.inr ((plainName_iff f).2 ⟨he, hd, h2, h47, h58⟩))

/-! ### Property theorems -/

/-- A successful call returns `Join(dir, src)` itself (filename ""), its cleaned form
    (filename "."; differs from `Join(dir, src)` only when dir and src are both empty: "" vs "."),
    or the direct child named `f` of it, and then `f` is a plain name: not "", ".", "..", no '/', no ':'.
    `child` treats the bases "", "." (child = f) and "/" (child = "/f") correctly. -/
theorem C20 (dir src f r : Bytes) (h : trustedSourceFromConstantDir dir src f = some r) :
    r = join [dir, src] ∨ r = clean (join [dir, src]) ∨
      (r = child (join [dir, src]) f ∧ f ≠ [] ∧ f ≠ dot ∧ f ≠ dotdot ∧ 47 ∉ f ∧ 58 ∉ f) := by
  obtain ⟨⟨h47, h58, h2⟩, rfl⟩ := (model_some dir src f r).1 h
  rcases accepted_name f h47 h58 h2 with rfl | rfl | hp
  · exact Or.inl (join_append_empty [dir, src])
  · exact Or.inr (Or.inl (join_append_dot [dir, src]))
  · exact Or.inr (Or.inr ⟨join_append_plain [dir, src] f hp, (plainName_iff f).1 hp⟩)

/-- With the base written as `Clean(Join(dir, src))` (DESIGN §7): for a non-empty base the
    two are equal (`clean_idem`); for dir = src = "" the base is "" and its cleaned form "." — both
    name the directory the path is evaluated in, and `child` of either is `f`. -/
theorem C20_cleanBase (dir src f r : Bytes) (h : trustedSourceFromConstantDir dir src f = some r) :
    r = join [dir, src] ∨ r = clean (join [dir, src]) ∨
      (r = child (clean (join [dir, src])) f ∧ plainName f = true) := by
  rcases C20 dir src f r h with h1 | h1 | ⟨h1, h2⟩
  · exact Or.inl h1
  · exact Or.inr (Or.inl h1)
  · refine Or.inr (Or.inr ⟨?_, (plainName_iff f).2 h2⟩)
    rw [h1]
    rcases join_cases [dir, src] with hb | ⟨p, _, hb⟩
    · rw [hb]
      have : clean [] = dot := by decide
      rw [this]; simp [child]
    · rw [hb, clean_idem]

/-- a successful result is `filepath.Join(dir, src, filename)` -/
theorem result_eq (dir src f r : Bytes) (h : trustedSourceFromConstantDir dir src f = some r) :
    r = join [dir, src, f] :=
  ((model_some dir src f r).1 h).2

/-- the statement exactly as written in DESIGN §7 (`r = Clean(Join(dir,src))` or a child of it) holds
    with ONE exception, which is harmless: dir, src and filename
    all empty give the empty TrustedSource "" (`filepath.Join` returns "" and not "." then). -/
theorem C20_design (dir src f r : Bytes) (h : trustedSourceFromConstantDir dir src f = some r) :
    (dir = [] ∧ src = [] ∧ f = [] ∧ r = []) ∨ r = clean (join [dir, src]) ∨
      (r = child (clean (join [dir, src])) f ∧ plainName f = true) := by
  rcases C20_cleanBase dir src f r h with h1 | h1 | h1
  · rcases join_cases [dir, src] with hb | ⟨p, _, hb⟩
    · left
      have hr : r = [] := by rw [h1, hb]
      have := (join_eq_nil_iff [dir, src, f]).1 (by rw [← result_eq dir src f r h, hr])
      exact ⟨this dir (by simp), this src (by simp), this f (by simp), hr⟩
    · right; left; rw [h1, hb, clean_idem]
  · exact Or.inr (Or.inl h1)
  · exact Or.inr (Or.inr h1)

/-- A filename with a separator or a list separator, or the name "..", is an error,
    whatever dir and src are. -/
theorem C20_rejects (dir src f : Bytes) (h : 47 ∈ f ∨ 58 ∈ f ∨ f = dotdot) :
    trustedSourceFromConstantDir dir src f = none := by
  cases hr : trustedSourceFromConstantDir dir src f with
  | none => rfl
  | some r =>
    obtain ⟨⟨h47, h58, hdd⟩, _⟩ := (model_some dir src f r).1 hr
    exact absurd h (by simp [h47, h58, hdd])

/-- the converse (nothing else is rejected): "", "." and every plain name are accepted -/
theorem C20_accepts (dir src f : Bytes) (h : f = [] ∨ f = dot ∨ plainName f = true) :
    trustedSourceFromConstantDir dir src f = some (join [dir, src, f]) := by
  refine (model_some dir src f _).2 ⟨?_, rfl⟩
  rcases h with rfl | rfl | h
  · decide
  · decide
  · obtain ⟨_, _, hdd, h47, h58⟩ := (plainName_iff f).1 h
    exact ⟨h47, h58, hdd⟩

/-- In path components (split on '/', empty and "." elements dropped): the
    components of the result are those of the constant directory `Join(dir, src)` followed by at
    most one more, which is the filename itself and is a plain name; rootedness is that of the
    constant directory. So the result cannot name a parent, a sibling or a nested directory, and
    cannot contain a second search-path entry. -/
theorem C20_components (dir src f r : Bytes) (h : trustedSourceFromConstantDir dir src f = some r) :
    ∃ extra : List Bytes, (extra = [] ∨ (extra = [f] ∧ plainName f = true)) ∧
      components r = components (join [dir, src]) ++ extra ∧
      isRooted r = isRooted (join [dir, src]) := by
  have base_cases : join [dir, src] = [] ∨ ∃ p, p ≠ [] ∧ join [dir, src] = clean p := join_cases _
  rcases C20 dir src f r h with h1 | h1 | ⟨h1, hne, hdot, hdd, h47, h58⟩
  · exact ⟨[], Or.inl rfl, by rw [h1, List.append_nil], by rw [h1]⟩
  · refine ⟨[], Or.inl rfl, ?_, ?_⟩
    · rw [h1, List.append_nil]
      rcases base_cases with hb | ⟨p, _, hb⟩
      · rw [hb]; decide
      · rw [hb, clean_idem]
    · rw [h1, isRooted_clean]
  · have hp : plainName f = true := (plainName_iff f).2 ⟨hne, hdot, hdd, h47, h58⟩
    have hk : keepElem f = true := (keepElem_iff f).2 ⟨hne, hdot⟩
    refine ⟨[f], Or.inr ⟨rfl, hp⟩, ?_, ?_⟩
    · rw [h1]
      rcases base_cases with hb | ⟨p, hpne, hb⟩
      · rw [hb]; simp only [child, true_or, if_true]
        rw [components_sepfree f h47 hk]; rfl
      · rw [hb, ← clean_append_plain p f hpne hp, components_clean, components_clean]
        unfold elements
        rw [isRooted_append p _ hpne, components_append_sep, components_sepfree f h47 hk,
          resolve_append_singleton _ _ _ hdd]
    · rw [h1]
      rcases base_cases with hb | ⟨p, hpne, hb⟩
      · rw [hb]; simp only [child, true_or, if_true]
        rw [isRooted_sepfree f h47]; rfl
      · rw [hb, ← clean_append_plain p f hpne hp, isRooted_clean, isRooted_clean,
          isRooted_append p _ hpne]

/-! ### Non-vacuity -/
-- dir "a/b/", src "", file "x.txt"  ↦  "a/b/x.txt"
example : trustedSourceFromConstantDir [97, 47, 98, 47] [] [120, 46, 116, 120, 116]
    = some [97, 47, 98, 47, 120, 46, 116, 120, 116] := by decide +kernel
-- dir "/", src "", file "x" ↦ "/x" ; dir "", src "", file "x" ↦ "x" ; dir ".", file "x" ↦ "x"
example : trustedSourceFromConstantDir [47] [] [120] = some [47, 120] := by decide +kernel
example : trustedSourceFromConstantDir [] [] [120] = some [120] := by decide +kernel
example : trustedSourceFromConstantDir [46] [] [120] = some [120] := by decide +kernel
-- dir "a/../..", src "b", file "..." ↦ "../b/..."
example : trustedSourceFromConstantDir [97, 47, 46, 46, 47, 46, 46] [98] [46, 46, 46]
    = some [46, 46, 47, 98, 47, 46, 46, 46] := by decide +kernel
-- file "", "." : the directory itself ; dir = src = "" : "" and "."
example : trustedSourceFromConstantDir [97, 47] [98] [] = some [97, 47, 98] := by decide +kernel
example : trustedSourceFromConstantDir [97, 47] [98] [46] = some [97, 47, 98] := by decide +kernel
example : trustedSourceFromConstantDir [] [] [] = some [] := by decide   -- the exception of C20_design
example : trustedSourceFromConstantDir [] [] [46] = some [46] := by decide +kernel
-- rejected: "..", "a/b", "/", "a:b", "../x"
example : trustedSourceFromConstantDir [97] [] [46, 46] = none := by decide +kernel
example : trustedSourceFromConstantDir [97] [] [97, 47, 98] = none := by decide +kernel
example : trustedSourceFromConstantDir [97] [] [47] = none := by decide +kernel
example : trustedSourceFromConstantDir [97] [] [97, 58, 98] = none := by decide +kernel
example : trustedSourceFromConstantDir [97] [] [46, 46, 47, 120] = none := by decide +kernel
-- Clean: "a//b/./c/../d/" ↦ "a/b/d" ; "/../a" ↦ "/a" ; "../../a/.." ↦ "../.." ; "" ↦ "."
example : clean [97, 47, 47, 98, 47, 46, 47, 99, 47, 46, 46, 47, 100, 47] = [97, 47, 98, 47, 100] := by decide +kernel
example : clean [47, 46, 46, 47, 97] = [47, 97] := by decide +kernel
example : clean [46, 46, 47, 46, 46, 47, 97, 47, 46, 46] = [46, 46, 47, 46, 46] := by decide +kernel
example : clean [] = [46] := by decide +kernel

end SafeHtml.Props.C20
